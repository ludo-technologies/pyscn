import PV.Proofs.CFGComplexityLemmas
/-!
`head_raise_run` (`head_raise`: the same of `procList`): after a `finally` body has been processed, the `finally` block has an edge to
a handler block of the enclosing context iff the body executes a `raise` while the `finally` block is still the current block
(`hrL fin = .raise`).  The induction over the builder's calls is `res_run`, its statement `Heads`.  First, what `St.hasSucc` is after
new edges (`hasSucc_append`), a framed call (`hasSucc_mono`), `edgeUnlessExit` and the conditional edges `conn` of
`finallyPropagation` (`hasSucc_conn`, `hasSucc_foldl_conn`).
-/
namespace PV.CFGFin
open PV.CFG PV.CFGSound

/-- `s` extends `s0` by edges none of which goes from `a` to a block of `H` -/
def NE (a : Nat) (H : List Nat) (s0 s : St) : Prop :=
  ∃ ne, s.edges = ne ++ s0.edges ∧ ∀ e ∈ ne, e.1 = a → e.2.1 ∉ H

section ne
variable {a : Nat} {H : List Nat} {s0 s s' : St}

theorem NE.refl (a : Nat) (H : List Nat) (s : St) : NE a H s s := NewE.refl _ s

theorem NE.trans {s1 s2 : St} (h1 : NE a H s0 s1) (h2 : NE a H s1 s2) : NE a H s0 s2 := NewE.trans h1 h2

theorem NE.eqE (h : NE a H s0 s) (he : s'.edges = s.edges) : NE a H s0 s' := NewE.of_edges_eq h he

theorem NE.edge (h : NE a H s0 s) {x y : Nat} {t : ETy} (hx : x = a → y ∉ H) : NE a H s0 (s.edge x y t) := NewE.edge h hx

theorem NE.eue (h : NE a H s0 s) {x y : Nat} {t : ETy} (hx : x = a → y ∉ H) : NE a H s0 (s.edgeUnlessExit x y t) := NewE.eue h hx

theorem NE.ext {c n : Nat} (h : NE a H s0 s) (j : Ext c n s s') (hc : c ≠ a) (hn : a < n) : NE a H s0 s' := by
  obtain ⟨ne, he, hne⟩ := j.edges
  refine h.trans ⟨ne, he, ?_⟩
  intro e hm hea
  rcases hne e hm with h1 | h1
  · exact absurd (h1.symm.trans hea) hc
  · omega

theorem hasSucc_append (ne : List (Nat × Nat × ETy)) (s0 s : St) (he : s.edges = ne ++ s0.edges) (a b : Nat) :
    s.hasSucc a b = (ne.any (fun x => x.1 == a && x.2.1 == b) || s0.hasSucc a b) := by
  unfold St.hasSucc
  rw [he, List.any_append]

theorem NE.hasSucc (h : NE a H s0 s) {b : Nat} (hb : b ∈ H) : s.hasSucc a b = s0.hasSucc a b := by
  obtain ⟨ne, he, hne⟩ := h
  rw [hasSucc_append ne s0 s he]
  have : ne.any (fun x => x.1 == a && x.2.1 == b) = false := by
    rw [List.any_eq_false]
    intro x hx hh
    simp only [Bool.and_eq_true, beq_iff_eq] at hh
    exact hne x hx hh.1 (hh.2 ▸ hb)
  rw [this, Bool.false_or]

theorem hasSucc_mono {c n : Nat} (j : Inv c n s s') {a b : Nat} (h : s.hasSucc a b = true) : s'.hasSucc a b = true := by
  obtain ⟨ne, he, _⟩ := j.edges
  rw [hasSucc_append ne s s' he, h, Bool.or_true]

end ne

theorem foldl_hasSucc (t : ETy) : ∀ (hs : List Nat) (s : St) (a b : Nat), (s.hasSucc a b = true ∨ (b ∈ hs ∧ a = s.cur)) →
    (hs.foldl (fun st h => st.edge st.cur h t) s).hasSucc a b = true
  | [], s, a, b, h => by
    rcases h with h | ⟨h, _⟩
    · exact h
    · cases h
  | x :: hs, s, a, b, h => by
    rw [List.foldl_cons]
    apply foldl_hasSucc t hs
    rcases h with h | ⟨h, rfl⟩
    · left; rw [hasSucc_edge, h, Bool.or_true]
    · rcases List.mem_cons.mp h with rfl | h
      · left; rw [hasSucc_edge]; simp
      · right; exact ⟨h, rfl⟩

theorem hasSucc_eue_ne (s : St) (a b : Nat) (t : ETy) (a' b' : Nat) (h : b ≠ b') :
    (s.edgeUnlessExit a b t).hasSucc a' b' = s.hasSucc a' b' := by
  rcases edgeUnlessExit_cases s a b t with ⟨_, h'⟩ | ⟨_, h'⟩ <;> rw [h']
  rw [hasSucc_edge]; simp [h]

theorem hasSucc_conn (fin : Nat) (s : St) (b : Nat) (t : ETy) (b' : Nat) :
    (conn fin s b t).hasSucc fin b' = (s.hasSucc fin b' || b == b') := by
  unfold conn; split
  · next h =>
    cases hb : b == b'
    · rw [Bool.or_false]
    · rw [← eq_of_beq hb, h]; rfl
  · rw [hasSucc_edge, beq_self_eq_true, Bool.true_and, Bool.or_comm]

theorem hasSucc_foldl_conn (fin b : Nat) : ∀ (l : List (Nat × ETy)) (s : St),
    (l.foldl (fun s bt => conn fin s bt.1 bt.2) s).hasSucc fin b = (s.hasSucc fin b || l.any (·.1 == b))
  | [], s => by rw [List.foldl_nil, List.any_nil, Bool.or_false]
  | x :: l, s => by rw [List.foldl_cons, hasSucc_foldl_conn fin b l, hasSucc_conn, List.any_cons, Bool.or_assoc]

theorem notin_of_le {H : List Nat} {n y : Nat} (hH : ∀ h ∈ H, h < n) (hy : n ≤ y) : y ∉ H := fun hh => Nat.not_lt.mpr hy (hH _ hh)
theorem own_ge {f x : Nat} (h : Own f f x) : f ≤ x := h.elim (fun h => Nat.le_of_eq h.symm) id

/-- `FH` ("`finally` head"): `st` is at the head of a `finally` body, with its own context `c0` on top of the fallback context `c` -/
structure FH (il : Bool) (st : St) (c0 c : Exc) (X : List Exc) : Prop where
  wf : WF st
  loops : il = true → st.loops ≠ []
  hx : st.excs = c0 :: c :: X
  hc0 : c0.processingFinally = true
  hc0f : c0.fin = some st.cur
  hnf : ∀ c' ∈ c :: X, c'.fin = none ∧ c'.processingFinally = false
  hex : exitB ∉ c.handlers
  hdisj : ∀ l ∈ st.loops, l.1 ∉ c.handlers ∧ l.2.1 ∉ c.handlers

/-- what the processing of a piece of code with head behaviour `r` does to the entry block -/
def Res (r : HR) (H : List Nat) (st s' : St) : Prop :=
  match r with
  | .stay => s'.edges = st.edges ∧ s'.cur = st.cur ∧ s'.next = st.next ∧ s'.loops = st.loops ∧ s'.excs = st.excs
  | .raise => ∀ h ∈ H, s'.hasSucc st.cur h = true
  | .left => NE st.cur H st s' ∧ st.next ≤ s'.cur

section leaf
variable {il : Bool} {st : St} {c0 c : Exc} {X : List Exc}

theorem FH.hlt (fh : FH il st c0 c X) : ∀ h ∈ c.handlers, h < st.next :=
  (fh.wf.excs c (by rw [fh.hx]; simp)).2

theorem FH.fresh (fh : FH il st c0 c X) {y : Nat} (hy : st.next ≤ y) : y ∉ c.handlers :=
  fun hh => by have := fh.hlt y hh; omega

theorem FH.tf (fh : FH il st c0 c X) {s1 : St} (hx1 : s1.excs = st.excs) : targetFinally s1 = none := by
  rw [targetFinally_eq, hx1, fh.hx, tfX_cons, fh.hc0]
  exact tfX_nofin fh.hnf

theorem FH.fb (fh : FH il st c0 c X) {s1 : St} (hx1 : s1.excs = st.excs) : fallbackExc s1 = some c := by
  unfold fallbackExc
  rw [hx1, fh.hx, List.find?_cons, fh.hc0]
  simp only [Bool.not_true]
  rw [List.find?_cons, (fh.hnf c (List.mem_cons_self ..)).2]
  rfl

theorem FH.tfRet (fh : FH il st c0 c X) {s1 : St} (hx1 : s1.excs = st.excs) (hc1 : s1.cur = st.cur) : targetFinallyRet s1 = none := by
  unfold targetFinallyRet
  rw [hx1, fh.hx, List.findSome?_eq_none_iff]
  intro x hx
  rcases List.mem_cons.mp hx with rfl | hx
  · rw [fh.hc0f, hc1]; simp
  · rw [(fh.hnf x hx).1]

theorem FH.tfLoop (fh : FH il st c0 c X) {s1 : St} (hx1 : s1.excs = st.excs) (d : Nat) : targetFinallyLoop s1 d = none := by
  unfold targetFinallyLoop
  rw [hx1, fh.hx, List.findSome?_eq_none_iff]
  intro x hx
  rcases List.mem_cons.mp (List.mem_of_mem_take hx) with rfl | hx
  · rw [fh.hc0]; rfl
  · rw [(fh.hnf x hx).1]; split <;> rfl

theorem raise_res (fh : FH il st c0 c X) (s e : Nat) : Res .raise c.handlers st (procRaise st s e) := by
  intro h hh
  rw [procRaise_eq]
  simp only
  rw [fh.tf (s1 := st.add st.cur s e .raise) rfl]
  simp only
  rw [fh.fb (s1 := st.add st.cur s e .raise) rfl]
  simp only
  have hpos : c.handlers.length > 0 := List.length_pos_of_mem hh
  rw [if_pos hpos]
  have := foldl_hasSucc .exc c.handlers (st.add st.cur s e .raise) st.cur h (.inr ⟨hh, rfl⟩)
  exact this

theorem add_res (s e : Nat) : Res .stay c.handlers st (st.add st.cur s e .other) :=
  ⟨rfl, rfl, rfl, rfl, rfl⟩

theorem brk_res (fh : FH il st c0 c X) (hil : il = true) (s e : Nat) : Res .left c.handlers st (procBrk st s e) := by
  rw [procBrk_eq]
  simp only
  have hl := fh.loops hil
  rcases hst : st.loops with _ | ⟨⟨hd, x, d⟩, rest⟩
  · exact absurd hst hl
  · have : (st.add st.cur s e .brk).loops = (hd, x, d) :: rest := hst
    rw [this]
    simp only
    rw [fh.tfLoop (s1 := st.add st.cur s e .brk) rfl]
    simp only
    refine ⟨((NE.refl _ _ st).edge (x := st.cur) (y := x) (t := .brk) (fun _ => ?_)).eqE rfl, Nat.le_refl _⟩
    exact (fh.hdisj (hd, x, d) (by rw [hst]; exact List.mem_cons_self ..)).2

theorem cont_res (fh : FH il st c0 c X) (hil : il = true) (s e : Nat) : Res .left c.handlers st (procCont st s e) := by
  rw [procCont_eq]
  simp only
  have hl := fh.loops hil
  rcases hst : st.loops with _ | ⟨⟨hd, x, d⟩, rest⟩
  · exact absurd hst hl
  · have : (st.add st.cur s e .cont).loops = (hd, x, d) :: rest := hst
    rw [this]
    simp only
    rw [fh.tfLoop (s1 := st.add st.cur s e .cont) rfl]
    simp only
    refine ⟨((NE.refl _ _ st).edge (x := st.cur) (y := hd) (t := .cont) (fun _ => ?_)).eqE rfl, Nat.le_refl _⟩
    exact (fh.hdisj (hd, x, d) (by rw [hst]; exact List.mem_cons_self ..)).1

end leaf

structure IN (H : List Nat) (a n : Nat) (s0 s : St) : Prop where
  inv : Inv a n s0 s
  ne : NE a H s0 s

section inchain
variable {H : List Nat} {a n : Nat} {s0 s s' : St}

theorem IN.bump (i : IN H a n s0 s) : IN H a n s0 (bump s) := ⟨i.inv.bump, i.ne.eqE rfl⟩
theorem IN.bumpU (i : IN H a n s0 s) : IN H a n s0 (bumpU s) := ⟨i.inv.bumpU, i.ne.eqE rfl⟩
theorem IN.bumpN (i : IN H a n s0 s) (k : Nat) : IN H a n s0 (bumpN s k) := ⟨i.inv.bumpN k, i.ne.eqE rfl⟩
theorem IN.setCur (i : IN H a n s0 s) {x : Nat} (hx : Own a n x) (hlt : x < s.next) : IN H a n s0 (setCur s x) :=
  ⟨i.inv.setCur hx hlt, i.ne.eqE rfl⟩
theorem IN.edge (i : IN H a n s0 s) {x y : Nat} {t : ETy} (ha : Own a n x) (hlt : x < s.next) (hb : y < s.next)
    (hx : x = a → y ∉ H) : IN H a n s0 (s.edge x y t) := ⟨i.inv.edge ha hlt hb, i.ne.edge hx⟩
theorem IN.edgeUnlessExit (i : IN H a n s0 s) {x y : Nat} {t : ETy} (ha : Own a n x) (hlt : x < s.next) (hb : y < s.next)
    (hx : x = a → y ∉ H) : IN H a n s0 (s.edgeUnlessExit x y t) := ⟨i.inv.edgeUnlessExit ha hlt hb, i.ne.eue hx⟩
theorem IN.setExcs (i : IN H a n s0 s) {x : List Exc}
    (h : ∀ c ∈ x, (∀ f, c.fin = some f → f < s.next) ∧ ∀ h ∈ c.handlers, h < s.next) : IN H a n s0 (setExcs s x) :=
  ⟨i.inv.setExcs h, i.ne.eqE rfl⟩
/-- a piece of processing that only touches fresh blocks -/
theorem IN.fresh (i : IN H a n s0 s) (j : Inv n n s s') (ha : a < n) : IN H a n s0 s' :=
  ⟨i.inv.trans (j.mono (fun x hx => .inr (by rcases hx with h | h <;> omega))), i.ne.ext j.ext (by omega) ha⟩

end inchain

section compound
variable {H : List Nat}

/-- a compound statement leaves its entry block only by edges into fresh blocks, and the current block is fresh afterwards: the state
`p` in which its first part is entered extends `st` by the edge `st.cur → st.next` and by edges out of fresh blocks, and everything
after `p` is framed by the fresh blocks -/
theorem left_of_pre (st : St) (w : WF st) (hH : ∀ h ∈ H, h < st.next) {p s' : St} (ne : List Edge)
    (hpe : p.edges = ne ++ (st.cur, st.next, ETy.normal) :: st.edges) (hne : ∀ x ∈ ne, st.next ≤ x.1)
    (j : Inv st.next st.next p s') : NE st.cur H st s' ∧ st.next ≤ s'.cur := by
  have hcur := w.cur
  have n0 : NE st.cur H st p := by
    refine ⟨ne ++ [(st.cur, st.next, ETy.normal)], by rw [hpe]; simp, fun x hx ha => ?_⟩
    rcases List.mem_append.mp hx with hx | hx
    · exact absurd ha (Nat.ne_of_gt (Nat.lt_of_lt_of_le hcur (hne x hx)))
    · rw [List.mem_singleton.mp hx]
      exact notin_of_le hH (Nat.le_refl _)
  exact ⟨n0.ext j.ext (Nat.ne_of_gt hcur) hcur, own_ge j.own⟩

theorem loopPre_srcs (n : Nat) (b : Bool) :
    ∀ x ∈ [(n, (if b then n + 3 else n + 2), ETy.condF), (n, n + 1, ETy.condT)], n ≤ x.1 := by
  intro x hx
  simp only [List.mem_cons, List.not_mem_nil, or_false] at hx
  rcases hx with rfl | rfl <;> exact Nat.le_refl _

theorem NE.first (st : St) (hH : ∀ h ∈ H, h < st.next) {s1 : St} {y : Nat} {t : ETy} (hy : st.next ≤ y)
    (he : s1.edges = (st.cur, y, t) :: st.edges) : NE st.cur H st s1 := by
  refine ⟨[(st.cur, y, t)], he, ?_⟩
  intro e hm _ hh
  rcases List.mem_cons.mp hm with rfl | hm
  · have : y < st.next := hH _ hh
    omega
  · cases hm

/-- the first branch of an `if`: so far the condition block has the edge to the fresh block of the branch only -/
theorem if_head {st s3 : St} {s e : Nat} {thn : List Stmt} (hr : Run (ifPre st s e) (.list thn) s3) (w : WF st)
    (hH : ∀ h ∈ H, h < st.next) : IN H st.cur st.next st s3 ∧ st.next + 2 ≤ s3.next ∧ st.next ≤ s3.cur := by
  have i1 : IN H st.cur st.next st (ifPre st s e) := ⟨ifPre_inv w (.inl rfl) (Nat.le_refl _) s e, NE.first st hH (Nat.le_refl _) rfl⟩
  have j := hr.frame st.next st.next i1.inv.wf (Nat.le_add_right _ 2) (.inl rfl)
  exact ⟨i1.fresh j w.cur, j.next_le, own_ge j.own⟩

end compound

section comp
variable {il : Bool} {st : St} {c0 c : Exc} {X : List Exc}

/-- a comprehension is like a compound statement (`left_of_pre`): behind the edge into its first block it is framed by the fresh blocks -/
theorem comp_left {H : List Nat} (st : St) (w : WF st) (hH : ∀ h ∈ H, h < st.next) (s e : Nat) (comp : List Bool) :
    NE st.cur H st (procComp st s e comp) ∧ st.next ≤ (procComp st s e comp).cur := by
  have i1 := (stmtBlock_inv (c := st.cur) (n := st.next) w (.inl rfl) (Nat.le_refl _) s e).bump
  exact left_of_pre st w hH [] rfl (fun _ h => nomatch h)
    ((comp_tail_frame st s e comp i1.wf (.inl rfl) (Nat.le_add_right _ 2)).1.inv (.inr (Nat.le_succ _)))

theorem simple_res (fh : FH il st c0 c X) (s e : Nat) (comp : List Bool) :
    Res .left c.handlers st ((procComp st s e comp).add (procComp st s e comp).cur s e .other) := by
  obtain ⟨q, r⟩ := comp_left (H := c.handlers) st fh.wf fh.hlt s e comp
  exact ⟨q.eqE rfl, r⟩

theorem ret_res (fh : FH il st c0 c X) (s e : Nat) (comp : List Bool) (hasComp : Bool) :
    Res .left c.handlers st (procRet st s e comp hasComp) := by
  rw [procRet_eq]
  cases hasComp
  · simp only [Bool.false_eq_true, ↓reduceIte]
    rw [fh.tfRet (s1 := st.add st.cur s e .ret) rfl rfl]
    simp only
    exact ⟨((NE.refl _ _ st).edge (x := st.cur) (y := exitB) (t := .ret) (fun _ => fh.hex)).eqE rfl, Nat.le_refl _⟩
  · simp only [↓reduceIte]
    obtain ⟨q, r⟩ := comp_left (H := c.handlers) st fh.wf fh.hlt s e comp
    obtain ⟨j, _⟩ := comp_frame (c := st.cur) (n := st.next) st s e comp fh.wf (.inl rfl) (Nat.le_refl _)
    have hnl := j.next_le
    have hne : (procComp st s e comp).cur ≠ st.cur := Nat.ne_of_gt (Nat.lt_of_lt_of_le fh.wf.cur r)
    generalize procComp st s e comp = s0 at *
    split
    · exact ⟨(q.edge (x := s0.cur) (fun h => absurd h hne)).eqE rfl, hnl⟩
    · exact ⟨(q.edge (x := s0.cur) (fun h => absurd h hne)).eqE rfl, hnl⟩

end comp

theorem NE.eq0 {a : Nat} {H : List Nat} {s0 s1 s : St} (h : NE a H s1 s) (he : s1.edges = s0.edges) : NE a H s0 s := by
  obtain ⟨ne, e1, p1⟩ := h
  exact ⟨ne, by rw [e1, he], p1⟩

theorem FH.stay {il : Bool} {st s1 : St} {c0 c : Exc} {X : List Exc} (fh : FH il st c0 c X) (w1 : WF s1)
    (r : Res .stay c.handlers st s1) : FH il s1 c0 c X := by
  obtain ⟨_, r2, _, r4, r5⟩ := r
  refine ⟨w1, ?_, by rw [r5]; exact fh.hx, fh.hc0, by rw [r2]; exact fh.hc0f, fh.hnf, fh.hex, ?_⟩
  · rw [r4]; exact fh.loops
  · rw [r4]; exact fh.hdisj

/-- what the walk says of each kind of call.  A statement / a list does to the head block of a `finally` body what `hrS` / `hrL`
predicts.  An `if`, and the tail of its chain (entered when the condition block `a` has edges into fresh blocks only, `f` being the first
fresh block), leave the condition block only by edges into fresh blocks.  The argument does not look into the other calls: it uses their
frames. -/
abbrev Heads (st st' : St) : Call → Prop
  | .stmt x => ∀ il c0 c X, FH il st c0 c X → okFS il x = true → Res (hrS x) c.handlers st st'
  | .list ss => ∀ il c0 c X, FH il st c0 c X → okFL il ss = true → Res (hrL ss) c.handlers st st'
  | .if_ .. => ∀ H, WF st → (∀ h ∈ H, h < st.next) → NE st.cur H st st' ∧ st.next ≤ st'.cur
  | .elifTail a te merge .. => ∀ H f st0, IN H a f st0 st → a < f → f ≤ st.next → (∀ h ∈ H, h < f) → f ≤ te → te < st.next →
      f ≤ merge → merge < st.next → NE a H st0 st' ∧ f ≤ st'.cur
  | _ => True

theorem res_run {st st' : St} {cl : Call} (h : Run st cl st') : Heads st st' cl := by
  induction h with
  | simple st s e cm hcm =>
    intro il c0 c X fh _
    cases hcm
    · rw [hrS_simple_f]; exact add_res s e
    · rw [hrS_simple_t]; exact simple_res fh s e cm
  | ret st s e cm hcm => intro il c0 c X fh _; rw [hrS_ret]; exact ret_res fh s e cm hcm
  | brk st s e => intro il c0 c X fh hok; rw [okFS_brk] at hok; rw [hrS_brk]; exact brk_res fh hok s e
  | cont st s e => intro il c0 c X fh hok; rw [okFS_cont] at hok; rw [hrS_cont]; exact cont_res fh hok s e
  | raise st s e => intro il c0 c X fh _; rw [hrS_raise]; exact raise_res fh s e
  | def_ st s e b => intro il c0 c X _ _; rw [hrS_def]; exact add_res s e
  | handler st s e b => intro il c0 c X _ hok; rw [okFS_handler] at hok; cases hok
  | case_ st s e b => intro il c0 c X _ hok; rw [okFS_case] at hok; cases hok
  | @class_ st s e body s1 hr _ =>
    intro il c0 c X fh _
    rw [hrS_class]
    exact left_of_pre st fh.wf fh.hlt [] rfl (fun _ h => nomatch h)
      (hr.frame st.next st.next (classPre_wf fh.wf s e) (Nat.le_succ _) (.inl rfl))
  | ite _ ih => intro il c0 c X fh _; rw [hrS_ite]; exact ih c.handlers fh.wf fh.hlt
  | elifc _ ih => intro il c0 c X fh _; rw [hrS_elifc]; exact ih c.handlers fh.wf fh.hlt
  | elsec _ ih => intro il c0 c X fh hok; rw [okFS_elsec] at hok; rw [hrS_elsec]; exact ih il c0 c X fh hok
  | @loop_nil st s e body s5 hr _ =>
    intro il c0 c X fh _
    rw [hrS_loop]
    have j := hr.frame st.next st.next (loopPre_wf fh.wf s e false) (Nat.le_add_right _ 3) (.inr (Nat.le_succ _))
    exact left_of_pre (p := loopPre st s e false) st fh.wf fh.hlt _ rfl (loopPre_srcs st.next false)
      (loop_nil_join fh.wf j (Nat.le_refl _) j.next_le)
  | @loop_cons st s e body o os s5 s8 hr1 hr2 _ _ =>
    intro il c0 c X fh _
    rw [hrS_loop]
    have w := fh.wf
    have j := hr1.frame st.next st.next (loopPre_wf w s e true) (Nat.le_add_right _ 4) (.inr (Nat.le_succ _))
    have h4 : st.next + 4 ≤ s5.next := j.next_le
    have k := loopElsePre_inv w j (Nat.le_refl _) h4
    have h5 := Nat.le_trans h4 (Nat.le_of_eq (loopElsePre_next st s5).symm)
    have j2 := hr2.frame st.next st.next k.wf (Nat.le_trans (Nat.le_add_right _ 4) h5) k.own
    exact left_of_pre (p := loopPre st s e true) st w fh.hlt _ rfl (loopPre_srcs st.next true)
      (loop_cons_join w (k.trans j2) (Nat.le_refl _) (Nat.lt_of_lt_of_le (Nat.lt_of_lt_of_le (Nat.lt_add_right 1 (Nat.lt_succ_self _)) h5)
        j2.next_le))
  | @with_ st s e body s2 hr _ =>
    intro il c0 c X fh _
    rw [hrS_with]
    have j := hr.frame st.next st.next (withPre_wf fh.wf s e) (Nat.le_add_right _ 4) (.inr (Nat.le_succ _))
    exact left_of_pre (p := withPre st s e) st fh.wf fh.hlt [(st.next, st.next + 1, ETy.normal)] rfl
      (fun x hx => by rw [List.mem_singleton.mp hx]; exact Nat.le_refl _) (with_join j (Nat.le_refl _) j.next_le)
  | match_nil st s e =>
    intro il c0 c X fh _
    rw [hrS_match]
    have i := matchPre_inv fh.wf (.inl rfl) (Nat.le_refl _) s e
    have h02 : st.next < st.next + 2 := Nat.lt_add_of_pos_right (Nat.succ_pos 1)
    exact left_of_pre st fh.wf fh.hlt [] rfl (fun _ h => nomatch h)
      ((((Ext.refl i.wf).edge (a := st.next) (b := st.next + 1) (t := .normal) (.inl rfl) h02 (Nat.lt_succ_self _)).setCur
        (x := st.next + 1) (Nat.lt_succ_self _)).inv (.inr (Nat.le_succ _)))
  | @match_cons st s e c1 cs s2 hr _ =>
    intro il c0 c X fh _
    rw [hrS_match]
    -- the clauses are framed by the subject's block `st.next` and the fresh blocks, whichever block is current when they start
    have j := (Conv.match_cons (s := s) (e := e) (c := c1) (cs := cs) fh.wf).frame hr (c := st.next) (n := st.next) (Nat.le_add_right _ 2) (.inl rfl)
    have h1 : st.next + 1 < s2.next := j.next_le
    exact left_of_pre st fh.wf fh.hlt [] rfl (fun _ h => nomatch h)
      (((j.edge (a := st.next) (b := st.next + 1) (t := .condF) (.inl rfl) (Nat.lt_of_succ_lt h1) h1).setCur (x := st.next + 1) h1).inv
        (.inr (Nat.le_succ _)))
  | @try_ st s e body handlers orelse fin s3 finB elseB cfin nat ah s7 s8 s9 ha h7 h8 h9 _ _ _ =>
    intro il c0 c X fh _
    rw [hrS_try]
    have w := fh.wf
    have b3 := ha.allocated
    obtain ⟨c7, c8, c9⟩ := Conv.try_ ha h7 h8 w
    have h03 : st.next ≤ s3.next := Nat.le_of_lt (Nat.lt_of_succ_lt b3.next_le)
    have h37 : s3.next ≤ s7.next := c7.next_le h7
    have h38 := Nat.le_trans h37 (c8.next_le h8)
    have o : ∀ {x : Nat}, st.next + 2 ≤ x → Own st.next st.next x := fun h => .inr (Nat.le_trans (Nat.le_add_right _ 2) h)
    -- the stages are framed by the `try` block `st.next` and the fresh blocks, whichever block is current when they start
    have k7 := c7.frame h7 (c := st.next) (n := st.next) h03 (.inl rfl)
    have k8 := c8.frame h8 (c := st.next) (n := st.next) (Nat.le_trans h03 h37) fun h => o (b3.els h).1
    have k9 := c9.frame h9 (c := st.next) (n := st.next) (Nat.le_trans h03 h38) fun h => o (b3.fin h).1
    have h19 := Nat.lt_of_lt_of_le (Nat.lt_of_lt_of_le b3.next_le h38) k9.next_le
    exact ⟨(NE.first st fh.hlt (Nat.le_refl _) b3.edges).ext ((((k7.trans k8).trans k9).setCur (x := st.next + 1) h19).setExcs (x := st.excs)
      (w.excs_le (Nat.le_of_lt (Nat.lt_of_succ_lt h19)))) (Nat.ne_of_gt w.cur) w.cur, Nat.le_succ _⟩
  | nil st => intro il c0 c X _ _; rw [hrL_nil]; exact ⟨rfl, rfl, rfl, rfl, rfl⟩
  | @cons st x xs s1 s2 h1 h2 ih1 ih2 =>
    intro il c0 c X fh hok
    rw [okFL_cons, Bool.and_eq_true] at hok
    rw [hrL_cons]
    have hx := ih1 il c0 c X fh hok.1
    have jx := h1.frame st.cur st.next fh.wf (Nat.le_refl _) (.inl rfl)
    have hcur := fh.wf.cur
    have hnl := jx.next_le
    cases hr : hrS x <;> rw [hr] at hx <;> simp only
    · -- the entry block is still current
      have hxs := ih2 il c0 c X (fh.stay jx.wf hx) hok.2
      obtain ⟨r1, r2, r3, r4, r5⟩ := hx
      generalize hrL xs = r at hxs ⊢
      cases r
      · obtain ⟨q1, q2, q3, q4, q5⟩ := hxs
        exact ⟨q1.trans r1, q2.trans r2, q3.trans r3, q4.trans r4, q5.trans r5⟩
      · intro h hh
        rw [← r2]; exact hxs h hh
      · obtain ⟨q1, q2⟩ := hxs
        rw [r2] at q1
        exact ⟨q1.eq0 r1, Nat.le_trans (Nat.le_of_eq r3.symm) q2⟩
    · -- a `raise` was executed: the edges stay
      have jxs := Conv.own (st := s1) jx.wf h2
      intro h hh
      exact hasSucc_mono jxs (hx h hh)
    · -- the entry block was left
      obtain ⟨q1, q2⟩ := hx
      have jxs := h2.frame s1.cur st.next jx.wf hnl (.inl rfl)
      refine ⟨q1.ext jxs.ext (Nat.ne_of_gt (Nat.lt_of_lt_of_le hcur q2)) hcur, ?_⟩
      rcases jxs.own with h | h
      · rw [h]; exact q2
      · exact h
  | @if_nil st s e thn s3 hr _ =>
    intro H w hH
    obtain ⟨k, hjn, -⟩ := if_head hr w hH
    have h1N : st.next + 1 < s3.next := hjn
    have hcN : st.cur < s3.next := Nat.lt_of_lt_of_le w.cur (Nat.le_trans (Nat.le_add_right _ 2) hjn)
    have h1H : st.next + 1 ∉ H := notin_of_le hH (Nat.le_succ _)
    exact ⟨(((k.edge (x := st.cur) (y := st.next + 1) (t := .condF) (.inl rfl) hcN h1N (fun _ => h1H)).edgeUnlessExit
      (x := s3.cur) (y := st.next + 1) (t := .normal) k.inv.own k.inv.wf.cur h1N (fun _ => h1H)).setCur (x := st.next + 1)
      (.inr (Nat.le_succ _)) (by rw [edgeUnlessExit_next]; exact h1N)).ne, Nat.le_succ _⟩
  | @if_chain st s e thn l a b s' e' s3 s5 _ hr _ _ ih =>
    intro H w hH
    obtain ⟨k, hjn, hjo⟩ := if_head hr w hH
    exact ih H st.next st k w.cur (Nat.le_trans (Nat.le_add_right _ 2) hjn) hH hjo k.inv.wf.cur (Nat.le_succ _) hjn
  | @if_else st s e thn o os s3 s5 _ _ hr hr5 _ _ =>
    intro H w hH
    obtain ⟨k, hjn, -⟩ := if_head hr w hH
    have h1N : st.next + 1 < s3.next := hjn
    have h0N : st.next ≤ s3.next := Nat.le_trans (Nat.le_add_right _ 2) hjn
    have hcN : st.cur < s3.next := Nat.lt_of_lt_of_le w.cur h0N
    have hk := k.inv.wf.cur
    have h1H : st.next + 1 ∉ H := notin_of_le hH (Nat.le_succ _)
    have i5 := (k.bump.edge (x := st.cur) (y := s3.next) (t := .condF) (.inl rfl) (Nat.lt_succ_of_lt hcN) (Nat.lt_succ_self _)
      (fun _ => notin_of_le hH h0N)).setCur (x := s3.next) (.inr h0N) (Nat.lt_succ_self _)
    have j5 := hr5.frame st.next st.next i5.inv.wf (Nat.le_succ_of_le h0N) (.inr h0N)
    have k5 := i5.fresh j5 w.cur
    have hjn5 := j5.next_le
    have h1S := Nat.lt_of_lt_of_le (Nat.lt_succ_of_lt h1N) hjn5
    rcases elseJoin_cases s5 s3.cur (setCur ((s5.edgeUnlessExit s3.cur (st.next + 1) .normal).edgeUnlessExit
      (s5.edgeUnlessExit s3.cur (st.next + 1) .normal).cur (st.next + 1) .normal) (st.next + 1)) with h | h <;> rw [h]
    · exact ⟨(k5.bumpU.setCur (.inr k5.inv.next_le) (Nat.lt_succ_self _)).ne, k5.inv.next_le⟩
    · exact ⟨(((k5.edgeUnlessExit (x := s3.cur) (y := st.next + 1) (t := .normal) k.inv.own
        (Nat.lt_of_lt_of_le (Nat.lt_succ_of_lt hk) hjn5) h1S (fun _ => h1H)).edgeUnlessExit (y := st.next + 1) (t := .normal)
        (by rw [edgeUnlessExit_cur]; exact k5.inv.own) (by rw [edgeUnlessExit_cur, edgeUnlessExit_next]; exact k5.inv.wf.cur)
        (by rw [edgeUnlessExit_next]; exact h1S) (fun _ => h1H)).setCur (x := st.next + 1) (.inr (Nat.le_succ _))
        (by rw [edgeUnlessExit_next, edgeUnlessExit_next]; exact h1S)).ne, Nat.le_succ _⟩
  | @elifTail st a te merge s' e' thn' orelse' s5 hr _ =>
    intro H f st0 k ha hfn hHf hte htl hm hml
    have ha3 : a < st.next := Nat.lt_of_lt_of_le ha hfn
    have i1 := (k.bump.edge (x := a) (y := st.next) (t := .condF) (.inl rfl) (Nat.lt_succ_of_lt ha3) (Nat.lt_succ_self _)
      (fun _ => notin_of_le hHf hfn)).setCur (x := st.next) (.inr hfn) (Nat.lt_succ_self _)
    obtain ⟨j, hcj⟩ := hr.frame f f ⟨i1.inv.wf, Nat.lt_succ_of_lt hml⟩ (Nat.le_succ_of_le hfn) (.inr hfn)
    -- the merge block is a fresh one
    replace j := j.inv (hcj.elim (fun h => .inr (Nat.le_trans hm (Nat.le_of_eq h.symm))) id)
    have kj := i1.fresh j ha
    have hjn := j.next_le
    have hmJ := Nat.lt_of_lt_of_le (Nat.lt_succ_of_lt hml) hjn
    have htJ := Nat.lt_of_lt_of_le (Nat.lt_succ_of_lt htl) hjn
    rcases tailJoin_cases s5 te merge with h | h | h <;> rw [h]
    · exact ⟨kj.ne, own_ge j.own⟩
    · exact ⟨(((kj.setCur (x := merge) (.inr hm) hmJ).edgeUnlessExit (x := te) (y := merge) (t := .normal) (.inr hte) htJ hmJ
        (fun _ => notin_of_le hHf hm)).setCur (x := merge) (.inr hm) (by rw [edgeUnlessExit_next]; exact hmJ)).ne, hm⟩
    · exact ⟨((kj.edgeUnlessExit (x := te) (y := merge) (t := .normal) (.inr hte) htJ hmJ (fun _ => notin_of_le hHf hm)).setCur (x := merge)
        (.inr hm) (by rw [edgeUnlessExit_next]; exact hmJ)).ne, hm⟩
  | _ => trivial

theorem head_raise_run {fin : List Stmt} {st s' : St} (hrun : Run st (.list fin) s') (il : Bool) (w : WF st) (hok : okFL il fin = true)
    (hloops : il = true → st.loops ≠ [])
    (c0 c : Exc) (X : List Exc) (hx : st.excs = c0 :: c :: X) (hc0 : c0.processingFinally = true) (hc0f : c0.fin = some st.cur)
    (hnf : ∀ c' ∈ c :: X, c'.fin = none ∧ c'.processingFinally = false)
    (hcalm : ∀ e ∈ st.edges, e.1 ≠ st.cur)
    (hex : exitB ∉ c.handlers) (hdisj : ∀ l ∈ st.loops, l.1 ∉ c.handlers ∧ l.2.1 ∉ c.handlers) :
    ∀ h ∈ c.handlers, s'.hasSucc st.cur h = decide (hrL fin = .raise) := by
  intro h hh
  have fh : FH il st c0 c X := ⟨w, hloops, hx, hc0, hc0f, hnf, hex, hdisj⟩
  have hr := res_run hrun il c0 c X fh hok
  have h0 : st.hasSucc st.cur h = false := by
    unfold St.hasSucc
    rw [List.any_eq_false]
    intro e he hh'
    simp only [Bool.and_eq_true, beq_iff_eq] at hh'
    exact hcalm e he hh'.1
  generalize hrL fin = r at hr ⊢
  cases r
  · obtain ⟨r1, _⟩ := hr
    have : s'.hasSucc st.cur h = st.hasSucc st.cur h := by unfold St.hasSucc; rw [r1]
    rw [this, h0]; rfl
  · rw [hr h hh]; rfl
  · rw [hr.1.hasSucc hh, h0]; rfl

theorem head_raise (fin : List Stmt) (il : Bool) (st : St) (w : WF st) (hok : okFL il fin = true) (hloops : il = true → st.loops ≠ [])
    (c0 c : Exc) (X : List Exc) (hx : st.excs = c0 :: c :: X) (hc0 : c0.processingFinally = true) (hc0f : c0.fin = some st.cur)
    (hnf : ∀ c' ∈ c :: X, c'.fin = none ∧ c'.processingFinally = false)
    (hcalm : ∀ e ∈ st.edges, e.1 ≠ st.cur)
    (hex : exitB ∉ c.handlers) (hdisj : ∀ l ∈ st.loops, l.1 ∉ c.handlers ∧ l.2.1 ∉ c.handlers) :
    ∀ h ∈ c.handlers, (procList st fin).hasSucc st.cur h = decide (hrL fin = .raise) :=
  head_raise_run ((run_all.2 fin).list st) il w hok hloops c0 c X hx hc0 hc0f hnf hcalm hex hdisj

end PV.CFGFin

#print axioms PV.CFGFin.head_raise
