import PV.Model.Arith
/-! Order lemmas over an arbitrary `MonoArith` carrier, and the integer operations `roundI`, `capHi`, `capLo` of the score code. -/
namespace PV
namespace MA
variable {F : Type} [MonoArith F]
open Arith

abbrev z : F := Arith.lit 0 1

theorem le_rfl' (a : F) : a ≤ a := MonoArith.le_refl a
theorem le_tr {a b c : F} (h₁ : a ≤ b) (h₂ : b ≤ c) : a ≤ c := MonoArith.le_trans a b c h₁ h₂
theorem le_tot (a b : F) : a ≤ b ∨ b ≤ a := MonoArith.le_total a b
theorem lt_iff {a b : F} : a < b ↔ ¬ b ≤ a := MonoArith.lt_iff_not_le a b
theorem le_of_not_le {a b : F} (h : ¬ a ≤ b) : b ≤ a := (le_tot a b).resolve_left h
theorem le_of_lt {a b : F} (h : a < b) : a ≤ b := le_of_not_le (lt_iff.mp h)
theorem not_lt {a b : F} : ¬ a < b ↔ b ≤ a := by
  rw [lt_iff]; exact ⟨fun h => Classical.not_not.mp h, fun h h' => h' h⟩
theorem lt_of_lt_of_le {a b c : F} (h₁ : a < b) (h₂ : b ≤ c) : a < c := by
  rw [lt_iff] at *; exact fun h => h₁ (le_tr h₂ h)
theorem lt_of_le_of_lt {a b c : F} (h₁ : a ≤ b) (h₂ : b < c) : a < c := by
  rw [lt_iff] at *; exact fun h => h₂ (le_tr h h₁)

theorem lit_le {n : Int} {d : Nat} {n' : Int} {d' : Nat} (hd : 0 < d) (hd' : 0 < d') (h : n * d' ≤ n' * d) :
    (Arith.lit n d : F) ≤ Arith.lit n' d' := MonoArith.lit_mono n d n' d' hd hd' h
/-- a non-negative literal is non-negative (the side conditions are closed numerals) -/
theorem lit_nonneg {n : Int} {d : Nat} (hd : 0 < d := by decide) (hn : 0 ≤ n := by decide) : (z : F) ≤ Arith.lit n d :=
  lit_le (by decide) hd (by omega)
theorem lit_pos {n : Int} {d : Nat} (hd : 0 < d) (h : (d : Int) ≤ n * 2 ^ 100) : (z : F) < Arith.lit n d :=
  MonoArith.lit_pos n d hd h
theorem ofInt_le {m n : Int} (h : m ≤ n) : (Arith.ofInt m : F) ≤ Arith.ofInt n := by
  rw [MonoArith.ofInt_lit, MonoArith.ofInt_lit]; exact lit_le (by decide) (by decide) (by omega)
theorem ofInt_nonneg {n : Int} (h : 0 ≤ n) : (z : F) ≤ Arith.ofInt n := by
  rw [MonoArith.ofInt_lit]; exact lit_le (by decide) (by decide) (by omega)
theorem ofInt_pos {n : Int} (h : 0 < n) : (z : F) < Arith.ofInt n := by
  rw [MonoArith.ofInt_lit]; exact lit_pos (by decide) (by omega)

theorem add_le_add {a b c d : F} (h₁ : a ≤ b) (h₂ : c ≤ d) : a + c ≤ b + d :=
  le_tr (MonoArith.add_mono_l a b c h₁) (MonoArith.add_mono_r c d b h₂)
theorem sub_le_sub_l {a b : F} (c : F) (h : a ≤ b) : a - c ≤ b - c := MonoArith.sub_mono_l a b c h
theorem sub_le_sub_r {a b : F} (c : F) (h : a ≤ b) : c - b ≤ c - a := MonoArith.sub_mono_r a b c h
theorem mul_le_mul_l {a b : F} (c : F) (hc : (z : F) ≤ c) (h : a ≤ b) : a * c ≤ b * c := MonoArith.mul_mono_l a b c hc h
theorem mul_le_mul_r {a b : F} (c : F) (hc : (z : F) ≤ c) (h : a ≤ b) : c * a ≤ c * b := MonoArith.mul_mono_r a b c hc h
theorem div_le_div_l {a b : F} (c : F) (hc : (z : F) < c) (h : a ≤ b) : a / c ≤ b / c := MonoArith.div_mono_l a b c hc h
theorem mul_nonneg {a b : F} (ha : (z : F) ≤ a) (hb : (z : F) ≤ b) : (z : F) ≤ a * b := MonoArith.mul_nonneg a b ha hb
theorem div_nonneg {a b : F} (ha : (z : F) ≤ a) (hb : (z : F) < b) : (z : F) ≤ a / b := MonoArith.div_nonneg a b ha hb
theorem add_nonneg {a b : F} (ha : (z : F) ≤ a) (hb : (z : F) ≤ b) : (z : F) ≤ a + b := MonoArith.add_nonneg a b ha hb
theorem add_pos_l {a b : F} (ha : (z : F) < a) (hb : (z : F) ≤ b) : (z : F) < a + b := MonoArith.add_pos_l a b ha hb
theorem sub_nonneg {a b : F} (h : b ≤ a) : (z : F) ≤ a - b := MonoArith.sub_nonneg a b h

theorem mul_one' (a : F) : a * (Arith.lit 1 1 : F) = a := MonoArith.mul_one_lit a
theorem one_mul' (a : F) : (Arith.lit 1 1 : F) * a = a := MonoArith.one_mul_lit a
theorem sub_zero' (a : F) : a - (Arith.lit 0 1 : F) = a := MonoArith.sub_zero_lit a

/-- `int(math.Round(x))` -/
def roundI (x : F) : Int := Arith.trunc (Arith.round x)

theorem roundI_mono {a b : F} (h : a ≤ b) : roundI a ≤ roundI b :=
  MonoArith.trunc_mono _ _ (MonoArith.round_mono a b h)
/-- `10⁶` is a round bound far below `2⁵³` (float64 represents every such integer exactly) and far above every
constant of the scoring code, so that the side condition is decided by evaluation -/
theorem small_of_natAbs_le {n : Int} (h : n.natAbs ≤ 1000000) : SmallInt n := by
  unfold SmallInt; exact Nat.le_trans h (by decide)
theorem roundI_lit {n : Int} (h : n.natAbs ≤ 1000000) : roundI (Arith.lit n 1 : F) = n := by
  unfold roundI; rw [MonoArith.round_lit n (small_of_natAbs_le h), MonoArith.trunc_lit n (small_of_natAbs_le h)]
theorem trunc_lit' {n : Int} (h : n.natAbs ≤ 1000000) : Arith.trunc (Arith.lit n 1 : F) = n :=
  MonoArith.trunc_lit n (small_of_natAbs_le h)
theorem roundI_nonneg {a : F} (h : (z : F) ≤ a) : 0 ≤ roundI a := by
  have := roundI_mono h; rwa [roundI_lit (by decide)] at this
theorem trunc_nonneg {a : F} (h : (z : F) ≤ a) : 0 ≤ Arith.trunc a := by
  have := MonoArith.trunc_mono _ _ h; rwa [trunc_lit' (by decide)] at this

/-- `roundI (k · u)` for a fraction `0 ≤ u ≤ 1` lies in `[0, k]` -/
theorem roundI_scale_l {k : Int} (hk : 0 ≤ k) (hs : k.natAbs ≤ 1000000) {u : F} (h0 : (z : F) ≤ u) (h1 : u ≤ Arith.lit 1 1) :
    0 ≤ roundI (Arith.lit k 1 * u) ∧ roundI (Arith.lit k 1 * u) ≤ k := by
  have := roundI_mono (mul_le_mul_r (Arith.lit k 1 : F) (lit_nonneg (by decide) hk) h1)
  rw [mul_one', roundI_lit hs] at this
  exact ⟨roundI_nonneg (mul_nonneg (lit_nonneg (by decide) hk) h0), this⟩
theorem roundI_scale_r {k : Int} (hk : 0 ≤ k) (hs : k.natAbs ≤ 1000000) {u : F} (h0 : (z : F) ≤ u) (h1 : u ≤ Arith.lit 1 1) :
    0 ≤ roundI (u * Arith.lit k 1) ∧ roundI (u * Arith.lit k 1) ≤ k := by
  have := roundI_mono (mul_le_mul_l (Arith.lit k 1 : F) (lit_nonneg (by decide) hk) h1)
  rw [one_mul', roundI_lit hs] at this
  exact ⟨roundI_nonneg (mul_nonneg h0 (lit_nonneg (by decide) hk)), this⟩

/-- `if p > c { p = c }` -/
def capHi (p c : F) : F := if p > c then c else p
/-- `if p < c { p = c }` -/
def capLo (p c : F) : F := if p < c then c else p

theorem capHi_le (p c : F) : capHi p c ≤ c := by
  unfold capHi; split
  · exact le_rfl' c
  · next h => exact not_lt.mp h
theorem capHi_mono {p q : F} (c : F) (h : p ≤ q) : capHi p c ≤ capHi q c := by
  unfold capHi; split <;> split
  · exact le_rfl' c
  · next h₁ h₂ => exact absurd (lt_of_lt_of_le (show c < p from h₁) h) h₂
  · next h₁ h₂ => exact not_lt.mp h₁
  · exact h
theorem le_capHi {a p c : F} (h₁ : a ≤ p) (h₂ : a ≤ c) : a ≤ capHi p c := by
  unfold capHi; split <;> assumption
theorem roundI_capHi_le (p : F) {n : Int} (hn : n.natAbs ≤ 1000000) : roundI (capHi p (Arith.lit n 1)) ≤ n := by
  have := roundI_mono (capHi_le p (Arith.lit n 1 : F))
  rwa [roundI_lit hn] at this
theorem capLo_ge (p c : F) : c ≤ capLo p c := by
  unfold capLo; split
  · exact le_rfl' c
  · next h => exact not_lt.mp h
theorem capLo_mono {p q : F} (c : F) (h : p ≤ q) : capLo p c ≤ capLo q c := by
  unfold capLo; split <;> split
  · exact le_rfl' c
  · next h₁ h₂ => exact not_lt.mp h₂
  · next h₁ h₂ => exact absurd (lt_of_le_of_lt h (show q < c from h₂)) h₁
  · exact h
theorem capLo_le {p c a : F} (h₁ : p ≤ a) (h₂ : c ≤ a) : capLo p c ≤ a := by
  unfold capLo; split <;> assumption

theorem fmin_mono_r {a b : F} (c : F) (h : a ≤ b) : Arith.fmin c a ≤ Arith.fmin c b :=
  MonoArith.le_fmin _ _ _ (MonoArith.fmin_le_l c a) (le_tr (MonoArith.fmin_le_r c a) h)
theorem fmax_mono_r {a b : F} (c : F) (h : a ≤ b) : Arith.fmax c a ≤ Arith.fmax c b :=
  MonoArith.fmax_le _ _ _ (MonoArith.le_fmax_l c b) (le_tr h (MonoArith.le_fmax_r c b))

end MA
end PV
