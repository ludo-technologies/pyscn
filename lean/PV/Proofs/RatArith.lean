import PV.Model.Arith
import Mathlib.Data.Rat.Floor
import Mathlib.Algebra.Order.Floor.Ring
import Mathlib.Algebra.Order.Field.Basic
/-!
Consistency of the assumption `MonoArith`: the rationals, with exact arithmetic, satisfy every law.
(So the theorems proved "for every carrier satisfying the IEEE-754 order laws" are not vacuous; that Go's
`float64` satisfies them on the finite values that occur remains the assumption of DESIGN.md §6.4.)
`log10`/`log2` are interpreted as the constant 0 here: the laws only ask them to be non-negative from 1 on.
`round` is half-up here, whereas `math.Round` rounds half away from zero: the laws (monotone, exact on integers) do not
distinguish the two, and only the laws are used.
-/
namespace PV

noncomputable instance ratArith : Arith ℚ where
  lit n d := (n : ℚ) / (d : ℚ)
  ofInt n := (n : ℚ)
  add := (· + ·)
  sub := (· - ·)
  mul := (· * ·)
  div := (· / ·)
  neg := (- ·)
  le := (· ≤ ·)
  lt := (· < ·)
  decLe a b := inferInstance
  decLt a b := inferInstance
  round a := (⌊a + 1 / 2⌋ : ℤ)
  ceil a := (⌈a⌉ : ℤ)
  floor a := (⌊a⌋ : ℤ)
  trunc a := if 0 ≤ a then ⌊a⌋ else ⌈a⌉
  log10 _ := 0
  log2 _ := 0
  fmin := min
  fmax := max
  abs := abs

theorem lit_zero : (Arith.lit 0 1 : ℚ) = 0 := by simp [Arith.lit]
theorem lit_one : (Arith.lit 1 1 : ℚ) = 1 := by simp [Arith.lit]

noncomputable instance ratMonoArith : MonoArith ℚ where
  le_refl a := le_refl a
  le_trans a b c := le_trans
  le_total a b := le_total a b
  le_antisymm a b := le_antisymm
  lt_iff_not_le a b := lt_iff_not_ge
  lit_mono n d n' d' hd hd' h := by
    show (n : ℚ) / d ≤ (n' : ℚ) / d'
    have h1 : (0 : ℚ) < d := by exact_mod_cast hd
    have h2 : (0 : ℚ) < d' := by exact_mod_cast hd'
    rw [div_le_div_iff₀ h1 h2]
    exact_mod_cast h
  lit_pos n d hd h := by
    show (Arith.lit 0 1 : ℚ) < (n : ℚ) / d
    rw [lit_zero]
    have h1 : (0 : ℚ) < d := by exact_mod_cast hd
    apply div_pos _ h1
    have : (0 : ℤ) < n := by
      by_contra hn
      have hn' : n ≤ 0 := not_lt.mp hn
      have : n * 2 ^ 100 ≤ 0 := mul_nonpos_of_nonpos_of_nonneg hn' (pow_nonneg (by decide) 100)
      have hd' : (0 : ℤ) < d := by exact_mod_cast hd
      omega
    exact_mod_cast this
  ofInt_lit n := by show (n : ℚ) = (n : ℚ) / ((1 : ℕ) : ℚ); simp
  add_mono_l a b c h := add_le_add_left (α := ℚ) h c
  add_mono_r a b c h := add_le_add_right (α := ℚ) h c
  sub_mono_l a b c h := sub_le_sub_right (α := ℚ) h c
  sub_mono_r a b c h := sub_le_sub_left (α := ℚ) h c
  mul_mono_l a b c hc h := by
    show a * c ≤ b * c
    rw [show (Arith.lit 0 1 : ℚ) = 0 from lit_zero] at hc
    exact mul_le_mul_of_nonneg_right h hc
  mul_mono_r a b c hc h := by
    show c * a ≤ c * b
    rw [show (Arith.lit 0 1 : ℚ) = 0 from lit_zero] at hc
    exact mul_le_mul_of_nonneg_left h hc
  div_mono_l a b c hc h := by
    show a / c ≤ b / c
    have hc' : (0 : ℚ) < c := by rw [← lit_zero]; exact hc
    exact div_le_div_of_nonneg_right h (le_of_lt hc')
  div_self c hc := by
    show c / c = Arith.lit 1 1
    have hc' : (0 : ℚ) < c := by rw [← lit_zero]; exact hc
    rw [lit_one]; exact div_self (ne_of_gt hc')
  mul_one_lit a := by show a * Arith.lit 1 1 = a; rw [lit_one]; exact mul_one a
  one_mul_lit a := by show Arith.lit 1 1 * a = a; rw [lit_one]; exact one_mul a
  sub_zero_lit a := by show a - Arith.lit 0 1 = a; rw [lit_zero]; exact sub_zero a
  mul_nonneg a b ha hb := by
    show Arith.lit 0 1 ≤ a * b
    rw [lit_zero] at *; exact mul_nonneg ha hb
  div_nonneg a b ha hb := by
    show Arith.lit 0 1 ≤ a / b
    have hb' : (Arith.lit 0 1 : ℚ) < b := hb
    rw [lit_zero] at *; exact div_nonneg ha (le_of_lt hb')
  add_nonneg a b ha hb := by
    show Arith.lit 0 1 ≤ a + b
    rw [lit_zero] at *; exact add_nonneg ha hb
  add_pos_l a b ha hb := by
    show Arith.lit 0 1 < a + b
    have ha' : (Arith.lit 0 1 : ℚ) < a := ha
    rw [lit_zero] at *; exact add_pos_of_pos_of_nonneg ha' hb
  sub_nonneg a b h := by
    show Arith.lit 0 1 ≤ a - b
    rw [lit_zero]; exact sub_nonneg.mpr h
  round_mono a b h := by
    show ((⌊a + 1 / 2⌋ : ℤ) : ℚ) ≤ ((⌊b + 1 / 2⌋ : ℤ) : ℚ)
    exact_mod_cast Int.floor_le_floor (add_le_add_left (α := ℚ) h _)
  round_lit n _ := by
    show ((⌊(Arith.lit n 1 : ℚ) + 1 / 2⌋ : ℤ) : ℚ) = Arith.lit n 1
    have : (Arith.lit n 1 : ℚ) = n := by simp [Arith.lit]
    rw [this]
    have : ⌊(n : ℚ) + 1 / 2⌋ = n := by
      rw [Int.floor_eq_iff]
      exact ⟨le_add_of_nonneg_right one_half_pos.le, add_lt_add_right one_half_lt_one _⟩
    rw [this]
  trunc_mono a b h := by
    show (if 0 ≤ a then ⌊a⌋ else ⌈a⌉) ≤ (if 0 ≤ b then ⌊b⌋ else ⌈b⌉)
    by_cases ha : 0 ≤ a
    · have hb : 0 ≤ b := le_trans ha h
      simp only [ha, hb, if_true]; exact Int.floor_le_floor h
    · by_cases hb : 0 ≤ b
      · simp only [ha, hb, if_true, if_false]
        have h1 : ⌈a⌉ ≤ 0 := Int.ceil_le.mpr (by exact_mod_cast (not_le.mp ha).le)
        have h2 : 0 ≤ ⌊b⌋ := Int.floor_nonneg.mpr hb
        omega
      · simp only [ha, hb, if_false]; exact Int.ceil_le_ceil h
  trunc_lit n _ := by
    show (if 0 ≤ (Arith.lit n 1 : ℚ) then ⌊(Arith.lit n 1 : ℚ)⌋ else ⌈(Arith.lit n 1 : ℚ)⌉) = n
    have : (Arith.lit n 1 : ℚ) = n := by simp [Arith.lit]
    rw [this]; split <;> simp
  fmin_le_l a b := min_le_left a b
  fmin_le_r a b := min_le_right a b
  le_fmin a b c h1 h2 := le_min h1 h2
  le_fmax_l a b := le_max_left a b
  le_fmax_r a b := le_max_right a b
  fmax_le a b c h1 h2 := max_le h1 h2
  log10_nonneg a _ := by show Arith.lit 0 1 ≤ (0 : ℚ); rw [lit_zero]
  log2_nonneg a _ := by show Arith.lit 0 1 ≤ (0 : ℚ); rw [lit_zero]

end PV
