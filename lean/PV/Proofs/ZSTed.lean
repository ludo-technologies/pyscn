import PV.Model.TED
/-!
Lemmas about the specification `PV.TED.ted` used by the Zhang–Shasha correctness proof:
equation lemmas, sub-additivity under concatenation, and Zhang–Shasha's form of the match case.
-/
namespace PV.ZSProof
open PV.TED

theorem ted_nil_nil (c : Cost) : ted c [] [] = 0 := by rw [ted]
theorem ted_cons_nil (c : Cost) (a as F) : ted c (.node a as :: F) [] = ted c (as.reverse ++ F) [] + c.del a := by rw [ted]
theorem ted_nil_cons (c : Cost) (b bs G) : ted c [] (.node b bs :: G) = ted c [] (bs.reverse ++ G) + c.ins b := by rw [ted]
theorem ted_cons_cons (c : Cost) (a as F b bs G) :
    ted c (.node a as :: F) (.node b bs :: G) =
      min (ted c (as.reverse ++ F) (.node b bs :: G) + c.del a)
     (min (ted c (.node a as :: F) (bs.reverse ++ G) + c.ins b)
          (ted c as.reverse bs.reverse + ted c F G + c.ren a b)) := by rw [ted]

theorem ted_del_le (c : Cost) (a as F G) : ted c (.node a as :: F) G ≤ ted c (as.reverse ++ F) G + c.del a := by
  match G with
  | [] => rw [ted_cons_nil]; exact Nat.le_refl _
  | .node b bs :: G => rw [ted_cons_cons]; exact Nat.min_le_left _ _
theorem ted_ins_le (c : Cost) (b bs F G) : ted c F (.node b bs :: G) ≤ ted c F (bs.reverse ++ G) + c.ins b := by
  match F with
  | [] => rw [ted_nil_cons]; exact Nat.le_refl _
  | .node a as :: F => rw [ted_cons_cons]; exact Nat.le_trans (Nat.min_le_right _ _) (Nat.min_le_left _ _)
theorem ted_match_le (c : Cost) (a as F b bs G) :
    ted c (.node a as :: F) (.node b bs :: G) ≤ ted c as.reverse bs.reverse + ted c F G + c.ren a b := by
  rw [ted_cons_cons]; exact Nat.le_trans (Nat.min_le_right _ _) (Nat.min_le_right _ _)

/-- the recursion of `ted` as an induction principle: each forest pair rests on the pairs its clause calls -/
theorem ted_ind {P : List Tree → List Tree → Prop} (nil : P [] [])
    (del : ∀ a as F, P (as.reverse ++ F) [] → P (.node a as :: F) [])
    (ins : ∀ b bs G, P [] (bs.reverse ++ G) → P [] (.node b bs :: G))
    (both : ∀ a as F b bs G, P (as.reverse ++ F) (.node b bs :: G) → P (.node a as :: F) (bs.reverse ++ G) →
      P as.reverse bs.reverse → P F G → P (.node a as :: F) (.node b bs :: G))
    (F G : List Tree) : P F G :=
  -- `ted.induct` has `as.attach.reverse.unattach` where the clauses have `as.reverse`; `simp` rewrites that away
  ted.induct P nil (by simpa using del) (by simpa using ins) (by simpa using both) F G

/-- the same for one forest: take the right-most root off -/
theorem pop_ind {P : List Tree → Prop} (nil : P []) (pop : ∀ a as F, P (as.reverse ++ F) → P (.node a as :: F))
    (F : List Tree) : P F :=
  ted_ind (P := fun F _ => P F) nil pop (fun _ _ _ h => h) (fun a as F _ _ _ h _ _ _ => pop a as F h) F []

/-- edit scripts of independent parts compose: the distance of concatenated forests is at most the
sum of the distances of the parts -/
theorem ted_append_le (c : Cost) (F G F₁ G₁ : List Tree) :
    ted c (F₁ ++ F) (G₁ ++ G) ≤ ted c F₁ G₁ + ted c F G := by
  induction F₁, G₁ using ted_ind with
  | nil => rw [ted_nil_nil, Nat.zero_add]; exact Nat.le_refl _
  | del a as F₁ ih =>
    have h1 := ted_del_le c a as (F₁ ++ F) ([] ++ G)
    rw [ted_cons_nil]
    rw [List.append_assoc] at ih
    exact Nat.le_trans h1 (by omega)
  | ins b bs G₁ ih =>
    have h1 := ted_ins_le c b bs ([] ++ F) (G₁ ++ G)
    rw [ted_nil_cons]
    rw [List.append_assoc] at ih
    exact Nat.le_trans h1 (by omega)
  | both a as F₁ b bs G₁ h2 h4 _ h5 =>
    have h1 := ted_del_le c a as (F₁ ++ F) (.node b bs :: G₁ ++ G)
    have h3 := ted_ins_le c b bs (.node a as :: F₁ ++ F) (G₁ ++ G)
    have h6 := ted_match_le c a as (F₁ ++ F) b bs (G₁ ++ G)
    rw [ted_cons_cons c a as F₁ b bs G₁]
    simp only [List.append_assoc, List.cons_append] at *
    omega

theorem min_swap_last {d i m z : Nat} (h1 : min d (min i m) ≤ z) (h2 : z ≤ m) :
    min d (min i m) = min d (min i z) := by
  apply Nat.le_antisymm
  · exact Nat.le_min.mpr ⟨Nat.min_le_left _ _,
      Nat.le_min.mpr ⟨Nat.le_trans (Nat.min_le_right _ _) (Nat.min_le_left _ _), h1⟩⟩
  · exact Nat.le_min.mpr ⟨Nat.min_le_left _ _, Nat.le_trans (Nat.min_le_right _ _)
      (Nat.le_min.mpr ⟨Nat.min_le_left _ _, Nat.le_trans (Nat.min_le_right _ _) h2⟩)⟩

/-- Zhang–Shasha's form of the match case: the two right-most trees are matched against each other as
whole trees -/
theorem ted_cons_cons_zs (c : Cost) (a as F b bs G) :
    ted c (.node a as :: F) (.node b bs :: G) =
      min (ted c (as.reverse ++ F) (.node b bs :: G) + c.del a)
     (min (ted c (.node a as :: F) (bs.reverse ++ G) + c.ins b)
          (ted c F G + ted c [.node a as] [.node b bs])) := by
  have h2 := ted_match_le c a as [] b bs []
  rw [ted_nil_nil] at h2
  have h3 : ted c [.node a as] [.node b bs] + ted c F G ≤ ted c as.reverse bs.reverse + ted c F G + c.ren a b := by
    omega
  have h1 := ted_append_le c F G [.node a as] [.node b bs]
  rw [List.cons_append, List.nil_append, List.cons_append, List.nil_append, ted_cons_cons] at h1
  rw [ted_cons_cons, Nat.add_comm (ted c F G)]
  exact min_swap_last h1 h3
end PV.ZSProof
