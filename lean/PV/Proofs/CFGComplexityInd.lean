import PV.Proofs.CFGComplexityCases
/-!
Property C03 for the CFG mirror: the induction over the builder's calls, for an arbitrary scheme `S`; the case of a `try` with a non-empty
`finally` part enters as the hypothesis `TrySpec S E`, which each scheme discharges.
-/
namespace PV.CFGSound
open PV.CFG PV.CFGFin

theorem cnt_run {S : Sch} {E : List Edge} (sp : TrySpec S E) {st st' : St} {cl : Call} (h : Run st cl st') : Counted S E st st' cl := by
  induction h with
  | simple st s e cm hcm =>
    intro ⟨w, hf⟩ fc il _ _ he
    rw [sxS_simple, ldSX_simple]
    cases hcm
    · simp only [Bool.false_eq_true, ↓reduceIte]
      exact ⟨rfl, fun _ => ⟨he.reach, he.calm.add_other⟩, (fun h => by simp at h), S.J_empty rfl rfl rfl rfl, LTI.refl _ _ _⟩
    · simp only [↓reduceIte] at hf ⊢
      obtain ⟨h1, h2, h3⟩ := comp_cnt' st s e cm w (fun _ hx => hf.mem hx) he
      exact ⟨h1, fun _ => ⟨h2.reach, h2.calm.add_other⟩, (fun h => by simp at h), S.J_empty rfl rfl rfl rfl,
        (h3.mono (fun t ht => .inl ht)).of_edges_eq rfl⟩
  | ret st s e cm hcm => exact ret_cnt st s e cm hcm
  | brk st s e => exact brk_cnt st s e
  | cont st s e => exact cont_cnt st s e
  | raise st s e => exact raise_cnt st s e
  | def_ st s e b =>
    intro _ fc il _ _ he
    rw [sxS_def, ldSX_def]
    exact ⟨rfl, fun _ => ⟨he.reach, he.calm.add_other⟩, (fun h => by simp at h), S.J_empty rfl rfl rfl rfl, LTI.refl _ _ _⟩
  | handler st s e b => exact fun _ fc il _ hok => by rw [S.okS_handler] at hok; cases hok
  | case_ st s e b => exact fun _ fc il _ hok => by rw [S.okS_case] at hok; cases hok
  | @class_ st s e body s1 hr ih =>
    intro hcl fc il hc hok he
    have c1 := hcl.class_
    have w := hcl.wf
    rw [S.okS_class] at hok
    rw [sxS_class, ldSX_class]
    have hcur := w.cur
    have hr0 : R E st.next := R.step he.reach (c1.mem_start hr (List.mem_cons_self ..))
    have hcalm : Calm (setCur ((bump st).edge st.cur st.next .normal) st.next) st.next :=
      Untouched.calm (by untt [w.untouched (Nat.le_refl _)])
    -- `il = false`: a class body is outside every loop (`okS_class`)
    have hp := ih c1 fc false (S.ctx_of_eq (S.ctx_noLoop hc) rfl rfl) hok ⟨hr0, hcalm.add_other⟩
    exact Grow.post ((((Grow.refl E _ st).normal (a := st.cur) (.inl (Nat.le_refl _))).eq (s' := classPre st s e) rfl).call hp
      (fun t h => h.mono (Nat.le_succ _) id)) (Nat.zero_add _) hp.end_ hp.jmp
  | ite _ ih =>
    intro hcl fc il hc hok he
    rw [S.okS_ite, Bool.and_eq_true] at hok
    rw [sxS_ite, ldSX_ite]
    exact ih ⟨hcl.wf, hcl.fut⟩ fc il hc hok.1 hok.2 he
  | elifc _ ih =>
    intro hcl fc il hc hok he
    rw [S.okS_elifc, Bool.and_eq_true] at hok
    rw [sxS_elifc, ldSX_elifc]
    exact ih ⟨hcl.wf, hcl.fut⟩ fc il hc hok.1 hok.2 he
  | elsec _ ih =>
    intro hcl fc il hc hok he
    rw [S.okS_elsec] at hok
    rw [sxS_elsec, ldSX_elsec]
    exact ih ⟨hcl.wf, hcl.fut⟩ fc il hc hok he
  | loop_nil hr ih => exact loop_nil_cnt hr ih
  | loop_cons hr1 hr2 ih1 ih2 => exact loop_cons_cnt hr1 hr2 ih1 ih2
  | with_ hr ih => exact with_cnt hr ih
  | match_nil st s e =>
    intro ⟨w, hf⟩ fc il _ _ he
    rw [sxS_match, ldSX_match]
    obtain ⟨hu1, g1⟩ := matchPre_cnt (S := S) (E := E) w s e
    have hr : R E st.next := R.step he.reach (hf.mem (List.mem_cons_of_mem _ (List.mem_cons_self ..)))
    refine Grow.post (((g1 _).normal (a := st.next) (.inl (Nat.le_succ _))).eq rfl) (by rw [ldAltsX_nil]; rfl)
      ⟨fun _ => ⟨R.step hr (hf.mem (List.mem_cons_self ..)), ?_⟩, fun h => by simp at h⟩
      (by rw [sxAlts_nil]; exact S.J_empty rfl rfl rfl rfl)
    have : Calm ((matchPre st s e).edge st.next (st.next + 1) .normal) (st.next + 1) :=
      hu1.calm.edge (Nat.ne_of_lt (Nat.lt_succ_self _))
    exact this.congr rfl rfl
  | match_cons hr ih => exact match_cons_cnt hr ih
  | @try_ st s e body handlers orelse fin s3 finB elseB cfin nat ah s7 s8 s9 ha hr7 hr8 hr9 ih7 ih8 ih9 =>
    cases hne : fin.isEmpty
    · exact sp hne ha hr7 hr8 hr9 ih7 ih8 ih9
    · obtain rfl : fin = [] := List.isEmpty_iff.mp hne
      obtain rfl : s9 = s8 := ih9.1 rfl
      exact try_nofin_cnt ha hr7 hr8 ih7 ih8
  | nil st =>
    intro _ fc il _ _ he
    rw [sxL_nil, ldLX_nil]
    exact ⟨rfl, fun _ => he, (fun h => by simp at h), S.J_empty rfl rfl rfl rfl, LTI.refl _ _ _⟩
  | @cons st x xs s1 s2 hr1 hr2 ih1 ih2 =>
    intro hcl fc il hc hok he
    obtain ⟨c1, c2⟩ := hcl.cons hr1 hr2
    rw [S.okL_cons, Bool.and_eq_true] at hok
    rw [sxL_cons, ldLX_cons]
    have sm1 : Same st s1 := hr1.stacks
    have hn1 := c1.next_le hr1
    have px := ih1 c1 fc il hc hok.1 he
    have ihxs := ih2 c2 fc il (S.ctx_same hc sm1) hok.2
    cases hnx : (sxS x).ex.normal
    · -- `x` cannot fall through: the rest is processed from an unreachable block
      simp only [Bool.false_eq_true, ↓reduceIte, Nat.add_zero]
      obtain ⟨hcnt, hdead, hlti⟩ := dead_run c2.wf (c2.conv.own hr2) c2.fut (px.dead hnx) (TgG S st.next st.loops st.excs (sxS x).ex.brk)
      exact ⟨by rw [hcnt, px.cnt], (fun h => by rw [hnx] at h; cases h), fun _ => hdead, px.jmp, px.tgt.trans hlti⟩
    · simp only [↓reduceIte]
      have pxs := ihxs (px.normal hnx)
      exact Grow.post ((px.grow.mono (fun t h => h.mono (Nat.le_refl _) (fun hb => by simp [hb]))).call pxs (fun t h => by
        rw [sm1.loops, sm1.excs] at h
        exact h.mono hn1 (fun hb => by simp [hb]))) rfl pxs.end_ (S.J_or px.jmp (S.J_cast pxs.jmp sm1.loops.symm sm1.excs.symm) id id id id)
  | @if_nil st s e thn s3 hr ih =>
    intro hcl fc il hc hokt _ he
    have w := hcl.wf
    have hf : Fut E st.next _ _ := hcl.fut
    have H := ifHead_headG hr ih hcl.if_nil fc il w hc hokt he
    rw [sxL_nil, ldLX_nil]
    have J0 := nil_join H (fun e h => hf.mem h)
    have J := J0.congr (nrm' := ((sxL thn).ex.union { normal := true }).normal)
      (ex' := (sxL thn).ex.union { normal := true }) (n' := 1 + ldLX fc thn + 0) rfl (Bool.or_false _).symm
      (S.J_union J0.jmp (S.J_empty rfl rfl rfl rfl)) rfl
    exact J.post w hf (Nat.le_succ _) (by simp only [setCur_next, edgeUnlessExit_next, edge_next]; exact H.hnx)
  | @if_chain st s e thn l a b s' e' s3 s5 hch hr1 hr2 ih1 ih2 =>
    intro hcl fc il hc hokt hoke he
    obtain ⟨c1, c2⟩ := hcl.if_chain hr1 hr2
    have w := hcl.wf
    have H := ifHead_headG hr1 ih1 c1 fc il w hc hokt he
    have h13 : st.next + 1 < s3.next := H.hnx
    obtain ⟨hokab, hsx, hld⟩ := hch.cnt_facts fc hoke
    rw [hsx, hld]
    have J := ih2 c2 fc il st 2 st.next _ _ H rfl rfl hc hokab.1 hokab.2
    exact JoinG.post (ex := (sxL thn).ex.union ((sxL a).ex.union (sxL b).ex)) J w hcl.fut (Nat.le_succ _)
      (Nat.lt_of_lt_of_le h13 (c2.next_le hr2))
  | @if_else st s e thn o os s3 s5 _ _ hr1 hr2 ih1 ih2 =>
    intro hcl fc il hc hokt hoke he
    obtain ⟨c1, c2⟩ := hcl.if_else hr1 hr2
    have w := hcl.wf
    have hf : Fut E st.next _ _ := hcl.fut
    have H := ifHead_headG hr1 ih1 c1 fc il w hc hokt he
    have h15 : st.next + 1 < s5.next := Nat.lt_of_lt_of_le H.hnx (Nat.le_of_succ_le (c2.next_le hr2))
    have T := else_two' hr2 ih2 c2 fc il H hc hoke
    revert hf
    unfold elseJoin
    split
    · next hbt =>
      intro hf
      have J := T.term hbt (c2.conv.wf' hr2) (lo := st.next) (Nat.le_of_lt (Nat.lt_of_succ_lt h15)) hf
      exact JoinG.post (ex := (sxL thn).ex.union (sxL (o :: os)).ex) J w hf (Nat.le_succ _) (Nat.lt_succ_of_lt h15)
    · intro hf
      simp only [edgeUnlessExit_cur] at hf ⊢
      have J := (T.step (fun e h => hf.mem (eue_mem h))).join T.bm (fun e h => hf.mem h)
      exact JoinG.post (ex := (sxL thn).ex.union (sxL (o :: os)).ex) (J.congr (Bool.or_comm _ _) rfl J.jmp rfl) w hf (Nat.le_succ _)
        (by simp only [setCur_next, edgeUnlessExit_next]; exact h15)
  | elifTail hr ih => exact tail_join hr ih
  | @elif_nil st s e thn fm s3 hr ih =>
    intro hcl fc il lo hc hokt _ hctx h2lo hlo hfc hcm he
    have H := elifHead_headG hr ih hcl.elif_nil fc il hcl.wf hc hokt he hctx h2lo hlo hcl.conv.elif_fm hfc hcm
    rw [sxL_nil, ldLX_nil]
    have J0 := nil_join H (fun e h => Fut.mem (show Fut E st.next _ _ from hcl.fut) h)
    exact J0.congr rfl (Bool.or_false _).symm (S.J_union J0.jmp (S.J_empty rfl rfl rfl rfl)) rfl
  | @elif_chain st s e thn l a b fm s' e' s3 s5 hch hr1 hr2 ih1 ih2 =>
    intro hcl fc il lo hc hokt hoke hctx h2lo hlo hfc hcm he
    obtain ⟨c1, c2⟩ := hcl.elif_chain hr1 hr2
    have hfl : fm < st.next := hcl.conv.elif_fm
    have H := elifHead_headG hr1 ih1 c1 fc il hcl.wf hc hokt he hctx h2lo hlo hfl hfc hcm
    have hf3 : fm < s3.next := Nat.lt_of_lt_of_le hfl (Nat.le_trans (Nat.le_succ _) H.hnx)
    obtain ⟨hc4, hctx4, hcm4⟩ := H.facts4 hc
    obtain ⟨hokab, hsx, hld⟩ := hch.cnt_facts fc hoke
    have j := c2.conv.frame hr2 (Nat.le_refl _) (.inl rfl)
    rw [hsx, hld]
    obtain ⟨Q, _, _, hne⟩ := rec_step H j (c2.mem_start hr2 (List.mem_cons_self ..))
      (ih2 c2 fc il lo hc4 hokab.1 hokab.2 hctx4 h2lo hlo (Nat.ne_of_lt hf3) hcm4)
    exact Q.join hne (fun e h => Fut.mem (show Fut E st.next _ _ from hcl.fut) h)
  | @elif_else st s e thn fm o os s3 s5 _ _ hr1 hr2 ih1 ih2 =>
    intro hcl fc il lo hc hokt hoke hctx h2lo hlo hfc hcm he
    obtain ⟨c1, c2⟩ := hcl.elif_else hr1 hr2
    have hf : Fut E st.next _ _ := hcl.fut
    have H := elifHead_headG hr1 ih1 c1 fc il hcl.wf hc hokt he hctx h2lo hlo hcl.conv.elif_fm hfc hcm
    have T := else_two' hr2 ih2 c2 fc il H hc hoke
    revert hf
    unfold elseJoin
    split
    · next hbt =>
      exact fun hf => T.term hbt (c2.conv.wf' hr2) (lo := st.next)
        (Nat.le_trans (Nat.le_trans (Nat.le_succ _) H.hnx) (Nat.le_of_succ_le (c2.next_le hr2))) hf
    · intro hf
      unfold finishElif at hf ⊢
      exact (T.symm.step (fun e h => hf.mem (eue_mem h))).join T.am (fun e h => hf.mem h)
  | cases_nil st mb merge =>
    intro _ fc il n0 fl _ _ _ _ hfl1 _
    rw [sxAlts_nil, ldAltsX_nil]
    refine ⟨(Grow.refl _ _ _).cast (by simp), S.J_empty rfl rfl rfl rfl, ?_⟩
    rintro (h | h)
    · exact hfl1 h
    · exact absurd rfl h
  | cases_case hr1 hr2 ih1 ih2 => exact cases_case_cnt hr1 hr2 ih1 ih2
  | @cases_other st x cs mb merge s1 s2 hne _ _ _ _ =>
    intro _ fc il n0 fl _ _ _ hok
    obtain ⟨s, e, a, rfl, -, -⟩ := S.okCases_cons hok
    exact absurd rfl (hne s e a)
  | handlers_nil_l st hbs after =>
    intro _ fc il _ _ _ _
    rw [sxAlts_nil, ldAltsX_nil]
    exact ⟨rfl, ff, S.J_empty rfl rfl rfl rfl, LTI.refl _ _ _⟩
  | handlers_nil_r st hs after =>
    intro hcl fc il _ _ _ _
    obtain rfl : hs = [] := List.eq_nil_of_length_eq_zero (Nat.le_zero.mp hcl.conv.handlers_len)
    rw [sxAlts_nil, ldAltsX_nil]
    exact ⟨rfl, ff, S.J_empty rfl rfl rfl rfl, LTI.refl _ _ _⟩
  | handlers_handler hr1 hr2 ih1 ih2 => exact handlers_handler_cnt hr1 hr2 ih1 ih2
  | @handlers_other st x hs hb hbs after s1 s2 hne _ _ _ _ =>
    intro _ fc il _ hok
    obtain ⟨s, e, a, rfl, -, -⟩ := S.okHs_cons hok
    exact absurd rfl (hne s e a)
  | tryMid hr1 hr2 ih1 ih2 => exact tryMid_cnt hr1 hr2 ih1 ih2
  | tryElse_none s7 elseB ah orelse =>
    intro _ fc' il bn hE _ _ hlive _
    obtain rfl : orelse = [] := List.isEmpty_iff.mp (by simpa using hE.symm)
    simp only [Bool.false_eq_true, ↓reduceIte, List.isEmpty_nil, ldLX_nil, sxL_nil] at hlive ⊢
    refine ⟨(Grow.refl _ _ _).cast (by simp), fun h => (hlive h).1, ?_, ?_⟩
    · split <;> exact S.J_empty rfl rfl rfl rfl
    · split
      · intro _; assumption
      · intro h; cases h
  | tryElse_some hr ih => exact tryElse_some_cnt hr ih
  | tryFin_none s8 finB exitBk ctx excs0 fin => exact ⟨fun _ => rfl, fun h => by cases h⟩
  | tryFin_some hr ih => exact ⟨fun h => (by cases h), fun _ => ⟨_, hr, ih, rfl⟩⟩

end PV.CFGSound

#print axioms PV.CFGSound.cnt_run
