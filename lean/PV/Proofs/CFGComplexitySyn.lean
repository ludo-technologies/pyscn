import PV.Proofs.CFGComplexityFinDefs
/-!
Property C03 — syntactic facts about the fragments: `okCL` (`finally` empty) is contained in `okFL` (`okFL_of_okCL`), `okFL` is
`okLC` (`okF_eq_okLC`), on `okCL` the count `ldLX` is `ldL` (`ldLX_eq_ldL` / `ldLF_eq_ldL`), every piece of code of `okFL` has
some structural exit (`sx_exit`).
-/
namespace PV.CFGFin
open PV.CFG PV.CFGSound

/-- along the recursion of `okCL`: the clauses agree, except that `okCS` asks the `finally` part of a `try` to be empty -/
theorem okC_le_okF : (∀ il ss, okCL il ss = true → okFL il ss = true) ∧ (∀ il x, okCS il x = true → okFS il x = true) ∧
    (∀ il hs, okCHs il hs = true → okFHs il hs = true) ∧ (∀ il cs, okCCases il cs = true → okFCases il cs = true) := by
  apply okCL.mutual_induct
  all_goals intros
  -- the `try` clause: `d.isEmpty` gives `d = []`, and `okFL il [] = true`
  all_goals simp_all only [okCL, okCS, okCHs, okCCases, okFL, okFS, okFHs, okFCases, Bool.and_eq_true, and_self, Bool.false_eq_true,
    List.isEmpty_iff]

theorem okFL_of_okCL (ss : List Stmt) (il : Bool) (h : okCL il ss = true) : okFL il ss = true :=
  okC_le_okF.1 il ss h

/-- `okFL` is `okLC`, the fragment of the completeness theorem: the same recursion, clause by clause -/
theorem okF_eq_okLC : (∀ il ss, okFL il ss = okLC il ss) ∧ (∀ il x, okFS il x = okSC il x) ∧
    (∀ il hs, okFHs il hs = okHsC il hs) ∧ (∀ il cs, okFCases il cs = okCasesC il cs) := by
  apply okLC.mutual_induct
  all_goals intros
  all_goals simp only [okFL, okFS, okFHs, okFCases, okLC, okSC, okHsC, okCasesC, *]

/-- along the recursion of `okCL`, in a context without a pending `finally`: the clauses of `ldLX` are those of `ldL` -/
theorem ldX_eq_ld :
    (∀ il ss, okCL il ss = true → ∀ fc : FC, fc.pf = false → ldLX fc ss = ldL fc.nh ss) ∧
    (∀ il x, okCS il x = true → ∀ fc : FC, fc.pf = false → ldSX fc x = ldS fc.nh x) ∧
    (∀ il hs, okCHs il hs = true → ∀ fc : FC, fc.pf = false → ldAltsX fc hs = ldAlts fc.nh hs) ∧
    (∀ il cs, okCCases il cs = true → ∀ fc : FC, fc.pf = false → ldAltsX fc cs = ldAlts fc.nh cs) := by
  apply okCL.mutual_induct
  all_goals intros
  all_goals simp only [okCL, okCS, okCHs, okCCases, Bool.and_eq_true, Bool.false_eq_true] at *
  all_goals simp only [ldLX, ldSX, ldAltsX, ldL, ldS, ldAlts, ↓reduceIte, *]
  -- left: a `try` (its `finally` part is empty), whose parts are counted in the context `fc.inTry`; that has no pending `finally`
  -- either, and there a `raise` counts as many edges as `ldS` says
  rename_i iha ihh ihc fc hpf hok
  rw [iha hok.1.1.1 (fc.inTry _) hpf, ihh hok.1.1.2 (fc.inTry _) hpf, ihc hok.1.2 (fc.inTry _) hpf, inTry_nh fc _ hpf]

theorem ldLX_eq_ldL (ss : List Stmt) (il : Bool) (h : okCL il ss = true) (fc : FC) (hpf : fc.pf = false) :
    ldLX fc ss = ldL fc.nh ss :=
  ldX_eq_ld.1 il ss h fc hpf

theorem ldLF_eq_ldL (ss : List Stmt) (il : Bool) (h : okCL il ss = true) (nh : Nat) : ldLF nh ss = ldL nh ss :=
  ldLX_eq_ldL ss il h (FC.top nh) rfl

/-- every piece of code of the fragment has some structural exit: `S4.exSome`, on the same fragment (`okFL` = `okLC` = `okL4` =
`S4.okL3 · false`) -/
theorem sx_exit (ss : List Stmt) (il : Bool) (h : okFL il ss = true) :
    (sxL ss).ex.normal = true ∨ (sxL ss).ex.ret = true ∨ (sxL ss).ex.raise = true ∨
      (il = true ∧ ((sxL ss).ex.brk = true ∨ (sxL ss).ex.cont = true)) :=
  S4.exSome ss il false (by rw [S4_eq_okL4.1, ← okLC_eq_okL4.1, ← okF_eq_okLC.1]; exact h)

theorem sx_exitS (x : Stmt) (il : Bool) (h : okFS il x = true) :
    (sxS x).ex.normal = true ∨ (sxS x).ex.ret = true ∨ (sxS x).ex.raise = true ∨
      (il = true ∧ ((sxS x).ex.brk = true ∨ (sxS x).ex.cont = true)) := by
  have := sx_exit [x] il (by rw [okFL_cons, okFL_nil, h]; rfl)
  rwa [(sxL_single x).2.2] at this

end PV.CFGFin

#print axioms PV.CFGFin.okFL_of_okCL
#print axioms PV.CFGFin.ldLX_eq_ldL
#print axioms PV.CFGFin.ldLF_eq_ldL
#print axioms PV.CFGFin.sx_exit
