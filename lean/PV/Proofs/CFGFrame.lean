import PV.Proofs.CFGReach
/-!
The vocabulary of frame reasoning about the CFG mirror (`PV.CFG`): named state updates, well-formedness `WF` (block ids stay
below `next`), the frame relation `Inv c n s0 s` (`s` extends `s0` only by edges whose source, and records whose block, is `c` or
a block `≥ n`: the block current on entry, or one allocated during the call; the block current at the end is such a block too) and
`Ext`, the same without the clause on the current block, with one lemma per primitive update, `Sub` (the edges and records of
one state are among those of another: what `Ext` and `Inv` say when the owners are forgotten) and `Same` (the loop and exception
stacks are restored).  That every builder function is framed in this sense is `frame_all` (CFGFrameA).
-/
namespace PV.CFGSound
open PV.CFG

def bump (s : St) : St := { s with next := s.next + 1 }
def bumpU (s : St) : St := { s with next := s.next + 1, unreach := s.next :: s.unreach }
def bumpN (s : St) (k : Nat) : St := { s with next := s.next + k }
def setCur (s : St) (c : Nat) : St := { s with cur := c }
def setLoops (s : St) (l : List (Nat × Nat × Nat)) : St := { s with loops := l }
def setExcs (s : St) (x : List Exc) : St := { s with excs := x }

section simp_lemmas
variable (s : St) (a b c k : Nat) (t : ETy) (ty : Ty) (l : List (Nat × Nat × Nat)) (x : List Exc) (p q : Nat)
@[simp] theorem bump_next : (bump s).next = s.next + 1 := rfl
@[simp] theorem bump_cur : (bump s).cur = s.cur := rfl
@[simp] theorem bump_edges : (bump s).edges = s.edges := rfl
@[simp] theorem bump_stmts : (bump s).stmts = s.stmts := rfl
@[simp] theorem bump_loops : (bump s).loops = s.loops := rfl
@[simp] theorem bump_excs : (bump s).excs = s.excs := rfl
@[simp] theorem bumpU_next : (bumpU s).next = s.next + 1 := rfl
@[simp] theorem bumpU_cur : (bumpU s).cur = s.cur := rfl
@[simp] theorem bumpU_edges : (bumpU s).edges = s.edges := rfl
@[simp] theorem bumpU_stmts : (bumpU s).stmts = s.stmts := rfl
@[simp] theorem bumpU_loops : (bumpU s).loops = s.loops := rfl
@[simp] theorem bumpU_excs : (bumpU s).excs = s.excs := rfl
@[simp] theorem bumpN_next : (bumpN s k).next = s.next + k := rfl
@[simp] theorem bumpN_cur : (bumpN s k).cur = s.cur := rfl
@[simp] theorem bumpN_edges : (bumpN s k).edges = s.edges := rfl
@[simp] theorem bumpN_stmts : (bumpN s k).stmts = s.stmts := rfl
@[simp] theorem bumpN_loops : (bumpN s k).loops = s.loops := rfl
@[simp] theorem bumpN_excs : (bumpN s k).excs = s.excs := rfl
@[simp] theorem setCur_next : (setCur s c).next = s.next := rfl
@[simp] theorem setCur_cur : (setCur s c).cur = c := rfl
@[simp] theorem setCur_edges : (setCur s c).edges = s.edges := rfl
@[simp] theorem setCur_stmts : (setCur s c).stmts = s.stmts := rfl
@[simp] theorem setCur_loops : (setCur s c).loops = s.loops := rfl
@[simp] theorem setCur_excs : (setCur s c).excs = s.excs := rfl
@[simp] theorem setLoops_next : (setLoops s l).next = s.next := rfl
@[simp] theorem setLoops_cur : (setLoops s l).cur = s.cur := rfl
@[simp] theorem setLoops_edges : (setLoops s l).edges = s.edges := rfl
@[simp] theorem setLoops_stmts : (setLoops s l).stmts = s.stmts := rfl
@[simp] theorem setLoops_loops : (setLoops s l).loops = l := rfl
@[simp] theorem setLoops_excs : (setLoops s l).excs = s.excs := rfl
@[simp] theorem setExcs_next : (setExcs s x).next = s.next := rfl
@[simp] theorem setExcs_cur : (setExcs s x).cur = s.cur := rfl
@[simp] theorem setExcs_edges : (setExcs s x).edges = s.edges := rfl
@[simp] theorem setExcs_stmts : (setExcs s x).stmts = s.stmts := rfl
@[simp] theorem setExcs_loops : (setExcs s x).loops = s.loops := rfl
@[simp] theorem setExcs_excs : (setExcs s x).excs = x := rfl
@[simp] theorem edge_next : (s.edge a b t).next = s.next := rfl
@[simp] theorem edge_cur : (s.edge a b t).cur = s.cur := rfl
@[simp] theorem edge_edges : (s.edge a b t).edges = (a, b, t) :: s.edges := rfl
@[simp] theorem edge_stmts : (s.edge a b t).stmts = s.stmts := rfl
@[simp] theorem edge_loops : (s.edge a b t).loops = s.loops := rfl
@[simp] theorem edge_excs : (s.edge a b t).excs = s.excs := rfl
@[simp] theorem add_next : (s.add b p q ty).next = s.next := rfl
@[simp] theorem add_cur : (s.add b p q ty).cur = s.cur := rfl
@[simp] theorem add_edges : (s.add b p q ty).edges = s.edges := rfl
@[simp] theorem add_stmts : (s.add b p q ty).stmts = { blk := b, s := p, e := q, ty := ty } :: s.stmts := rfl
@[simp] theorem add_loops : (s.add b p q ty).loops = s.loops := rfl
@[simp] theorem add_excs : (s.add b p q ty).excs = s.excs := rfl
end simp_lemmas

@[simp] theorem edgeUnlessExit_next (s : St) (a b : Nat) (t : ETy) : (s.edgeUnlessExit a b t).next = s.next := by
  unfold St.edgeUnlessExit; split <;> rfl
@[simp] theorem edgeUnlessExit_cur (s : St) (a b : Nat) (t : ETy) : (s.edgeUnlessExit a b t).cur = s.cur := by
  unfold St.edgeUnlessExit; split <;> rfl
@[simp] theorem edgeUnlessExit_stmts (s : St) (a b : Nat) (t : ETy) : (s.edgeUnlessExit a b t).stmts = s.stmts := by
  unfold St.edgeUnlessExit; split <;> rfl
@[simp] theorem edgeUnlessExit_loops (s : St) (a b : Nat) (t : ETy) : (s.edgeUnlessExit a b t).loops = s.loops := by
  unfold St.edgeUnlessExit; split <;> rfl
@[simp] theorem edgeUnlessExit_excs (s : St) (a b : Nat) (t : ETy) : (s.edgeUnlessExit a b t).excs = s.excs := by
  unfold St.edgeUnlessExit; split <;> rfl

theorem edgeUnlessExit_cases (s : St) (a b : Nat) (t : ETy) :
    (s.hasSucc a exitB = true ∧ s.edgeUnlessExit a b t = s) ∨ (s.hasSucc a exitB = false ∧ s.edgeUnlessExit a b t = s.edge a b t) := by
  unfold St.edgeUnlessExit
  cases h : s.hasSucc a exitB <;> simp

abbrev Own (c n x : Nat) : Prop := x = c ∨ n ≤ x

structure WF (s : St) : Prop where
  two : 2 ≤ s.next
  cur : s.cur < s.next
  edges : ∀ e ∈ s.edges, e.1 < s.next ∧ e.2.1 < s.next
  stmts : ∀ r ∈ s.stmts, r.blk < s.next
  loops : ∀ l ∈ s.loops, l.1 < s.next ∧ l.2.1 < s.next
  excs : ∀ c ∈ s.excs, (∀ f, c.fin = some f → f < s.next) ∧ ∀ h ∈ c.handlers, h < s.next

structure Inv (c n : Nat) (s0 s : St) : Prop where
  wf : WF s
  next_le : s0.next ≤ s.next
  own : Own c n s.cur
  edges : ∃ ne, s.edges = ne ++ s0.edges ∧ ∀ e ∈ ne, Own c n e.1
  stmts : ∃ ns, s.stmts = ns ++ s0.stmts ∧ ∀ r ∈ ns, Own c n r.blk

structure Same (s0 s : St) : Prop where
  loops : s.loops = s0.loops
  excs : s.excs = s0.excs

theorem Same.refl (s : St) : Same s s := ⟨rfl, rfl⟩
theorem Same.trans {a b c : St} (h₁ : Same a b) (h₂ : Same b c) : Same a c := ⟨h₂.loops.trans h₁.loops, h₂.excs.trans h₁.excs⟩
theorem Same.eue {s s1 : St} {a b : Nat} {t : ETy} (sm : Same s s1) : Same s (s1.edgeUnlessExit a b t) :=
  ⟨(edgeUnlessExit_loops ..).trans sm.loops, (edgeUnlessExit_excs ..).trans sm.excs⟩

variable {c n : Nat} {s0 s s' : St}

/-- `Inv` without `own`: the frame of a call that makes a block of its own current before it adds anything, or that ends in a block
handed to it only as a target -/
structure Ext (c n : Nat) (s0 s : St) : Prop where
  wf : WF s
  next_le : s0.next ≤ s.next
  edges : ∃ ne, s.edges = ne ++ s0.edges ∧ ∀ e ∈ ne, Own c n e.1
  stmts : ∃ ns, s.stmts = ns ++ s0.stmts ∧ ∀ r ∈ ns, Own c n r.blk

theorem Inv.ext (i : Inv c n s0 s) : Ext c n s0 s := ⟨i.wf, i.next_le, i.edges, i.stmts⟩
theorem Ext.inv (i : Ext c n s0 s) (h : Own c n s.cur) : Inv c n s0 s := ⟨i.wf, i.next_le, h, i.edges, i.stmts⟩

theorem Ext.refl (w : WF s) : Ext c n s s := ⟨w, Nat.le_refl _, ⟨[], rfl, by simp⟩, ⟨[], rfl, by simp⟩⟩

theorem Ext.trans (i : Ext c n s0 s) (j : Ext c n s s') : Ext c n s0 s' := by
  obtain ⟨ne, he, hne⟩ := i.edges
  obtain ⟨ne', he', hne'⟩ := j.edges
  obtain ⟨ns, hs, hns⟩ := i.stmts
  obtain ⟨ns', hs', hns'⟩ := j.stmts
  refine ⟨j.wf, Nat.le_trans i.next_le j.next_le, ⟨ne' ++ ne, by rw [he', he, List.append_assoc], ?_⟩,
    ⟨ns' ++ ns, by rw [hs', hs, List.append_assoc], ?_⟩⟩
  · intro e h; rcases List.mem_append.mp h with h | h
    · exact hne' e h
    · exact hne e h
  · intro r h; rcases List.mem_append.mp h with h | h
    · exact hns' r h
    · exact hns r h

theorem WF.mono_bounds (w : WF s) {s' : St} (hn : s.next ≤ s'.next) (he : s'.edges = s.edges) (hs : s'.stmts = s.stmts)
    (hl : s'.loops = s.loops) (hx : s'.excs = s.excs) (hc : s'.cur < s'.next) : WF s' := by
  refine ⟨by have := w.two; omega, hc, ?_, ?_, ?_, ?_⟩
  · intro e h; rw [he] at h; have := w.edges e h; omega
  · intro r h; rw [hs] at h; have := w.stmts r h; omega
  · intro l h; rw [hl] at h; have := w.loops l h; omega
  · intro c h; rw [hx] at h; have := w.excs c h
    exact ⟨fun f hf => by have := this.1 f hf; omega, fun x hx => by have := this.2 x hx; omega⟩

theorem Ext.bump (i : Ext c n s0 s) : Ext c n s0 (bump s) :=
  ⟨i.wf.mono_bounds (by simp) rfl rfl rfl rfl (by have := i.wf.cur; simp; omega), by have := i.next_le; simp; omega, i.edges, i.stmts⟩

theorem Ext.bumpU (i : Ext c n s0 s) : Ext c n s0 (bumpU s) :=
  ⟨i.wf.mono_bounds (by simp) rfl rfl rfl rfl (by have := i.wf.cur; simp; omega), by have := i.next_le; simp; omega, i.edges, i.stmts⟩

theorem Ext.bumpN (i : Ext c n s0 s) (k : Nat) : Ext c n s0 (bumpN s k) :=
  ⟨i.wf.mono_bounds (by simp) rfl rfl rfl rfl (by have := i.wf.cur; simp; omega), by have := i.next_le; simp; omega, i.edges, i.stmts⟩

theorem Ext.setCur (i : Ext c n s0 s) {x : Nat} (hlt : x < s.next) : Ext c n s0 (setCur s x) :=
  ⟨i.wf.mono_bounds (Nat.le_refl _) rfl rfl rfl rfl hlt, i.next_le, i.edges, i.stmts⟩

theorem Ext.edge (i : Ext c n s0 s) {a b : Nat} {t : ETy} (ha : Own c n a) (hlt : a < s.next) (hb : b < s.next) :
    Ext c n s0 (s.edge a b t) := by
  obtain ⟨ne, he, hne⟩ := i.edges
  refine ⟨⟨i.wf.two, i.wf.cur, ?_, i.wf.stmts, i.wf.loops, i.wf.excs⟩, i.next_le, ⟨(a, b, t) :: ne, by simp [he], ?_⟩, i.stmts⟩
  · intro e h
    simp only [edge_edges, List.mem_cons] at h
    rcases h with rfl | h
    · exact ⟨hlt, hb⟩
    · exact i.wf.edges e h
  · intro e h
    rcases List.mem_cons.mp h with rfl | h
    · exact ha
    · exact hne e h

theorem Ext.edgeUnlessExit (i : Ext c n s0 s) {a b : Nat} {t : ETy} (ha : Own c n a) (hlt : a < s.next) (hb : b < s.next) :
    Ext c n s0 (s.edgeUnlessExit a b t) := by
  rcases edgeUnlessExit_cases s a b t with ⟨_, h⟩ | ⟨_, h⟩ <;> rw [h]
  · exact i
  · exact i.edge ha hlt hb

theorem Ext.add (i : Ext c n s0 s) {b p q : Nat} {ty : Ty} (hb : Own c n b) (hlt : b < s.next) :
    Ext c n s0 (s.add b p q ty) := by
  obtain ⟨ns, hs, hns⟩ := i.stmts
  refine ⟨⟨i.wf.two, i.wf.cur, i.wf.edges, ?_, i.wf.loops, i.wf.excs⟩, i.next_le, i.edges,
    ⟨{ blk := b, s := p, e := q, ty := ty } :: ns, by simp [hs], ?_⟩⟩
  · intro r h
    simp only [add_stmts, List.mem_cons] at h
    rcases h with rfl | h
    · exact hlt
    · exact i.wf.stmts r h
  · intro r h
    rcases List.mem_cons.mp h with rfl | h
    · exact hb
    · exact hns r h

theorem Ext.setLoops (i : Ext c n s0 s) {l : List (Nat × Nat × Nat)} (h : ∀ x ∈ l, x.1 < s.next ∧ x.2.1 < s.next) :
    Ext c n s0 (setLoops s l) :=
  ⟨⟨i.wf.two, i.wf.cur, i.wf.edges, i.wf.stmts, h, i.wf.excs⟩, i.next_le, i.edges, i.stmts⟩

theorem Ext.setExcs (i : Ext c n s0 s) {x : List Exc}
    (h : ∀ c ∈ x, (∀ f, c.fin = some f → f < s.next) ∧ ∀ h ∈ c.handlers, h < s.next) : Ext c n s0 (setExcs s x) :=
  ⟨⟨i.wf.two, i.wf.cur, i.wf.edges, i.wf.stmts, i.wf.loops, h⟩, i.next_le, i.edges, i.stmts⟩

theorem Inv.refl (w : WF s) (h : Own c n s.cur) : Inv c n s s := (Ext.refl w).inv h
theorem Inv.trans (i : Inv c n s0 s) (j : Inv c n s s') : Inv c n s0 s' := (i.ext.trans j.ext).inv j.own
theorem Inv.mono {c' n' : Nat} (i : Inv c n s0 s) (h : ∀ x, Own c n x → Own c' n' x) : Inv c' n' s0 s := by
  obtain ⟨ne, he, hne⟩ := i.edges
  obtain ⟨ns, hs, hns⟩ := i.stmts
  exact ⟨i.wf, i.next_le, h _ i.own, ⟨ne, he, fun e hm => h _ (hne e hm)⟩, ⟨ns, hs, fun r hm => h _ (hns r hm)⟩⟩
theorem Inv.bump (i : Inv c n s0 s) : Inv c n s0 (bump s) := i.ext.bump.inv i.own
theorem Inv.bumpU (i : Inv c n s0 s) : Inv c n s0 (bumpU s) := i.ext.bumpU.inv i.own
theorem Inv.bumpN (i : Inv c n s0 s) (k : Nat) : Inv c n s0 (bumpN s k) := (i.ext.bumpN k).inv i.own
theorem Inv.setCur (i : Inv c n s0 s) {x : Nat} (hx : Own c n x) (hlt : x < s.next) : Inv c n s0 (setCur s x) :=
  (i.ext.setCur hlt).inv hx
theorem Inv.edge (i : Inv c n s0 s) {a b : Nat} {t : ETy} (ha : Own c n a) (hlt : a < s.next) (hb : b < s.next) :
    Inv c n s0 (s.edge a b t) :=
  (i.ext.edge ha hlt hb).inv i.own
theorem Inv.edgeUnlessExit (i : Inv c n s0 s) {a b : Nat} {t : ETy} (ha : Own c n a) (hlt : a < s.next) (hb : b < s.next) :
    Inv c n s0 (s.edgeUnlessExit a b t) :=
  (i.ext.edgeUnlessExit ha hlt hb).inv ((edgeUnlessExit_cur ..).symm ▸ i.own)
theorem Inv.add (i : Inv c n s0 s) {b p q : Nat} {ty : Ty} (hb : Own c n b) (hlt : b < s.next) :
    Inv c n s0 (s.add b p q ty) :=
  (i.ext.add hb hlt).inv i.own
theorem Inv.setLoops (i : Inv c n s0 s) {l : List (Nat × Nat × Nat)} (h : ∀ x ∈ l, x.1 < s.next ∧ x.2.1 < s.next) :
    Inv c n s0 (setLoops s l) :=
  (i.ext.setLoops h).inv i.own
theorem Inv.setExcs (i : Inv c n s0 s) {x : List Exc}
    (h : ∀ c ∈ x, (∀ f, c.fin = some f → f < s.next) ∧ ∀ h ∈ c.handlers, h < s.next) : Inv c n s0 (setExcs s x) :=
  (i.ext.setExcs h).inv i.own

def Sub (s s' : St) : Prop := (∀ e ∈ s.edges, e ∈ s'.edges) ∧ (∀ r ∈ s.stmts, r ∈ s'.stmts)

theorem Sub.refl (s : St) : Sub s s := ⟨fun _ h => h, fun _ h => h⟩
theorem Sub.trans {a b c : St} (h₁ : Sub a b) (h₂ : Sub b c) : Sub a c :=
  ⟨fun e h => h₂.1 e (h₁.1 e h), fun r h => h₂.2 r (h₁.2 r h)⟩

theorem Ext.sub {c n : Nat} {s s' : St} (i : Ext c n s s') : Sub s s' := by
  obtain ⟨ne, he, _⟩ := i.edges
  obtain ⟨ns, hs, _⟩ := i.stmts
  exact ⟨fun e h => by rw [he]; exact List.mem_append.mpr (.inr h), fun r h => by rw [hs]; exact List.mem_append.mpr (.inr h)⟩
theorem Inv.sub {c n : Nat} {s s' : St} (i : Inv c n s s') : Sub s s' := i.ext.sub

/-- `s` extends `s0` by edges all of which satisfy `P`.  The target frame `TI` (the target satisfies `G`) and its live version `LTI`
are this formula written out for their `P` and take their lemmas from here; `Inv.edges` is it for `P e`: the source is owned. -/
def NewE (P : Edge → Prop) (s0 s : St) : Prop := ∃ ne, s.edges = ne ++ s0.edges ∧ ∀ e ∈ ne, P e

section newE
variable {P P' : Edge → Prop} {s0 s s' : St}

theorem NewE.refl (P : Edge → Prop) (s : St) : NewE P s s := ⟨[], rfl, fun _ h => nomatch h⟩

theorem NewE.trans (h₁ : NewE P s0 s) (h₂ : NewE P s s') : NewE P s0 s' := by
  obtain ⟨n1, e1, p1⟩ := h₁
  obtain ⟨n2, e2, p2⟩ := h₂
  exact ⟨n2 ++ n1, by rw [e2, e1, List.append_assoc], fun e h => (List.mem_append.mp h).elim (p2 e) (p1 e)⟩

theorem NewE.mono (h : NewE P s0 s) (hp : ∀ e, P e → P' e) : NewE P' s0 s :=
  h.imp fun _ h => ⟨h.1, fun e he => hp e (h.2 e he)⟩

theorem NewE.of_edges_eq (h : NewE P s0 s) (he : s'.edges = s.edges) : NewE P s0 s' :=
  h.imp fun _ h => ⟨he.trans h.1, h.2⟩

theorem NewE.edge (h : NewE P s0 s) {a b : Nat} {t : ETy} (hp : P (a, b, t)) : NewE P s0 (s.edge a b t) := by
  obtain ⟨ne, h1, h2⟩ := h
  exact ⟨(a, b, t) :: ne, by rw [edge_edges, h1]; rfl, fun e he => (List.mem_cons.mp he).elim (fun h => h ▸ hp) (h2 e)⟩

theorem NewE.eue (h : NewE P s0 s) {a b : Nat} {t : ETy} (hp : P (a, b, t)) : NewE P s0 (s.edgeUnlessExit a b t) := by
  rcases edgeUnlessExit_cases s a b t with ⟨_, h'⟩ | ⟨_, h'⟩ <;> rw [h']
  · exact h
  · exact h.edge hp

theorem NewE.foldl (src : Nat) (t : ETy) : ∀ (hs : List Nat) (s : St), NewE P s0 s → (∀ h ∈ hs, P (src, h, t)) →
    NewE P s0 (hs.foldl (fun st h => st.edge src h t) s)
  | [], _, h, _ => h
  | x :: hs, _, h, hp =>
    NewE.foldl src t hs _ (h.edge (hp x (List.mem_cons_self ..))) (fun y hy => hp y (List.mem_cons_of_mem _ hy))

end newE

/-- a jump: an edge from the current block to an existing block, then a fresh "unreachable" block becomes current -/
theorem Inv.jump (i : Inv c n s0 s) (hn : n ≤ s.next) {b : Nat} (hb : b < s.next) (t : ETy) :
    Inv c n s0 (CFGSound.setCur (CFGSound.bumpU (s.edge s.cur b t)) s.next) :=
  (i.edge (t := t) i.own i.wf.cur hb).bumpU.setCur (Or.inr hn) (Nat.lt_succ_self _)

theorem WF.loops_le (w : WF s) {m : Nat} (h : s.next ≤ m) : ∀ x ∈ s.loops, x.1 < m ∧ x.2.1 < m :=
  fun x hx => by have := w.loops x hx; omega
theorem WF.excs_le (w : WF s) {m : Nat} (h : s.next ≤ m) :
    ∀ c ∈ s.excs, (∀ f, c.fin = some f → f < m) ∧ ∀ h ∈ c.handlers, h < m :=
  fun c hc => ⟨fun f hf => by have := (w.excs c hc).1 f hf; omega, fun x hx => by have := (w.excs c hc).2 x hx; omega⟩

theorem Own.fresh {x : Nat} (h : n ≤ x) : Own c n x := Or.inr h
theorem Own.ne_of_lt {x m : Nat} (h : Own c n x) (h1 : m ≠ c) (h2 : m < n) : x ≠ m :=
  h.elim (fun hx hm => h1 (hm.symm.trans hx)) (fun hx hm => Nat.lt_irrefl m (Nat.lt_of_lt_of_le h2 (hm ▸ hx)))

end PV.CFGSound
