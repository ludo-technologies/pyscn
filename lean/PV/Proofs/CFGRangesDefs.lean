import PV.Proofs.CFGComplete

/-!
Reported ranges of the dead-code detector of the CFG mirror (C01): the notions the induction over the builder is stated in.
Well-formed source spans (`wfL` / `wfS`, `WFLoc`) with their induction `wf_ind`; the tagged lines `tlL` of well-formed code lie inside
its lines, in increasing order (`tb_all`: the records carry these spans, hence the bounds `Bd` of the records of a call, `Run.bd`),
so there is one tagged line per start line (`tl_unique`), and the head of an `elif` clause is one with tag 2 (`elifL_tl`);
the invariant `SI` on the record list and its pairwise part `Rel`; what a call establishes (`RPost`; `RQL` / `RQS` are the statements
of the induction); the blocks of a call are reachable only if the block it is entered through is (`zoneR`); the header record of a
class is in a reachable block (`cls_header_reach`).  `GZ` / `GC` and the other notions that speak of records and blocks only are in
`CFGRecords`.
-/
namespace PV.CFGSound
open PV.CFG

/-- the line after the end of a statement list that starts at or after `p` -/
def posL (p : Nat) : List Stmt → Nat
  | [] => p
  | x :: xs => posL (x.span.2 + 1) xs

-- both `decreasing_by` blocks are written with the same `simp only` set, and each uses one of its two lemmas
set_option linter.unusedSimpArgs false in
mutual
  /-- the statements of the list start at or after line `p`, one after the other -/
  def wfL (p : Nat) : List Stmt → Bool
    | [] => true
    | x :: xs => decide (p ≤ x.span.1) && wfS x && wfL (x.span.2 + 1) xs
  termination_by l => 2 * sizeL l
  decreasing_by
    all_goals (try simp_wf)
    all_goals (try simp only [Stmt.size, sizeL])
    all_goals omega
  /-- `s ≤ e`, and the parts of a compound statement lie after its start line, inside its span, in source order -/
  def wfS : Stmt → Bool
    | .simple s e _ _ | .ret s e _ _ | .brk s e | .cont s e | .raise s e | .def_ s e _ => decide (s ≤ e)
    | .ite s e a b | .elifc s e a b | .loop s e a b =>
      decide (s ≤ e) && wfL (s + 1) a && wfL (posL (s + 1) a) b && decide (posL (posL (s + 1) a) b ≤ e + 1)
    | .elsec s e a | .handler s e a | .with_ s e a | .match_ s e a | .case_ s e a | .class_ s e a =>
      decide (s ≤ e) && wfL (s + 1) a && decide (posL (s + 1) a ≤ e + 1)
    | .try_ s e a hs c d =>
      decide (s ≤ e) && wfL (s + 1) a && wfL (posL (s + 1) a) hs && wfL (posL (posL (s + 1) a) hs) c &&
        wfL (posL (posL (posL (s + 1) a) hs) c) d && decide (posL (posL (posL (posL (s + 1) a) hs) c) d ≤ e + 1)
  termination_by x => 2 * x.size + 1
  decreasing_by
    all_goals (try simp_wf)
    all_goals (try simp only [Stmt.size, sizeL])
    all_goals omega
end

/-- all start lines are ≥ 1, one statement per line, children inside the parent span, in source order -/
def WFLoc (body : List Stmt) : Prop := wfL 1 body = true

instance (body : List Stmt) : Decidable (WFLoc body) := by unfold WFLoc; infer_instance

theorem posL_nil (p : Nat) : posL p [] = p := rfl
theorem posL_cons (p : Nat) (x : Stmt) (xs : List Stmt) : posL p (x :: xs) = posL (x.span.2 + 1) xs := rfl

theorem wfL_nil (p : Nat) : wfL p [] = true := wfL.eq_1 ..
theorem wfL_cons (p : Nat) (x : Stmt) (xs : List Stmt) :
    wfL p (x :: xs) = (decide (p ≤ x.span.1) && wfS x && wfL (x.span.2 + 1) xs) := wfL.eq_2 ..
theorem wfS_simple (s e : Nat) (c : List Bool) (h : Bool) : wfS (.simple s e c h) = decide (s ≤ e) := wfS.eq_1 ..
theorem wfS_ret (s e : Nat) (c : List Bool) (h : Bool) : wfS (.ret s e c h) = decide (s ≤ e) := wfS.eq_2 ..
theorem wfS_brk (s e : Nat) : wfS (.brk s e) = decide (s ≤ e) := wfS.eq_3 ..
theorem wfS_cont (s e : Nat) : wfS (.cont s e) = decide (s ≤ e) := wfS.eq_4 ..
theorem wfS_raise (s e : Nat) : wfS (.raise s e) = decide (s ≤ e) := wfS.eq_5 ..
theorem wfS_def (s e : Nat) (b : List Stmt) : wfS (.def_ s e b) = decide (s ≤ e) := wfS.eq_6 ..
theorem wfS_ite (s e : Nat) (a b : List Stmt) : wfS (.ite s e a b) =
    (decide (s ≤ e) && wfL (s + 1) a && wfL (posL (s + 1) a) b && decide (posL (posL (s + 1) a) b ≤ e + 1)) := wfS.eq_7 ..
theorem wfS_elifc (s e : Nat) (a b : List Stmt) : wfS (.elifc s e a b) =
    (decide (s ≤ e) && wfL (s + 1) a && wfL (posL (s + 1) a) b && decide (posL (posL (s + 1) a) b ≤ e + 1)) := wfS.eq_8 ..
theorem wfS_loop (s e : Nat) (a b : List Stmt) : wfS (.loop s e a b) =
    (decide (s ≤ e) && wfL (s + 1) a && wfL (posL (s + 1) a) b && decide (posL (posL (s + 1) a) b ≤ e + 1)) := wfS.eq_9 ..
theorem wfS_elsec (s e : Nat) (a : List Stmt) : wfS (.elsec s e a) = (decide (s ≤ e) && wfL (s + 1) a && decide (posL (s + 1) a ≤ e + 1)) := wfS.eq_10 ..
theorem wfS_handler (s e : Nat) (a : List Stmt) : wfS (.handler s e a) = (decide (s ≤ e) && wfL (s + 1) a && decide (posL (s + 1) a ≤ e + 1)) := wfS.eq_11 ..
theorem wfS_with (s e : Nat) (a : List Stmt) : wfS (.with_ s e a) = (decide (s ≤ e) && wfL (s + 1) a && decide (posL (s + 1) a ≤ e + 1)) := wfS.eq_12 ..
theorem wfS_match (s e : Nat) (a : List Stmt) : wfS (.match_ s e a) = (decide (s ≤ e) && wfL (s + 1) a && decide (posL (s + 1) a ≤ e + 1)) := wfS.eq_13 ..
theorem wfS_case (s e : Nat) (a : List Stmt) : wfS (.case_ s e a) = (decide (s ≤ e) && wfL (s + 1) a && decide (posL (s + 1) a ≤ e + 1)) := wfS.eq_14 ..
theorem wfS_class (s e : Nat) (a : List Stmt) : wfS (.class_ s e a) = (decide (s ≤ e) && wfL (s + 1) a && decide (posL (s + 1) a ≤ e + 1)) := wfS.eq_15 ..
theorem wfS_try (s e : Nat) (a hs c d : List Stmt) : wfS (.try_ s e a hs c d) =
    (decide (s ≤ e) && wfL (s + 1) a && wfL (posL (s + 1) a) hs && wfL (posL (posL (s + 1) a) hs) c &&
      wfL (posL (posL (posL (s + 1) a) hs) c) d && decide (posL (posL (posL (posL (s + 1) a) hs) c) d ≤ e + 1)) := wfS.eq_16 ..

theorem wfS_le {x : Stmt} (h : wfS x = true) : x.span.1 ≤ x.span.2 := by
  cases x <;> simp only [wfS, Bool.and_eq_true, decide_eq_true_eq] at h <;> simp only [Stmt.span] <;> omega

theorem posL_ge : ∀ (ss : List Stmt) (p : Nat), wfL p ss = true → p ≤ posL p ss
  | [], _, _ => Nat.le_refl _
  | x :: xs, p, h => by
    rw [wfL_cons] at h
    simp only [Bool.and_eq_true, decide_eq_true_eq] at h
    have := posL_ge xs _ h.2
    have := wfS_le h.1.2
    rw [posL_cons]; omega

theorem wfL_mono : ∀ (ss : List Stmt) {p q : Nat}, q ≤ p → wfL p ss = true → wfL q ss = true
  | [], _, _, _, _ => wfL_nil _
  | x :: xs, p, q, hq, h => by
    rw [wfL_cons] at h ⊢
    simp only [Bool.and_eq_true, decide_eq_true_eq] at h ⊢
    exact ⟨⟨by omega, h.1.2⟩, h.2⟩

theorem posL_of_ne_nil : ∀ (ss : List Stmt) (p q : Nat), ss ≠ [] → posL p ss = posL q ss
  | [], _, _, h => absurd rfl h
  | _ :: _, _, _, _ => rfl

/-- a well-formed compound statement `s … e` with one part (`Wf2`: two parts): the parts follow the header line in order, inside the span -/
structure Wf1 (s e : Nat) (a : List Stmt) : Prop where
  le : s ≤ e
  wa : wfL (s + 1) a = true
  ga : s + 1 ≤ posL (s + 1) a
  q : posL (s + 1) a ≤ e + 1

structure Wf2 (s e : Nat) (a b : List Stmt) : Prop where
  le : s ≤ e
  wa : wfL (s + 1) a = true
  wb : wfL (posL (s + 1) a) b = true
  ga : s + 1 ≤ posL (s + 1) a
  gb : posL (s + 1) a ≤ posL (posL (s + 1) a) b
  q : posL (posL (s + 1) a) b ≤ e + 1

theorem Wf1.of {s e : Nat} {a : List Stmt} (h : (decide (s ≤ e) && wfL (s + 1) a && decide (posL (s + 1) a ≤ e + 1)) = true) : Wf1 s e a := by
  simp only [Bool.and_eq_true, decide_eq_true_eq] at h
  exact ⟨h.1.1, h.1.2, posL_ge a _ h.1.2, h.2⟩

theorem Wf2.of {s e : Nat} {a b : List Stmt}
    (h : (decide (s ≤ e) && wfL (s + 1) a && wfL (posL (s + 1) a) b && decide (posL (posL (s + 1) a) b ≤ e + 1)) = true) : Wf2 s e a b := by
  simp only [Bool.and_eq_true, decide_eq_true_eq] at h
  exact ⟨h.1.1.1, h.1.1.2, h.1.2, posL_ge a _ h.1.1.2, posL_ge b _ h.1.2, h.2⟩

theorem Wf2.wf1 {s e : Nat} {a b : List Stmt} (h : Wf2 s e a b) : Wf1 s e a := ⟨h.le, h.wa, h.ga, Nat.le_trans h.gb h.q⟩

theorem Wf2.ite {s e : Nat} {a b : List Stmt} (h : Wf2 s e a b) : wfS (.ite s e a b) = true := by
  rw [wfS_ite]
  simp only [Bool.and_eq_true, decide_eq_true_eq]
  exact ⟨⟨⟨h.le, h.wa⟩, h.wb⟩, h.q⟩

/-- structural induction over well-formed code: `wfS` / `wfL` are unpacked once, the parts come with their positions -/
theorem wf_ind {PS : Stmt → Prop} {PL : Nat → List Stmt → Prop}
    (simple : ∀ s e c h, s ≤ e → PS (.simple s e c h)) (ret : ∀ s e c h, s ≤ e → PS (.ret s e c h))
    (brk : ∀ s e, s ≤ e → PS (.brk s e)) (cont : ∀ s e, s ≤ e → PS (.cont s e)) (raise : ∀ s e, s ≤ e → PS (.raise s e))
    (ite : ∀ s e a b, Wf2 s e a b → PL (s + 1) a → PL (posL (s + 1) a) b → PS (.ite s e a b))
    (elifc : ∀ s e a b, Wf2 s e a b → PL (s + 1) a → PL (posL (s + 1) a) b → PS (.elifc s e a b))
    (elsec : ∀ s e a, Wf1 s e a → PL (s + 1) a → PS (.elsec s e a))
    (loop : ∀ s e a b, Wf2 s e a b → PL (s + 1) a → PL (posL (s + 1) a) b → PS (.loop s e a b))
    (try_ : ∀ s e a hs c d, Wf2 s e a hs → wfL (posL (posL (s + 1) a) hs) c = true →
      wfL (posL (posL (posL (s + 1) a) hs) c) d = true → posL (posL (s + 1) a) hs ≤ posL (posL (posL (s + 1) a) hs) c →
      posL (posL (posL (s + 1) a) hs) c ≤ posL (posL (posL (posL (s + 1) a) hs) c) d →
      posL (posL (posL (posL (s + 1) a) hs) c) d ≤ e + 1 →
      PL (s + 1) a → PL (posL (s + 1) a) hs → PL (posL (posL (s + 1) a) hs) c → PL (posL (posL (posL (s + 1) a) hs) c) d →
      PS (.try_ s e a hs c d))
    (handler : ∀ s e a, Wf1 s e a → PL (s + 1) a → PS (.handler s e a))
    (with_ : ∀ s e a, Wf1 s e a → PL (s + 1) a → PS (.with_ s e a))
    (match_ : ∀ s e a, Wf1 s e a → PL (s + 1) a → PS (.match_ s e a))
    (case_ : ∀ s e a, Wf1 s e a → PL (s + 1) a → PS (.case_ s e a))
    (def_ : ∀ s e a, s ≤ e → PS (.def_ s e a))
    (class_ : ∀ s e a, Wf1 s e a → PL (s + 1) a → PS (.class_ s e a))
    (nil : ∀ p, PL p [])
    (cons : ∀ p x xs, p ≤ x.span.1 → x.span.1 ≤ x.span.2 → wfS x = true → wfL (x.span.2 + 1) xs = true →
      x.span.2 + 1 ≤ posL (x.span.2 + 1) xs → PS x → PL (x.span.2 + 1) xs → PL p (x :: xs)) :
    (∀ x, wfS x = true → PS x) ∧ (∀ ss p, wfL p ss = true → PL p ss) := by
  refine stmt_rs_ind (PS := fun x => wfS x = true → PS x) (PL := fun ss => ∀ p, wfL p ss = true → PL p ss)
    ?_ ?_ ?_ ?_ ?_ ?_ ?_ ?_ ?_ ?_ ?_ ?_ ?_ ?_ ?_ ?_ ?_ ?_
  · intro s e c h hw; rw [wfS_simple, decide_eq_true_eq] at hw; exact simple s e c h hw
  · intro s e c h hw; rw [wfS_ret, decide_eq_true_eq] at hw; exact ret s e c h hw
  · intro s e hw; rw [wfS_brk, decide_eq_true_eq] at hw; exact brk s e hw
  · intro s e hw; rw [wfS_cont, decide_eq_true_eq] at hw; exact cont s e hw
  · intro s e hw; rw [wfS_raise, decide_eq_true_eq] at hw; exact raise s e hw
  · intro s e a b iha ihb hw; rw [wfS_ite] at hw; have w := Wf2.of hw; exact ite s e a b w (iha _ w.wa) (ihb _ w.wb)
  · intro s e a b iha ihb hw; rw [wfS_elifc] at hw; have w := Wf2.of hw; exact elifc s e a b w (iha _ w.wa) (ihb _ w.wb)
  · intro s e a iha hw; rw [wfS_elsec] at hw; have w := Wf1.of hw; exact elsec s e a w (iha _ w.wa)
  · intro s e a b iha ihb hw; rw [wfS_loop] at hw; have w := Wf2.of hw; exact loop s e a b w (iha _ w.wa) (ihb _ w.wb)
  · intro s e a hs c d iha ihh ihc ihd hw
    rw [wfS_try] at hw
    simp only [Bool.and_eq_true, decide_eq_true_eq] at hw
    obtain ⟨⟨⟨⟨⟨hse, wa⟩, wh⟩, wc⟩, wd⟩, hq⟩ := hw
    have g3 := posL_ge c _ wc
    have g4 := posL_ge d _ wd
    exact try_ s e a hs c d ⟨hse, wa, wh, posL_ge a _ wa, posL_ge hs _ wh, Nat.le_trans g3 (Nat.le_trans g4 hq)⟩ wc wd g3 g4 hq (iha _ wa) (ihh _ wh) (ihc _ wc) (ihd _ wd)
  · intro s e a iha hw; rw [wfS_handler] at hw; have w := Wf1.of hw; exact handler s e a w (iha _ w.wa)
  · intro s e a iha hw; rw [wfS_with] at hw; have w := Wf1.of hw; exact with_ s e a w (iha _ w.wa)
  · intro s e a iha hw; rw [wfS_match] at hw; have w := Wf1.of hw; exact match_ s e a w (iha _ w.wa)
  · intro s e a iha hw; rw [wfS_case] at hw; have w := Wf1.of hw; exact case_ s e a w (iha _ w.wa)
  · intro s e a hw; rw [wfS_def, decide_eq_true_eq] at hw; exact def_ s e a hw
  · intro s e a iha hw; rw [wfS_class] at hw; have w := Wf1.of hw; exact class_ s e a w (iha _ w.wa)
  · intro p _; exact nil p
  · intro x xs hx hxs p hw
    rw [wfL_cons] at hw
    simp only [Bool.and_eq_true, decide_eq_true_eq] at hw
    exact cons p x xs hw.1.1 (wfS_le hw.1.2) hw.1.2 hw.2 (posL_ge xs _ hw.2) (hx hw.1.2) (hxs _ hw.2)

/-- all tagged lines of `A` lie inside lines `p … q-1`, and `A` is strictly increasing in the start line -/
def TB (p q : Nat) (A : List TLine) : Prop :=
  (∀ x ∈ A, p ≤ x.1 ∧ x.1 ≤ x.2.1 ∧ x.2.1 < q) ∧ A.Pairwise (fun a b => a.1 < b.1)

section tb
variable {p q p' q' m s e tag : Nat} {A B : List TLine}

theorem TB.nil : TB p q [] := ⟨fun _ h => (by cases h), List.Pairwise.nil⟩

theorem TB.mono (h : TB p q A) (hp : p' ≤ p) (hq : q ≤ q') : TB p' q' A :=
  ⟨fun x hx => by have := h.1 x hx; omega, h.2⟩

theorem TB.seq (h₁ : TB p m A) (h₂ : TB m q B) (h1 : p ≤ m) (h2 : m ≤ q) : TB p q (A ++ B) := by
  refine ⟨?_, List.pairwise_append.mpr ⟨h₁.2, h₂.2, ?_⟩⟩
  · intro x hx
    rcases List.mem_append.mp hx with hx | hx
    · have := h₁.1 x hx; omega
    · have := h₂.1 x hx; omega
  · intro a ha b hb
    have := h₁.1 a ha
    have := h₂.1 b hb
    omega

theorem TB.hdr (h : TB (s + 1) q A) (hse : s ≤ e) (hq : q ≤ e + 1) : TB s (e + 1) ((s, e, tag) :: A) := by
  refine ⟨?_, List.pairwise_cons.mpr ⟨?_, h.2⟩⟩
  · intro x hx
    rcases List.mem_cons.mp hx with rfl | hx
    · exact ⟨Nat.le_refl s, hse, Nat.lt_succ_self e⟩
    · have := h.1 x hx; omega
  · intro b hb
    have := h.1 b hb
    show s < b.1
    omega
end tb

theorem tb_all :
    (∀ x : Stmt, wfS x = true → TB x.span.1 (x.span.2 + 1) (tlS x)) ∧
    (∀ ss : List Stmt, ∀ p, wfL p ss = true → TB p (posL p ss) (tlL ss)) := by
  have leaf : ∀ s e : Nat, s ≤ e → TB s (e + 1) [(s, e, 1)] := fun s e h => TB.hdr (q := e + 1) TB.nil h (Nat.le_refl _)
  refine wf_ind (PS := fun x => TB x.span.1 (x.span.2 + 1) (tlS x)) (PL := fun p ss => TB p (posL p ss) (tlL ss))
    ?_ ?_ ?_ ?_ ?_ ?_ ?_ ?_ ?_ ?_ ?_ ?_ ?_ ?_ ?_ ?_ ?_ ?_
  · intro s e c h hw; rw [tlS_simple]; exact leaf s e hw
  · intro s e c h hw; rw [tlS_ret]; exact leaf s e hw
  · intro s e hw; rw [tlS_brk]; exact leaf s e hw
  · intro s e hw; rw [tlS_cont]; exact leaf s e hw
  · intro s e hw; rw [tlS_raise]; exact leaf s e hw
  · intro s e a b w iha ihb; rw [tlS_ite, List.cons_append]; exact TB.hdr (iha.seq ihb w.ga w.gb) w.le w.q
  · intro s e a b w iha ihb; rw [tlS_elifc, List.cons_append]; exact TB.hdr (iha.seq ihb w.ga w.gb) w.le w.q
  · intro s e a w iha; rw [tlS_elsec]; exact iha.mono (Nat.le_succ s) w.q
  · intro s e a b w iha ihb; rw [tlS_loop, List.cons_append]; exact TB.hdr (iha.seq ihb w.ga w.gb) w.le w.q
  · intro s e a hs c d w _ _ g3 g4 hq iha ihh ihc ihd
    have g1 := w.ga
    have g2 := w.gb
    rw [tlS_try]
    exact (((iha.seq ihh g1 g2).seq ihc (by omega) g3).seq ihd (by omega) g4).mono (Nat.le_succ s) hq
  · intro s e a w iha; rw [tlS_handler]; exact TB.hdr iha w.le w.q
  · intro s e a w iha; rw [tlS_with]; exact TB.hdr iha w.le w.q
  · intro s e a w iha; rw [tlS_match]; exact TB.hdr iha w.le w.q
  · intro s e a w iha; rw [tlS_case]; exact TB.hdr iha w.le w.q
  · intro s e a hw; rw [tlS_def]; exact leaf s e hw
  · intro s e a w iha; rw [tlS_class]; exact TB.hdr iha w.le w.q
  · intro p; rw [tlL_nil]; exact TB.nil
  · intro p x xs hp hle _ _ hg hx hxs
    rw [tlL_cons, posL_cons]
    exact (hx.mono hp (Nat.le_refl _)).seq hxs (by omega) hg

theorem tl_bounds (ss : List Stmt) (p : Nat) (hw : wfL p ss = true) :
    ∀ x ∈ tlL ss, p ≤ x.1 ∧ x.1 ≤ x.2.1 ∧ x.2.1 < posL p ss :=
  (tb_all.2 ss p hw).1

theorem tl_sorted (ss : List Stmt) (p : Nat) (hw : wfL p ss = true) : (tlL ss).Pairwise (fun a b => a.1 < b.1) :=
  (tb_all.2 ss p hw).2

theorem pairwise_lt_unique : ∀ (A : List TLine), A.Pairwise (fun a b => a.1 < b.1) →
    ∀ x ∈ A, ∀ y ∈ A, x.1 = y.1 → x = y
  | [], _, _, hx, _, _, _ => by cases hx
  | z :: A, h, x, hx, y, hy, hxy => by
    obtain ⟨hz, hA⟩ := List.pairwise_cons.mp h
    rcases List.mem_cons.mp hx with hx' | hx'
    · rcases List.mem_cons.mp hy with hy' | hy'
      · rw [hx', hy']
      · have := hz y hy'; rw [hx'] at hxy; omega
    · rcases List.mem_cons.mp hy with hy' | hy'
      · have := hz x hx'; rw [hy'] at hxy; omega
      · exact pairwise_lt_unique A hA x hx' y hy' hxy

theorem tl_unique (ss : List Stmt) (p : Nat) (hw : wfL p ss = true) :
    ∀ x ∈ tlL ss, ∀ y ∈ tlL ss, x.1 = y.1 → x = y :=
  pairwise_lt_unique _ (tl_sorted ss p hw)

theorem elifL_tl (ss : List Stmt) : ∀ l ∈ elifL ss, ∃ e, (l, e, 2) ∈ tlL ss := fun _ => (proj_all.2 ss).of_elif

structure Rel (E : List Edge) (newer older : SRec) : Prop where
  /-- located records are stored in source order -/
  ord : 1 ≤ older.s → 1 ≤ newer.s → older.s ≤ newer.s
  /-- a record that starts inside the span of an older one is reachable only if the older one is -/
  nest : 1 ≤ newer.s → newer.s ≤ older.e → R E newer.blk → R E older.blk
  /-- the records of one line (a comprehension) are reachable together -/
  same : 1 ≤ older.s → older.s = newer.s → R E older.blk → R E newer.blk

/-- bounds of a record added while code inside lines `p … q-1` is processed (`0..0`: the test of a converted `elif`) -/
def Bd (p q : Nat) (r : SRec) : Prop := (r.s = 0 ∧ r.e = 0) ∨ (p ≤ r.s ∧ r.s ≤ r.e ∧ r.e < q)

theorem Bd.mono {p q p' q' : Nat} {r : SRec} (h : Bd p q r) (hp : p' ≤ p) (hq : q ≤ q') : Bd p' q' r := by
  rcases h with h | h
  · exact .inl h
  · exact .inr ⟨by omega, h.2.1, by omega⟩

/-- the invariant on the record list `L` (newest first) before code at lines `≥ p` is processed; `a` is the anchor block: a record
whose span is still open at `p` is reachable if `a` is -/
structure SI (E : List Edge) (L : List SRec) (a p : Nat) : Prop where
  pos : 1 ≤ p
  pw : L.Pairwise (Rel E)
  lt : ∀ r ∈ L, r.s < p
  opn : ∀ r ∈ L, p ≤ r.e → R E a → R E r.blk

section si
variable {E : List Edge} {L : List SRec} {a a' p p' : Nat}

theorem SI.mono (h : SI E L a p) (hp : p ≤ p') : SI E L a p' :=
  ⟨Nat.le_trans h.pos hp, h.pw, fun r hr => Nat.lt_of_lt_of_le (h.lt r hr) hp, fun r hr he => h.opn r hr (Nat.le_trans hp he)⟩

theorem SI.anchor (h : SI E L a p) (ha : R E a' → R E a) : SI E L a' p :=
  ⟨h.pos, h.pw, h.lt, fun r hr he hr' => h.opn r hr he (ha hr')⟩

/-- the test of a converted `elif` (location 0..0) may be stored anywhere -/
theorem SI.zero (h : SI E L a p) (b : Nat) (ty : Ty) : SI E ({ blk := b, s := 0, e := 0, ty := ty } :: L) a p := by
  refine ⟨h.pos, List.pairwise_cons.mpr ⟨?_, h.pw⟩, ?_, ?_⟩
  · intro r _
    exact ⟨fun _ h1 => by simp at h1, fun h1 => by simp at h1, fun h1 h2 => by simp at h2; omega⟩
  · intro r hr
    rcases List.mem_cons.mp hr with rfl | hr
    · exact h.pos
    · exact h.lt r hr
  · intro r hr he
    rcases List.mem_cons.mp hr with rfl | hr
    · have := h.pos; simp at he; omega
    · exact h.opn r hr he

/-- records of ONE line `s` (one statement; several for a comprehension), all in blocks that are reachable iff the anchor is -/
theorem SI.batch (h : SI E L a p) {s e : Nat} (hs : p ≤ s) : ∀ (ns : List SRec),
    (∀ r ∈ ns, r.s = s ∧ r.e = e ∧ (R E r.blk ↔ R E a)) → SI E (ns ++ L) a (s + 1)
  | [], _ => h.mono (by omega)
  | n :: ns, hn => by
    have ih := SI.batch h hs ns (fun r hr => hn r (List.mem_cons_of_mem _ hr))
    obtain ⟨n1, n2, n3⟩ := hn n (List.mem_cons_self ..)
    have hp := h.pos
    refine ⟨by omega, ?_, ?_, ?_⟩
    · rw [List.cons_append]
      refine List.pairwise_cons.mpr ⟨?_, ih.pw⟩
      intro r hr
      rcases List.mem_append.mp hr with hr | hr
      · obtain ⟨r1, r2, r3⟩ := hn r (List.mem_cons_of_mem _ hr)
        exact ⟨fun _ _ => by omega, fun _ _ hh => r3.mpr (n3.mp hh), fun _ _ hh => n3.mpr (r3.mp hh)⟩
      · have hlt := h.lt r hr
        refine ⟨fun _ _ => by omega, fun _ hle hh => h.opn r hr (by omega) (n3.mp hh), fun _ heq _ => by omega⟩
    · intro r hr
      rw [List.cons_append] at hr
      rcases List.mem_cons.mp hr with rfl | hr
      · omega
      · exact ih.lt r hr
    · intro r hr he hra
      rw [List.cons_append] at hr
      rcases List.mem_cons.mp hr with rfl | hr
      · exact n3.mpr hra
      · exact ih.opn r hr he hra

theorem SI.cons (h : SI E L a p) {b s e : Nat} {ty : Ty} (hs : p ≤ s) (h1 : R E b → R E a) (h2 : R E a → R E b) :
    SI E ({ blk := b, s := s, e := e, ty := ty } :: L) a (s + 1) :=
  SI.batch (e := e) h hs [{ blk := b, s := s, e := e, ty := ty }] (fun r hr => by
    rw [List.mem_singleton.mp hr]; exact ⟨rfl, rfl, h1, h2⟩)

theorem SI.after (h : SI E L a p) {L' : List SRec} {q : Nat} (hx : ∃ ns, L' = ns ++ L ∧ ∀ r ∈ ns, Bd p q r) (hpw : L'.Pairwise (Rel E))
    (hp : p ≤ p') (hq : q ≤ p') : SI E L' a p' := by
  obtain ⟨ns, rfl, hb⟩ := hx
  have hpos := h.pos
  refine ⟨by omega, hpw, ?_, ?_⟩
  · intro r hr
    rcases List.mem_append.mp hr with hr | hr
    · rcases hb r hr with hh | hh <;> omega
    · have := h.lt r hr; omega
  · intro r hr he
    rcases List.mem_append.mp hr with hr | hr
    · rcases hb r hr with hh | hh <;> omega
    · exact h.opn r hr (by omega)
end si

/-- what a framed call on code inside lines `p … q-1` establishes (`L`, `L'`: the record lists before / after, `c'`: the block that
is current afterwards) -/
structure RPost (E : List Edge) (L L' : List SRec) (c' p q : Nat) : Prop where
  ext : ∃ ns, L' = ns ++ L ∧ ∀ r ∈ ns, Bd p q r
  pw : L'.Pairwise (Rel E)
  gc : GC L' c'

theorem RPost.si {E : List Edge} {L L' : List SRec} {a c' p q p' : Nat} (h : RPost E L L' c' p q) (hs : SI E L a p) (hp : p ≤ p') (hq : q ≤ p') :
    SI E L' a p' := hs.after h.ext h.pw hp hq

theorem RPost.mono {E : List Edge} {L L' : List SRec} {c' p q p' q' : Nat} (h : RPost E L L' c' p q) (hp : p' ≤ p) (hq : q ≤ q') :
    RPost E L L' c' p' q' := by
  obtain ⟨ns, h1, h2⟩ := h.ext
  exact ⟨⟨ns, h1, fun r hr => (h2 r hr).mono hp hq⟩, h.pw, h.gc⟩

theorem RPost.trans {E : List Edge} {L L' L'' : List SRec} {c' c'' p q : Nat} (h₁ : RPost E L L' c' p q) (h₂ : RPost E L' L'' c'' p q) :
    RPost E L L'' c'' p q := by
  obtain ⟨n1, e1, b1⟩ := h₁.ext
  obtain ⟨n2, e2, b2⟩ := h₂.ext
  refine ⟨⟨n2 ++ n1, by rw [e2, e1, List.append_assoc], fun r hr => ?_⟩, h₂.pw, h₂.gc⟩
  rcases List.mem_append.mp hr with hr | hr
  · exact b2 r hr
  · exact b1 r hr

/-- the statement of the induction for a list: from a well-formed state whose records satisfy `SI` and `GC`, with `E` a final edge list
that adds no edge into the blocks of the call (`Fut`), `procList` establishes `RPost` -/
def RQL (E : List Edge) (ss : List Stmt) : Prop :=
  ∀ (il : Bool) (st : St) (p : Nat), WF st → okLC il ss = true → Fut E st.next (procList st ss).next (procList st ss) → wfL p ss = true →
    SI E st.stmts st.cur p → GC st.stmts st.cur →
    RPost E st.stmts (procList st ss).stmts (procList st ss).cur p (posL p ss)

def RQS (E : List Edge) (x : Stmt) : Prop :=
  ∀ (il : Bool) (st : St) (p : Nat), WF st → okSC il x = true → Fut E st.next (procStmt st x).next (procStmt st x) → wfS x = true → p ≤ x.span.1 →
    SI E st.stmts st.cur p → GC st.stmts st.cur →
    RPost E st.stmts (procStmt st x).stmts (procStmt st x).cur p (x.span.2 + 1)

/-- block 2 of a class definition, which holds the header record, is reachable in the final graph -/
theorem cls_header_reach (s e : Nat) (body : List Stmt) : R (build .cls s e body).edges 2 := by
  have ipre := preB_inv .cls s e
  obtain ⟨j, _⟩ := procList_frame body _ ipre.wf 0 0 (Or.inr (Nat.zero_le _)) (Nat.zero_le _)
  rw [build_eq]
  exact R.step (t := .normal) R.entry (finishB_edges_sub _ _ (j.sub.1 (0, 2, .normal) (by simp [preB])))

/-- every block of a call within the convention is reachable only if the block `a` the call is entered through is (`Owns`: the call adds
edges from no other block that existed before) -/
theorem zoneR {E : List Edge} {st s' : St} {cl : Call} {a : Nat} (h : Conv st cl) (hr : Run st cl s') (ho : Owns a st.next st cl)
    (f : Fut E st.next s'.next s') : ∀ b, Own a st.next b → b < s'.next → R E b → R E a := by
  intro b hb hlt r
  apply Classical.byContradiction
  intro hd
  exact (h.frame hr (Nat.le_refl _) ho).dead h.wf f hd b hb hlt r

end PV.CFGSound

#print axioms PV.CFGSound.tl_bounds
#print axioms PV.CFGSound.tl_sorted
#print axioms PV.CFGSound.tl_unique
#print axioms PV.CFGSound.elifL_tl
