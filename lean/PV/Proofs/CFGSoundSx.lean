import PV.Proofs.CFGEqns
import PV.Proofs.CFGSoundDefs
import PV.Properties.C01
/-!
Unfolding equations of the static summary `sxL` / `sxS` / `sxAlts` and of the fragment predicate
`okL` / `okS` / `okCases`, and the order `LE` in which the summary is at least as generous as the semantic
over-approximation `PV.Py.live` (proved in CFGSound4: `S4.live_le_sx3`).
-/
namespace PV.CFGSound
open PV.CFG PV.Py

theorem sxL_nil : sxL [] = { ex := { normal := true } } := sxL.eq_1 ..
theorem sxL_cons (x : Stmt) (xs : List Stmt) :
    sxL (x :: xs) =
      if (sxS x).ex.normal then
        { lines := (sxS x).lines ++ (sxL xs).lines, skipped := (sxS x).skipped ++ (sxL xs).skipped,
          ex := { normal := (sxL xs).ex.normal, ret := (sxS x).ex.ret || (sxL xs).ex.ret, brk := (sxS x).ex.brk || (sxL xs).ex.brk,
                  cont := (sxS x).ex.cont || (sxL xs).ex.cont, raise := (sxS x).ex.raise || (sxL xs).ex.raise } }
      else sxS x :=
  sxL.eq_2 ..
theorem sxAlts_nil : sxAlts [] = {} := sxAlts.eq_1 ..
theorem sxAlts_cons (x : Stmt) (xs : List Stmt) :
    sxAlts (x :: xs) = {
      lines := (sxS x).lines ++ (sxAlts xs).lines, skipped := (sxS x).skipped ++ (sxAlts xs).skipped,
      ex := (sxS x).ex.union (sxAlts xs).ex } :=
  sxAlts.eq_2 ..

theorem sxS_simple (s e : Nat) (c : List Bool) (h : Bool) : sxS (.simple s e c h) = { lines := [s], ex := { normal := true } } := sxS.eq_1 ..
theorem sxS_def (s e : Nat) (b : List Stmt) : sxS (.def_ s e b) = { lines := [s], ex := { normal := true } } := sxS.eq_2 ..
theorem sxS_ret (s e : Nat) (c : List Bool) (h : Bool) : sxS (.ret s e c h) = { lines := [s], ex := { ret := true } } := sxS.eq_3 ..
theorem sxS_brk (s e : Nat) : sxS (.brk s e) = { lines := [s], ex := { brk := true } } := sxS.eq_4 ..
theorem sxS_cont (s e : Nat) : sxS (.cont s e) = { lines := [s], ex := { cont := true } } := sxS.eq_5 ..
theorem sxS_raise (s e : Nat) : sxS (.raise s e) = { lines := [s], ex := { raise := true } } := sxS.eq_6 ..
theorem sxS_ite (s e : Nat) (a b : List Stmt) :
    sxS (.ite s e a b) = {
      lines := s :: (sxL a).lines ++ (sxL b).lines, skipped := (sxL a).skipped ++ (sxL b).skipped,
      ex := (sxL a).ex.union (sxL b).ex } := sxS.eq_7 ..
theorem sxS_elifc (s e : Nat) (a b : List Stmt) :
    sxS (.elifc s e a b) = {
      lines := (sxL a).lines ++ (sxL b).lines, skipped := s :: (sxL a).skipped ++ (sxL b).skipped,
      ex := (sxL a).ex.union (sxL b).ex } := sxS.eq_8 ..
theorem sxS_elsec (s e : Nat) (a : List Stmt) : sxS (.elsec s e a) = sxL a := sxS.eq_9 ..
theorem sxS_loop (s e : Nat) (a b : List Stmt) :
    sxS (.loop s e a b) = {
      lines := s :: (sxL a).lines ++ (sxL b).lines, skipped := (sxL a).skipped ++ (sxL b).skipped,
      ex := {
              normal := (sxL a).ex.brk || (sxL b).ex.normal, ret := (sxL a).ex.ret || (sxL b).ex.ret, brk := (sxL b).ex.brk,
              cont := (sxL b).ex.cont, raise := (sxL a).ex.raise || (sxL b).ex.raise } } := sxS.eq_10 ..
theorem sxS_with (s e : Nat) (a : List Stmt) :
    sxS (.with_ s e a) = { lines := s :: (sxL a).lines, skipped := (sxL a).skipped, ex := { (sxL a).ex with normal := true } } := sxS.eq_13 ..
theorem sxS_match (s e : Nat) (cs : List Stmt) :
    sxS (.match_ s e cs) = { lines := s :: (sxAlts cs).lines, skipped := (sxAlts cs).skipped, ex := { (sxAlts cs).ex with normal := true } } :=
  sxS.eq_14 ..
theorem sxS_case (s e : Nat) (a : List Stmt) : sxS (.case_ s e a) = { sxL a with lines := s :: (sxL a).lines } := sxS.eq_15 ..
theorem sxS_class (s e : Nat) (a : List Stmt) : sxS (.class_ s e a) = { sxL a with lines := s :: (sxL a).lines } := sxS.eq_16 ..
theorem sxS_handler (s e : Nat) (a : List Stmt) : sxS (.handler s e a) = { sxL a with lines := s :: (sxL a).lines } := sxS.eq_12 ..

theorem sxS_try (s e : Nat) (body hs orelse fin : List Stmt) :
    sxS (.try_ s e body hs orelse fin) =
      (let b := sxL body
       let h := sxAlts hs
       let el : SX := if b.ex.normal then sxL orelse else {}
       let pend : Ex := {
          normal := (if orelse.isEmpty then b.ex.normal else el.ex.normal) || h.ex.normal,
          ret := b.ex.ret || h.ex.ret || el.ex.ret, brk := b.ex.brk || h.ex.brk || el.ex.brk,
          cont := b.ex.cont || h.ex.cont || el.ex.cont, raise := b.ex.raise || h.ex.raise || el.ex.raise }
       if fin.isEmpty then
         { lines := b.lines ++ h.lines ++ el.lines, skipped := b.skipped ++ h.skipped ++ el.skipped, ex := pend }
       else
         { lines := b.lines ++ h.lines ++ el.lines ++ (sxL fin).lines, skipped := b.skipped ++ h.skipped ++ el.skipped ++ (sxL fin).skipped,
           ex := { normal := (sxL fin).ex.normal, ret := true, brk := true, cont := true, raise := true } }) :=
  sxS.eq_11 ..

theorem okL_nil (il : Bool) : okL il [] = true := okL.eq_1 ..
theorem okL_cons (il : Bool) (x : Stmt) (xs : List Stmt) : okL il (x :: xs) = (okS il x && okL il xs) := okL.eq_2 ..
theorem okS_brk (il : Bool) (s e : Nat) : okS il (.brk s e) = il := okS.eq_5 ..
theorem okS_cont (il : Bool) (s e : Nat) : okS il (.cont s e) = il := okS.eq_6 ..
theorem okS_ite (il : Bool) (s e : Nat) (a b : List Stmt) : okS il (.ite s e a b) = (okL il a && okL il b) := okS.eq_7 ..
theorem okS_elifc (il : Bool) (s e : Nat) (a b : List Stmt) : okS il (.elifc s e a b) = (okL il a && okL il b) := okS.eq_8 ..
theorem okS_elsec (il : Bool) (s e : Nat) (a : List Stmt) : okS il (.elsec s e a) = okL il a := okS.eq_9 ..
theorem okS_loop (il : Bool) (s e : Nat) (a b : List Stmt) : okS il (.loop s e a b) = (okL true a && okL il b) := okS.eq_10 ..
theorem okS_with (il : Bool) (s e : Nat) (a : List Stmt) : okS il (.with_ s e a) = okL il a := okS.eq_11 ..
theorem okS_match (il : Bool) (s e : Nat) (cs : List Stmt) : okS il (.match_ s e cs) = okCases il cs := okS.eq_12 ..
theorem okS_class (il : Bool) (s e : Nat) (a : List Stmt) : okS il (.class_ s e a) = okL false a := okS.eq_13 ..
theorem okS_try (il : Bool) (s e : Nat) (a b c d : List Stmt) : okS il (.try_ s e a b c d) = false := okS.eq_14 ..
theorem okS_handler (il : Bool) (s e : Nat) (a : List Stmt) : okS il (.handler s e a) = false := okS.eq_15 ..
theorem okS_case (il : Bool) (s e : Nat) (a : List Stmt) : okS il (.case_ s e a) = false := okS.eq_16 ..

theorem okCases_nil (il : Bool) : okCases il [] = true := okCases.eq_1 ..
theorem okCases_case (il : Bool) (s e : Nat) (a cs : List Stmt) :
    okCases il (.case_ s e a :: cs) = (okL il a && okCases il cs) := okCases.eq_2 ..
theorem okCases_cons {il : Bool} {x : Stmt} {cs : List Stmt} (h : okCases il (x :: cs) = true) :
    ∃ s e a, x = .case_ s e a ∧ okL il a = true ∧ okCases il cs = true :=
  alts_cons (okCases_case il) (okCases.eq_3 il) h

theorem sxL_single (x : Stmt) : (sxL [x]).lines = (sxS x).lines ∧ (sxL [x]).skipped = (sxS x).skipped ∧ (sxL [x]).ex = (sxS x).ex := by
  rw [sxL_cons, sxL_nil]
  split
  · next h =>
    refine ⟨by simp, by simp, ?_⟩
    rcases hx : (sxS x).ex with ⟨a, b, c, d, e⟩
    rw [hx] at h
    simp only at h
    subst h
    simp
  · exact ⟨rfl, rfl, rfl⟩

def Lsub (A B C : List Nat) : Prop := ∀ l ∈ A, l ∈ B ∨ l ∈ C
theorem Lsub.nil {B C : List Nat} : Lsub [] B C := fun _ h => by cases h
theorem Lsub.append {A₁ A₂ B₁ B₂ C₁ C₂ : List Nat} (h₁ : Lsub A₁ B₁ C₁) (h₂ : Lsub A₂ B₂ C₂) : Lsub (A₁ ++ A₂) (B₁ ++ B₂) (C₁ ++ C₂) := by
  intro l hl
  rcases List.mem_append.mp hl with h | h
  · rcases h₁ l h with h | h
    · exact .inl (List.mem_append.mpr (.inl h))
    · exact .inr (List.mem_append.mpr (.inl h))
  · rcases h₂ l h with h | h
    · exact .inl (List.mem_append.mpr (.inr h))
    · exact .inr (List.mem_append.mpr (.inr h))
theorem Lsub.cons {A B C : List Nat} (s : Nat) (h : Lsub A B C) : Lsub (s :: A) (s :: B) C := by
  intro l hl
  rcases List.mem_cons.mp hl with rfl | h'
  · exact .inl List.mem_cons_self
  · rcases h l h' with h | h
    · exact .inl (List.mem_cons_of_mem _ h)
    · exact .inr h
theorem Lsub.cons_skip {A B C : List Nat} (s : Nat) (h : Lsub A B C) : Lsub (s :: A) B (s :: C) := by
  intro l hl
  rcases List.mem_cons.mp hl with rfl | h'
  · exact .inr List.mem_cons_self
  · rcases h l h' with h | h
    · exact .inl h
    · exact .inr (List.mem_cons_of_mem _ h)
theorem Lsub.left {A B C : List Nat} (h : ∀ l ∈ A, l ∈ B) : Lsub A B C := fun l hl => .inl (h l hl)

theorem or_imp {a b c d : Bool} (h1 : a = true → c = true) (h2 : b = true → d = true) : (a || b) = true → (c || d) = true := by
  cases a <;> cases b <;> simp_all

structure LE (a : PV.Py.R) (b : SX) : Prop where
  lines : Lsub a.lines b.lines b.skipped
  normal : a.outs.normal = true → b.ex.normal = true
  brk : a.outs.brk = true → b.ex.brk = true
  cont : a.outs.cont = true → b.ex.cont = true

theorem ff {P : Prop} (h : false = true) : P := by cases h

end PV.CFGSound
