import PV.Proofs.CFGComplexityCases
import PV.Proofs.CFGComplexitySyn
import PV.Proofs.CFGComplexityFinHead
/-!
Property C03 for the CFG mirror with `finally` — the `finally` stage of a `try` (body + propagation edges) and the `try` statement with
a non-empty `finally` part, at the scheme `schF`.
-/
namespace PV.CFGFin
open PV.CFG PV.CFGSound PV.Dec

section main
variable {E : List Edge}

theorem exit_reach {L : List (Nat × Nat × Nat)} {X : List Exc} {c : Exc} {f : Nat} {ex : Ex} {il : Bool} (J : Jmp E L (c :: X) ex)
    (h1 : c.processingFinally = false) (h2 : c.fin = some f) (hd : ∀ l ∈ L, l.2.2 ≤ X.length) (hl : il = true → L ≠ [])
    (h : ex.ret = true ∨ ex.raise = true ∨ (il = true ∧ (ex.brk = true ∨ ex.cont = true))) : R E f := by
  rcases h with h | h | ⟨hil, h | h⟩
  · exact J.ret h (some f) (pendO_cons_fin h1 h2)
  · exact J.raise h f (pendO_cons_fin h1 h2)
  · obtain ⟨⟨hh, x, d⟩, rest, hll⟩ := List.exists_cons_of_ne_nil (hl hil)
    have hdd := hd (hh, x, d) (by rw [hll]; exact List.mem_cons_self ..)
    exact J.brk h hh x d rest hll (some f) (by rw [take_cons_depth c X hdd]; exact pendO_cons_fin h1 h2)
  · obtain ⟨⟨hh, x, d⟩, rest, hll⟩ := List.exists_cons_of_ne_nil (hl hil)
    have hdd := hd (hh, x, d) (by rw [hll]; exact List.mem_cons_self ..)
    exact J.cont h hh x d rest hll (some f) (by rw [take_cons_depth c X hdd]; exact pendO_cons_fin h1 h2)

theorem abrupt_union_left {a b : Ex} {il : Bool} (h : a.ret = true ∨ a.raise = true ∨ (il = true ∧ (a.brk = true ∨ a.cont = true))) :
    (a.union b).ret = true ∨ (a.union b).raise = true ∨ (il = true ∧ ((a.union b).brk = true ∨ (a.union b).cont = true)) := by
  simp only [Ex.union, Bool.or_eq_true]
  rcases h with h | h | ⟨hil, h | h⟩
  · exact .inl (.inl h)
  · exact .inr (.inl (.inl h))
  · exact .inr (.inr ⟨hil, .inl (.inl h)⟩)
  · exact .inr (.inr ⟨hil, .inr (.inl h)⟩)

theorem abrupt_union_right {a b : Ex} {il : Bool} (h : b.ret = true ∨ b.raise = true ∨ (il = true ∧ (b.brk = true ∨ b.cont = true))) :
    (a.union b).ret = true ∨ (a.union b).raise = true ∨ (il = true ∧ ((a.union b).brk = true ∨ (a.union b).cont = true)) := by
  simp only [Ex.union, Bool.or_eq_true]
  rcases h with h | h | ⟨hil, h | h⟩
  · exact .inl (.inr h)
  · exact .inr (.inl (.inr h))
  · exact .inr (.inr ⟨hil, .inl (.inr h)⟩)
  · exact .inr (.inr ⟨hil, .inr (.inr h)⟩)

theorem cnt_conn_plain {r : Nat → Bool} (fin : Nat) (s : St) (b : Nat) (t : ETy) (h1 : isCond t = false) (h2 : t ≠ .exc) :
    cnt r (conn fin s b t).edges = cnt r s.edges := by
  unfold conn; split
  · rfl
  · exact cnt_cons_plain h1 h2

theorem _root_.PV.CFGSound.LTI.conn {G : Nat → Prop} {s0 s : St} (h : LTI E G s0 s) {fin b : Nat} {t : ETy} (hb : G b) : LTI E G s0 (conn fin s b t) := by
  unfold PV.CFGSound.conn; split
  · exact h
  · exact h.edge (fun _ => hb)

theorem _root_.PV.CFGSound.Calm.conn {s : St} {m fin b : Nat} {t : ETy} (hf : fin ≠ m) (h : Calm s m) : Calm (conn fin s b t) m := by
  unfold PV.CFGSound.conn; split
  · exact h
  · exact h.edge hf

theorem cnt_foldl_conn_plain {r : Nat → Bool} (fin : Nat) : ∀ (l : List (Nat × ETy)) (s : St),
    (∀ bt ∈ l, isCond bt.2 = false ∧ bt.2 ≠ .exc) → cnt r (l.foldl (fun s bt => conn fin s bt.1 bt.2) s).edges = cnt r s.edges
  | [], _, _ => rfl
  | x :: l, s, h => by
    rw [List.foldl_cons, cnt_foldl_conn_plain fin l _ fun bt hb => h bt (List.mem_cons_of_mem _ hb)]
    exact cnt_conn_plain fin s x.1 x.2 (h x List.mem_cons_self).1 (h x List.mem_cons_self).2

theorem cnt_conn_exc {r : Nat → Bool} {fin : Nat} (hr : r fin = true) (s : St) (b : Nat) :
    cnt r (conn fin s b .exc).edges = cnt r s.edges + if s.hasSucc fin b = true then 0 else 1 := by
  unfold conn; split
  · rfl
  · exact cnt_cons_exc hr

/-- the exception edges from a reachable block `fin` to the blocks `hs`: if `fin` reaches none of them yet (`b0 = false`) each gets an
edge, if it reaches all of them (`b0 = true`) none is added -/
theorem foldl_conn_cnt {r : Nat → Bool} {fin : Nat} (hr : r fin = true) (b0 : Bool) : ∀ (hs : List Nat) (s : St), hs.Nodup →
    (∀ h ∈ hs, s.hasSucc fin h = b0) →
    cnt r (hs.foldl (fun s h => conn fin s h .exc) s).edges = cnt r s.edges + if b0 = true then 0 else hs.length
  | [], s, _, _ => by simp
  | h :: hs, s, hnd, hh => by
    rw [List.nodup_cons] at hnd
    rw [List.foldl_cons, foldl_conn_cnt hr b0 hs _ hnd.2 fun y hy => by
      rw [hasSucc_conn, hh y (List.mem_cons_of_mem _ hy), beq_false_of_ne (fun e : h = y => hnd.1 (e ▸ hy)), Bool.or_false],
      cnt_conn_exc hr, hh h List.mem_cons_self, List.length_cons]
    cases b0
    · simp only [Bool.false_eq_true, ↓reduceIte]; omega
    · rfl

/-- the exception edges among the propagation edges out of a reachable `finally` block `fin` that is left under the context stack `X`:
if no `finally` is pending there, one to each handler of the enclosing `try` (`peX X`), provided `fin` reaches none of these handlers yet
(`b0 = false`), and none if it reaches all of them (`b0 = true`); the other targets are disjoint from the handlers or repeat the target
of the `return` edge -/
theorem fp_cnt {r : Nat → Bool} {fin : Nat} (hr : r fin = true) {st : St} {c0 : Exc} {X : List Exc} (hx : st.excs = c0 :: X) (b0 : Bool)
    (hh : anyFin X = none → ∀ c rest, X = c :: rest → c.handlers.Nodup ∧ ∀ h ∈ c.handlers,
      st.hasSucc fin h = b0 ∧ h ≠ exitB ∧ ∀ l rest', st.loops = l :: rest' → l.1 ≠ h ∧ l.2.1 ≠ h) :
    cnt r (finallyPropagation st fin).edges = cnt r st.edges + if b0 = true then 0 else peX X := by
  rw [finallyPropagation_fold]
  unfold fpT peX anyFin
  simp only [hx, List.drop_succ_cons, List.drop_zero]
  rw [← List.cons_append, List.foldl_append]
  -- `l`: the targets of the plain edges
  generalize hl : ((_, ETy.ret) :: _ : List (Nat × ETy)) = l
  have hpl : ∀ bt ∈ l, isCond bt.2 = false ∧ bt.2 ≠ .exc := by
    subst hl
    intro bt hb
    rcases List.mem_cons.mp hb with rfl | hb
    · exact ⟨rfl, nofun⟩
    · split at hb
      · cases hb
      · simp only [List.mem_cons, List.not_mem_nil, or_false] at hb
        rcases hb with rfl | rfl
        · exact ⟨rfl, nofun⟩
        · exact ⟨rfl, nofun⟩
  have hsucc := fun b => hasSucc_foldl_conn fin b l st
  have c2 := cnt_foldl_conn_plain (r := r) fin l st hpl
  generalize List.foldl _ st l = s2 at hsucc c2 ⊢
  -- the target of the `return` edge gets no exception edge
  have hrep : cnt r (conn fin s2 ((X.findSome? (fun c => c.fin)).getD exitB) .exc).edges = cnt r st.edges := by
    rw [cnt_conn_exc hr, hsucc, ← hl, List.any_cons, beq_self_eq_true, Bool.true_or, Bool.or_true, if_pos rfl]
    exact c2
  cases hno : X.findSome? (fun c => c.fin) with
  | some o =>
    rw [hno] at hrep
    simp only [List.foldl_cons, List.foldl_nil, ite_self]
    exact hrep
  | none =>
    cases X with
    | nil =>
      simp only [List.foldl_cons, List.foldl_nil, ite_self]
      exact hrep
    | cons c rest =>
      obtain ⟨hnd, hc⟩ := hh hno c rest rfl
      simp only [List.foldl_map]
      rw [foldl_conn_cnt hr b0 _ _ hnd fun h hm => ?_, c2]
      obtain ⟨h1, h2, h3⟩ := hc h hm
      rw [hsucc, h1, ← hl, hno, List.any_cons, Option.getD_none, beq_false_of_ne (Ne.symm h2), Bool.false_or]
      split
      · exact Bool.or_false _
      · next hdr ex d _ hq =>
        have hnl : (List.take ((c0 :: c :: rest).length - 1 - d) (c :: rest)).findSome? (fun c => c.fin) = none := by
          rw [List.findSome?_eq_none_iff] at hno ⊢
          exact fun c hcm => hno c (List.mem_of_mem_take hcm)
        rw [hnl, List.any_cons, List.any_cons, List.any_nil, Option.getD_none, Option.getD_none,
          beq_false_of_ne (h3 _ _ hq).2, beq_false_of_ne (h3 _ _ hq).1]
        exact Bool.or_false _

/-- an edge from a reachable block to the pending target of a jump reaches that target -/
theorem pend_step {Y : List Exc} {o : Option Nat} {f b : Nat} {t : ETy} (hR : R E f) (ho : pendO Y = some o)
    (ht : (f, (Y.findSome? (fun c => c.fin)).getD b, t) ∈ E) : R E (o.getD b) := by
  have := pendO_any ho
  unfold anyFin at this
  rw [this] at ht
  exact R.step hR ht

/-- the `finally` body (processed from `finPre …` to `sB`) and the propagation edges (`s9`: the state after them).  After the `finally`
part all four jumps count as possible (`ret`, `brk`, `cont`, `raise` are `true` in the `Jmp` clause): `finallyPropagation` adds its edges
to EXIT, to the loop and to the handlers whatever the body and the `finally` body do. -/
theorem tryFin_cntF {fin : List Stmt} {st s8 sB s9 : St} {finB : Nat} {c0 : Exc} (hc1 : c0.fin = some finB)
    (hrun : Run (finPre s8 finB c0 st.excs) (.list fin) sB) (ih : CountedL schF E (finPre s8 finB c0 st.excs) sB fin)
    (h9 : s9 = finallyPropagation ((setExcs sB (c0 :: st.excs)).edgeUnlessExit (setExcs sB (c0 :: st.excs)).cur (st.next + 1) .normal) finB)
    (c9 : Called E s8 s9 (.tryFin true finB (st.next + 1) c0 st.excs fin))
    (fc : FC) (il : Bool) (w : WF st) (hc : CtxF fc il st) (hl8 : s8.loops = st.loops)
    (hfB : st.next + 2 ≤ finB) (hfresh : ∀ y ∈ c0.handlers, st.next + 2 ≤ y) (hnd : c0.handlers.Nodup)
    (hokf : okFL il fin = true) (hfinR : R E finB) (hcalmF : Calm s8 finB) (hcalmE : Calm s8 (st.next + 1)) :
    Grow E (fun t => TgF st.next st.loops st.excs true t ∧ ((sxL fin).ex.normal = false → t ≠ st.next + 1)) s8 s9
      (ldLX fc.finBody fin + (if hrL fin = .raise then 0 else fc.pe)) ∧
    ((sxL fin).ex.normal = true → R E (st.next + 1)) ∧
    Jmp E st.loops st.excs { normal := (sxL fin).ex.normal, ret := true, brk := true, cont := true, raise := true } ∧
    Calm s9 (st.next + 1) ∧ s8.next ≤ s9.next := by
  subst h9
  have c1 := c9.tryFin_some hrun
  have hn9 := c9.next_le (.tryFin_some hrun)
  obtain ⟨⟨w8, hx8, hfl, hE8⟩, hf⟩ := c9
  have h2 := w.two
  have hE : st.next + 1 < finB := hfB
  have hcA : CtxF fc.finBody il (finPre s8 finB c0 st.excs) :=
    hc.pushFinBody w hl8 rfl hc1 rfl (fun y hy => Nat.le_trans (Nat.le_add_right _ 2) (hfresh y hy)) hnd
  have heA : EntryC E (finPre s8 finB c0 st.excs) := ⟨hfinR, Calm.congr (s := s8) rfl rfl hcalmF⟩
  have j : Inv finB s8.next _ sB := c1.conv.own hrun
  have hjo : Own finB s8.next sB.cur := j.own
  have hsl := hrun.stacks.loops
  -- the entry-block analysis of the `finally` body
  have hhead : ∀ (c : Exc) (X : List Exc), st.excs = c :: X → (∀ c' ∈ c :: X, c'.fin = none ∧ c'.processingFinally = false) →
      ∀ h ∈ c.handlers, sB.hasSucc finB h = decide (hrL fin = .raise) := by
    intro c X hx hnf
    exact head_raise_run hrun il c1.wf hokf
      (fun h => by show s8.loops ≠ []; rw [hl8]; exact hc.loops h) { c0 with processingFinally := true } c X
      (by show _ :: st.excs = _; rw [hx]) rfl hc1 hnf hcalmF.1 (hc.hex c (by rw [hx]; exact List.mem_cons_self ..))
      (fun l hl => hc.disj l (by rw [← hl8]; exact hl) c (by rw [hx]; exact List.mem_cons_self ..))
  have hcalmEB : Calm sB (st.next + 1) := j.calm (Nat.ne_of_lt hE) hE8 (Calm.congr (s := s8) rfl rfl hcalmE)
  simp only [setExcs_cur] at hf hn9 ⊢
  have hlD : ((setExcs sB (c0 :: st.excs)).edgeUnlessExit sB.cur (st.next + 1) .normal).loops = st.loops := by
    simp only [edgeUnlessExit_loops, setExcs_loops, hsl]; exact hl8
  have hxD : ((setExcs sB (c0 :: st.excs)).edgeUnlessExit sB.cur (st.next + 1) .normal).excs = c0 :: st.excs := by
    simp only [edgeUnlessExit_excs, setExcs_excs]
  have hdrop : (((setExcs sB (c0 :: st.excs)).edgeUnlessExit sB.cur (st.next + 1) .normal).excs).drop 1 = st.excs := by
    rw [hxD]; rfl
  have hmem9 := fun e h => hf.mem (e := e) h
  have hsubD : ∀ e ∈ ((setExcs sB (c0 :: st.excs)).edgeUnlessExit sB.cur (st.next + 1) .normal).edges, e ∈ E :=
    (fp_cov ⟨hmem9, fun _ h => h⟩).2.1
  have pf := ih c1 fc.finBody il hcA hokf heA
  have hP : ∀ t, t < st.next → TgF st.next st.loops st.excs true t → TgF st.next st.loops st.excs true t ∧ ((sxL fin).ex.normal = false → t ≠ st.next + 1) :=
    fun t ht h => ⟨h, fun _ => Nat.ne_of_lt (Nat.lt_add_right 1 ht)⟩
  have eB : End E (setExcs sB (c0 :: st.excs)) sB.cur (sxL fin).ex.normal := pf.end_.eq rfl rfl
  have gD : Grow E (fun t => TgF st.next st.loops st.excs true t ∧ ((sxL fin).ex.normal = false → t ≠ st.next + 1)) s8
      ((setExcs sB (c0 :: st.excs)).edgeUnlessExit sB.cur (st.next + 1) .normal) (ldLX fc.finBody fin) :=
    (((pf.grow.mono (fun t h => by
        have h' : TgF s8.next st.loops ({ c0 with processingFinally := true } :: st.excs) (sxL fin).ex.brk t := by
          rw [← hl8]; exact h
        have := tg_outer (S := schF) w (b := true) h' (Nat.le_trans hfB (Nat.le_of_lt (hfl rfl))) (fun _ => rfl) hfresh
          (fun f hf' => Option.some.inj (hc1.symm.trans hf') ▸ hfB)
        exact ⟨this.1, fun _ => this.2⟩)).start (s0' := s8) rfl).eq (s' := setExcs sB (c0 :: st.excs)) rfl).exit eB isCond_normal normal_ne_exc
      (fun hl => ⟨.inl (Nat.le_add_right _ 1), fun hn => by rw [hl] at hn; cases hn⟩)
  have calmD : Calm ((setExcs sB (c0 :: st.excs)).edgeUnlessExit sB.cur (st.next + 1) .normal) (st.next + 1) :=
    Calm.eue (hjo.elim (fun h => h ▸ Nat.ne_of_gt hE) (fun h => Nat.ne_of_gt (Nat.lt_of_lt_of_le hE8 h))) (Calm.congr (s := sB) rfl rfl hcalmEB)
  have hnD : (sxL fin).ex.normal = true → R E (st.next + 1) := eB.step hsubD
  have hsD : ∀ a b, b ≠ st.next + 1 →
      ((setExcs sB (c0 :: st.excs)).edgeUnlessExit sB.cur (st.next + 1) .normal).hasSucc a b = sB.hasSucc a b := by
    intro a b hb'
    rw [hasSucc_eue_ne _ _ _ _ _ _ (fun h => hb' h.symm)]; rfl
  generalize (setExcs sB (c0 :: st.excs)).edgeUnlessExit sB.cur (st.next + 1) .normal = sD at *
  have l9 : LTI E (fun t => TgF st.next st.loops st.excs true t ∧ ((sxL fin).ex.normal = false → t ≠ st.next + 1)) s8
      (finallyPropagation sD finB) := by
    refine fp_ind gD.tgt fun _ b _ hm hs => hs.conn ?_
    rcases fpT_mem hm with rfl | ⟨c, hcm, h⟩ | ⟨⟨hdr, x, d⟩, rest, hl, h⟩
    · exact hP exitB h2 (.inr (.inl rfl))
    · rw [hdrop] at hcm
      exact hP b (h.elim ((w.excs c hcm).1 b) ((w.excs c hcm).2 b)) (.inr (.inr (.inr ⟨c, hcm, h.symm⟩)))
    · have hl' : st.loops = (hdr, x, d) :: rest := hlD.symm.trans hl
      have := w.loops (hdr, x, d) (hl' ▸ List.mem_cons_self ..)
      rcases h with rfl | rfl
      · exact hP _ this.1 (.inr (.inr (.inl ⟨_, x, d, rest, hl', .inl rfl⟩)))
      · exact hP _ this.2 (.inr (.inr (.inl ⟨hdr, _, d, rest, hl', .inr ⟨rfl, rfl⟩⟩)))
  have calm9 : Calm (finallyPropagation sD finB) (st.next + 1) :=
    fp_ind (P := fun s => Calm s (st.next + 1)) calmD fun _ _ _ _ h => h.conn (Nat.ne_of_gt hE)
  have hcov9 : Cov E (finallyPropagation sD finB).stmts (finallyPropagation sD finB) := ⟨hmem9, fun r h => h⟩
  refine ⟨⟨?_, l9⟩, hnD, ?_, calm9, hn9⟩
  · refine (fp_cnt (rE_true.mpr hfinR) hxD (decide (hrL fin = .raise)) fun hno c rest hx => ?_).trans ?_
    · have hcm : c ∈ st.excs := hx ▸ List.mem_cons_self ..
      have hnone := List.findSome?_eq_none_iff.mp hno
      have hnf : ∀ c' ∈ c :: rest, c'.fin = none ∧ c'.processingFinally = false := by
        intro c' hc'
        have hm' : c' ∈ st.excs := hx ▸ hc'
        refine ⟨hnone c' hm', ?_⟩
        cases hp : c'.processingFinally
        · rfl
        · have := hc.pfin c' hm' hp
          rw [hnone c' hm'] at this; cases this
      refine ⟨hc.hnd c hcm, fun h hh' => ⟨?_, fun e => hc.hex c hcm (e ▸ hh'), fun l rest' hl => ?_⟩⟩
      · rw [hsD finB h (Nat.ne_of_lt (Nat.lt_add_right 1 ((w.excs c hcm).2 h hh')))]
        exact hhead c rest hx hnf h hh'
      · have := hc.disj l (by rw [← hlD, hl]; exact List.mem_cons_self ..) c hcm
        exact ⟨fun e => this.1 (e ▸ hh'), fun e => this.2 (e ▸ hh')⟩
    · rw [gD.cnt, hc.pe, Nat.add_assoc]
      simp only [decide_eq_true_eq]
  · obtain ⟨hT, _⟩ := fp_cov hcov9
    refine ⟨fun _ h x d rest hl o ho => ?_, fun _ h x d rest hl o ho => ?_, fun _ o ho => ?_, fun _ f ho => ?_⟩
    · obtain ⟨t, ht⟩ := hT _ _ (fpT_loop hxD (hlD.trans hl)).1
      exact pend_step hfinR ho ht
    · obtain ⟨t, ht⟩ := hT _ _ (fpT_loop hxD (hlD.trans hl)).2
      exact pend_step hfinR ho ht
    · obtain ⟨t, ht⟩ := hT _ _ (fpT_ret hxD)
      exact pend_step hfinR ho ht
    · obtain ⟨t, ht⟩ := hT _ _ (fpT_ret hxD)
      exact pend_step hfinR ho ht

theorem try_cntFin : TrySpec schF E := by
  intro st s3 s7 s8 s9 s e body handlers orelse fin finB elseB cfin nat ah hne ha hr7 hr8 hr9 ih7 ih8 ih9 hcl fc il hc hok he
  obtain ⟨c7, c8, c9⟩ := hcl.try_ ha hr7 hr8 hr9
  obtain ⟨w, hf⟩ := hcl
  replace hok := (okFS_try il s e body handlers orelse fin).symm.trans hok
  simp only [Bool.and_eq_true] at hok
  obtain ⟨⟨⟨hokb, hokh⟩, hoke⟩, hokf⟩ := hok
  simp only [hne, Bool.not_false] at ha hr9 ih9 c9
  obtain ⟨sB, hrB, ihB, h9⟩ := ih9.2 rfl
  have hcfin : cfin = some finB := ha.cfin_eq
  have hah : finB = ah := ha.ah_eq.symm
  subst hcfin hah
  have b3 := ha.allocated
  obtain ⟨q7a, q7b, q9'⟩ := b3.fin rfl
  rw [sxS_try, ldSX_try]
  simp only [hne, Bool.false_eq_true, ↓reduceIte]
  have hE3 : st.next + 1 < s3.next := b3.next_le
  have h03 : st.next ≤ s3.next := Nat.le_of_lt (Nat.lt_of_succ_lt hE3)
  have hx8 : s8.excs = _ :: st.excs := c9.conv.tryFin_excs
  have hl8 : s8.loops = st.loops := (c8.conv.loops_eq hr8).trans ((c7.conv.loops_eq hr7).trans b3.same.loops)
  -- no later edge into a block allocated at the start other than the `finally` block: the propagation edges go to context blocks
  have hFe : ∀ m, st.next + 2 ≤ m → m < s3.next → (true = true → m ≠ finB) → m < s8.next → Fut E m (m + 1) s8 := by
    intro m h1 h3 h2' h4
    have hlo : st.next ≤ m := Nat.le_trans (Nat.le_add_right _ 2) h1
    have f9 := (Fut.mono (lo' := m) (hi' := m + 1) hf hlo
      (by simp only [setExcs_next, setCur_next]; exact Nat.le_trans h4 (c9.next_le hr9))).back_setExcs.back_setCur
    refine f9.back_TI (target_run hr9 _ ?_ hx8 (.inl h1)).ti
    exact TG.tryZone w hlo h4 (Nat.le_trans w.two hlo) hl8 hx8
      (fun f hf' => Nat.lt_or_gt_of_ne (Option.some.inj hf' ▸ (h2' rfl).symm))
      (fun h hh' => .inr (Nat.le_trans h3 (handlerIds_mem hh').1))
  obtain ⟨r1, r2, r3, r5, -⟩ := tryME_cnt ha hr7 hr8 ih7 ih8 c7 c8 il w he hokb hokh hoke rfl FC.inFin
    (fun s' hl hx => hc.pushTryF w (hl.trans b3.same.loops) hx rfl rfl (fun y hy => Nat.le_trans h03 (handlerIds_mem hy).1)
      (nodup_map_add s3.next handlers.length)) hFe
  -- the `finally` block is reachable: the body (or the `else` part) has some exit, and every exit leads there
  have hfinR : R E finB := by
    have hex := exit_reach (il := il) r3 rfl rfl hc.ld hc.loops
    rcases sx_exit body il hokb with h | h
    · cases hoe : orelse.isEmpty
      · have hel : elx body orelse = sxL orelse := by unfold elx; rw [if_pos h]
        rcases sx_exit orelse il hoke with h' | h'
        · exact r2 (by unfold pnx; rw [hoe, hel, h']; rfl)
        · exact hex (abrupt_union_right (by rw [hel]; exact h'))
      · exact r2 (by unfold pnx; rw [hoe, h]; rfl)
    · exact hex (abrupt_union_left (abrupt_union_left h))
  obtain ⟨f1, f2, f3, f5, f6⟩ := tryFin_cntF rfl hrB ihB h9 c9 fc il w hc hl8 q7a
    (fun y hy => Nat.le_trans b3.next_le (handlerIds_mem hy).1) (nodup_map_add s3.next handlers.length) hokf hfinR
    (r5 finB (Nat.le_of_lt q7a) q7b q9') (r5 (st.next + 1) (Nat.le_refl _) hE3 b3.els_ne.symm)
  refine try_finish w _ _ (Nat.lt_of_lt_of_le c9.conv.tryFin_exit f6) hf
    (((r1.mono (fun t h => ⟨TgG.mono (S := schF) h.1 (Nat.le_refl _) (fun _ => rfl), fun _ ht => ?_⟩)).trans f1).cast
      (by simp only [Nat.add_assoc])) f2 f5 f3
  have := (h.2 ht).1
  cases this

end main
end PV.CFGFin

#print axioms PV.CFGFin.try_cntFin
