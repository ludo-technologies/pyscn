import PV.Proofs.CFGReach
import PV.Model.PySem
/-!
`sxL` is a static summary of a statement list *as the builder routes it*: the source lines that get a
located statement record in a block reachable from the entry of the list, and the structural exits
(fall through / break / continue / return / explicit raise).  It is more generous than the semantic
over-approximation `PV.Py.live` (`S4.live_le_sx3`, in the order `LE`), and the builder is proved to realise it
(`S4.sound_list3`): every line of `sxL` has a record in a block that is reachable in the final graph.
Also here: the `try`-free fragment `okL`, and what soundness speaks of — `Good` (a line has a reachable record) and `Entry` (a state
whose current block is reached and open).
-/
namespace PV.CFGSound
open PV.CFG PV.Py

structure Ex where
  normal : Bool := false
  ret : Bool := false
  brk : Bool := false
  cont : Bool := false
  raise : Bool := false
  deriving Repr, DecidableEq, Inhabited

def Ex.union (a b : Ex) : Ex :=
  { normal := a.normal || b.normal, ret := a.ret || b.ret, brk := a.brk || b.brk, cont := a.cont || b.cont, raise := a.raise || b.raise }

structure SX where
  lines : List Nat := []
  skipped : List Nat := []     -- lines of `elif` heads: the builder stores their test without a location
  ex : Ex := {}
  deriving Repr, Inhabited

mutual
  def sxL : List Stmt → SX
    | [] => { ex := { normal := true } }
    | x :: xs =>
      let a := sxS x
      if a.ex.normal then
        let b := sxL xs
        { lines := a.lines ++ b.lines, skipped := a.skipped ++ b.skipped,
          ex := { normal := b.ex.normal, ret := a.ex.ret || b.ex.ret, brk := a.ex.brk || b.ex.brk, cont := a.ex.cont || b.ex.cont,
                  raise := a.ex.raise || b.ex.raise } }
      else a
  termination_by l => 2 * sizeL l
  decreasing_by
    all_goals (try simp_wf)
    all_goals (try simp only [Stmt.size, sizeL])
    all_goals omega

  def sxS : Stmt → SX
    | .simple s _ _ _ => { lines := [s], ex := { normal := true } }
    | .def_ s _ _ => { lines := [s], ex := { normal := true } }
    | .ret s _ _ _ => { lines := [s], ex := { ret := true } }
    | .brk s _ => { lines := [s], ex := { brk := true } }
    | .cont s _ => { lines := [s], ex := { cont := true } }
    | .raise s _ => { lines := [s], ex := { raise := true } }
    | .ite s _ thn orelse =>
      let a := sxL thn
      let b := sxL orelse
      { lines := s :: a.lines ++ b.lines, skipped := a.skipped ++ b.skipped, ex := a.ex.union b.ex }
    | .elifc s _ thn orelse =>
      let a := sxL thn
      let b := sxL orelse
      { lines := a.lines ++ b.lines, skipped := s :: a.skipped ++ b.skipped, ex := a.ex.union b.ex }
    | .elsec _ _ body => sxL body
    | .loop s _ body orelse =>
      let a := sxL body
      let b := sxL orelse
      { lines := s :: a.lines ++ b.lines, skipped := a.skipped ++ b.skipped,
        ex := { normal := a.ex.brk || b.ex.normal, ret := a.ex.ret || b.ex.ret, brk := b.ex.brk, cont := b.ex.cont,
                raise := a.ex.raise || b.ex.raise } }
    | .try_ _ _ body hs orelse fin =>
      let b := sxL body
      let h := sxAlts hs
      let el := if b.ex.normal then sxL orelse else {}
      let pend : Ex :=
        { normal := (if orelse.isEmpty then b.ex.normal else el.ex.normal) || h.ex.normal,
          ret := b.ex.ret || h.ex.ret || el.ex.ret, brk := b.ex.brk || h.ex.brk || el.ex.brk,
          cont := b.ex.cont || h.ex.cont || el.ex.cont, raise := b.ex.raise || h.ex.raise || el.ex.raise }
      if fin.isEmpty then
        { lines := b.lines ++ h.lines ++ el.lines, skipped := b.skipped ++ h.skipped ++ el.skipped, ex := pend }
      else
        let f := sxL fin
        -- the propagation edges out of the finally block are unconditional
        { lines := b.lines ++ h.lines ++ el.lines ++ f.lines, skipped := b.skipped ++ h.skipped ++ el.skipped ++ f.skipped,
          ex := { normal := f.ex.normal, ret := true, brk := true, cont := true, raise := true } }
    | .handler s _ body => let a := sxL body; { a with lines := s :: a.lines }
    | .with_ s _ body =>
      let a := sxL body
      { lines := s :: a.lines, skipped := a.skipped, ex := { a.ex with normal := true } }
    | .match_ s _ cases =>
      let a := sxAlts cases
      { lines := s :: a.lines, skipped := a.skipped, ex := { a.ex with normal := true } }
    | .case_ s _ body => let a := sxL body; { a with lines := s :: a.lines }
    | .class_ s _ body => let a := sxL body; { a with lines := s :: a.lines }
  termination_by x => 2 * x.size + 1
  decreasing_by
    all_goals (try simp_wf)
    all_goals (try simp only [Stmt.size, sizeL])
    all_goals omega

  /-- alternatives (cases of a match, handlers of a try): each is entered from the same block -/
  def sxAlts : List Stmt → SX
    | [] => {}
    | x :: xs =>
      let a := sxS x
      let b := sxAlts xs
      { lines := a.lines ++ b.lines, skipped := a.skipped ++ b.skipped, ex := a.ex.union b.ex }
  termination_by l => 2 * sizeL l
  decreasing_by
    all_goals (try simp_wf)
    all_goals (try simp only [Stmt.size, sizeL])
    all_goals omega
end

/-  the `try`-free fragment: no `try`; `break`/`continue` only inside a loop of the same definition;
`case` only as a member of `match`, `except` clauses nowhere (they only occur in `try`). -/
mutual
  def okL (inLoop : Bool) : List Stmt → Bool
    | [] => true
    | x :: xs => okS inLoop x && okL inLoop xs
  termination_by l => 2 * sizeL l
  decreasing_by
    all_goals (try simp_wf)
    all_goals (try simp only [Stmt.size, sizeL])
    all_goals omega
  def okS (inLoop : Bool) : Stmt → Bool
    | .simple .. | .def_ .. | .ret .. | .raise .. => true
    | .brk .. | .cont .. => inLoop
    | .ite _ _ a b | .elifc _ _ a b => okL inLoop a && okL inLoop b
    | .elsec _ _ a => okL inLoop a
    | .loop _ _ a b => okL true a && okL inLoop b
    | .with_ _ _ a => okL inLoop a
    | .match_ _ _ cs => okCases inLoop cs
    | .class_ _ _ a => okL false a
    | .try_ .. | .handler .. | .case_ .. => false
  termination_by x => 2 * x.size + 1
  decreasing_by
    all_goals (try simp_wf)
    all_goals (try simp only [Stmt.size, sizeL])
    all_goals omega
  def okCases (inLoop : Bool) : List Stmt → Bool
    | [] => true
    | .case_ _ _ a :: cs => okL inLoop a && okCases inLoop cs
    | _ :: _ => false
  termination_by l => 2 * sizeL l
  decreasing_by
    all_goals (try simp_wf)
    all_goals (try simp only [Stmt.size, sizeL])
    all_goals omega
end

/-- line `l` has a located statement record in a block that is reachable along `E` -/
def Good (E : List Edge) (S : List SRec) (l : Nat) : Prop := ∃ r ∈ S, r.s = l ∧ R E r.blk

structure Entry (E : List Edge) (st : St) : Prop where
  reach : R E st.cur
  noExit : st.hasSucc st.cur exitB = false
  noTerm : st.blockTerminates st.cur = false

structure Post (E : List Edge) (S : List SRec) (st st' : St) (r : SX) : Prop where
  lines : ∀ l ∈ r.lines, Good E S l
  normal : r.ex.normal = true → Entry E st'
  brk : r.ex.brk = true → ∀ h x d rest, st.loops = (h, x, d) :: rest → R E x
  cont : r.ex.cont = true → ∀ h x d rest, st.loops = (h, x, d) :: rest → R E h

end PV.CFGSound
