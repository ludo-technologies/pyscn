import PV.Proofs.CFGComplexityCount
/-!
Property C03 for the CFG mirror: the fragment `okFL` that admits NON-EMPTY `finally` clauses, with the invariant `CtxF` of the
loop and exception stacks, the targets `TgF` of live new edges and the postcondition `PostF` (the instances at `schF` of
`Sch.Ctx`, `TgG`, `PostG` in `CFGComplexityScheme`).
-/
namespace PV.CFGFin
open PV.CFG PV.CFGSound PV.Dec

-- the `decreasing_by` blocks share one `simp only [Stmt.size, sizeL]`; each needs only one of the two
set_option linter.unusedSimpArgs false in
mutual
  /-- the recursion of `okLC` in `CFGCompleteDefs` (`okF_eq_okLC`): `break` / `continue` only inside loops, `except` / `case` only
  inside `try` / `match` -/
  def okFL (il : Bool) : List Stmt → Bool
    | [] => true
    | x :: xs => okFS il x && okFL il xs
  termination_by l => 2 * sizeL l
  decreasing_by
    all_goals (try simp_wf)
    all_goals (try simp only [Stmt.size, sizeL])
    all_goals omega
  def okFS (il : Bool) : Stmt → Bool
    | .simple .. | .def_ .. | .ret .. | .raise .. => true
    | .brk .. | .cont .. => il
    | .ite _ _ a b | .elifc _ _ a b => okFL il a && okFL il b
    | .elsec _ _ a => okFL il a
    | .loop _ _ a b => okFL true a && okFL il b
    | .with_ _ _ a => okFL il a
    | .match_ _ _ cs => okFCases il cs
    | .class_ _ _ a => okFL false a
    | .try_ _ _ a hs c d => okFL il a && okFHs il hs && okFL il c && okFL il d
    | .handler .. | .case_ .. => false
  termination_by x => 2 * x.size + 1
  decreasing_by
    all_goals (try simp_wf)
    all_goals (try simp only [Stmt.size, sizeL])
    all_goals omega
  def okFCases (il : Bool) : List Stmt → Bool
    | [] => true
    | .case_ _ _ a :: cs => okFL il a && okFCases il cs
    | _ :: _ => false
  termination_by l => 2 * sizeL l
  decreasing_by
    all_goals (try simp_wf)
    all_goals (try simp only [Stmt.size, sizeL])
    all_goals omega
  def okFHs (il : Bool) : List Stmt → Bool
    | [] => true
    | .handler _ _ a :: hs => okFL il a && okFHs il hs
    | _ :: _ => false
  termination_by l => 2 * sizeL l
  decreasing_by
    all_goals (try simp_wf)
    all_goals (try simp only [Stmt.size, sizeL])
    all_goals omega
end

theorem okFL_nil (il : Bool) : okFL il [] = true := okFL.eq_1 ..
theorem okFL_cons (il : Bool) (x : Stmt) (xs : List Stmt) : okFL il (x :: xs) = (okFS il x && okFL il xs) := okFL.eq_2 ..
theorem okFS_brk (il : Bool) (s e : Nat) : okFS il (.brk s e) = il := okFS.eq_5 ..
theorem okFS_cont (il : Bool) (s e : Nat) : okFS il (.cont s e) = il := okFS.eq_6 ..
theorem okFS_ite (il : Bool) (s e : Nat) (a b : List Stmt) : okFS il (.ite s e a b) = (okFL il a && okFL il b) := okFS.eq_7 ..
theorem okFS_elifc (il : Bool) (s e : Nat) (a b : List Stmt) : okFS il (.elifc s e a b) = (okFL il a && okFL il b) := okFS.eq_8 ..
theorem okFS_elsec (il : Bool) (s e : Nat) (a : List Stmt) : okFS il (.elsec s e a) = okFL il a := okFS.eq_9 ..
theorem okFS_loop (il : Bool) (s e : Nat) (a b : List Stmt) : okFS il (.loop s e a b) = (okFL true a && okFL il b) := okFS.eq_10 ..
theorem okFS_with (il : Bool) (s e : Nat) (a : List Stmt) : okFS il (.with_ s e a) = okFL il a := okFS.eq_11 ..
theorem okFS_match (il : Bool) (s e : Nat) (cs : List Stmt) : okFS il (.match_ s e cs) = okFCases il cs := okFS.eq_12 ..
theorem okFS_class (il : Bool) (s e : Nat) (a : List Stmt) : okFS il (.class_ s e a) = okFL false a := okFS.eq_13 ..
theorem okFS_try (il : Bool) (s e : Nat) (a hs c d : List Stmt) :
    okFS il (.try_ s e a hs c d) = (okFL il a && okFHs il hs && okFL il c && okFL il d) := okFS.eq_14 ..
theorem okFS_handler (il : Bool) (s e : Nat) (a : List Stmt) : okFS il (.handler s e a) = false := okFS.eq_15 ..
theorem okFS_case (il : Bool) (s e : Nat) (a : List Stmt) : okFS il (.case_ s e a) = false := okFS.eq_16 ..

theorem okFCases_nil (il : Bool) : okFCases il [] = true := okFCases.eq_1 ..
theorem okFCases_case (il : Bool) (s e : Nat) (a cs : List Stmt) :
    okFCases il (.case_ s e a :: cs) = (okFL il a && okFCases il cs) := okFCases.eq_2 ..
theorem okFCases_cons {il : Bool} {x : Stmt} {cs : List Stmt} (h : okFCases il (x :: cs) = true) :
    ∃ s e a, x = .case_ s e a ∧ okFL il a = true ∧ okFCases il cs = true :=
  alts_cons (okFCases_case il) (okFCases.eq_3 il) h

theorem okFHs_nil (il : Bool) : okFHs il [] = true := okFHs.eq_1 ..
theorem okFHs_handler (il : Bool) (s e : Nat) (a hs : List Stmt) :
    okFHs il (.handler s e a :: hs) = (okFL il a && okFHs il hs) := okFHs.eq_2 ..
theorem okFHs_cons {il : Bool} {x : Stmt} {hs : List Stmt} (h : okFHs il (x :: hs) = true) :
    ∃ s e a, x = .handler s e a ∧ okFL il a = true ∧ okFHs il hs = true :=
  alts_cons (okFHs_handler il) (okFHs.eq_3 il) h

/-- `rn`, `pe`, `pf`, `af` tie the stack to the structural context `fc`.  The other fields are what single steps need: `ld` lets a
jump out of a `try` body drop the `try`'s context (`take_cons_depth` in `Jmp.popPlain`); `disj`, `hnd`, `hex` make the propagation
edges `finally → handler` pairwise distinct and distinct from the edges to the loop and to EXIT (`foldl_conn_cnt`, `head_raise_run`);
`pfin` says that a context whose `finally` body is being processed has a `finally` block. -/
structure CtxF (fc : FC) (il : Bool) (st : St) : Prop where
  loops : il = true → st.loops ≠ []
  ld : ∀ l ∈ st.loops, l.2.2 ≤ st.excs.length
  disj : ∀ l ∈ st.loops, ∀ c ∈ st.excs, l.1 ∉ c.handlers ∧ l.2.1 ∉ c.handlers
  rn : raiseNX st.excs = fc.nh
  pe : peX st.excs = fc.pe
  pf : (tfX st.excs).isSome = fc.pf
  af : (anyFin st.excs).isSome = fc.af
  pfin : ∀ c ∈ st.excs, c.processingFinally = true → c.fin.isSome = true
  hnd : ∀ c ∈ st.excs, c.handlers.Nodup
  hex : ∀ c ∈ st.excs, exitB ∉ c.handlers

theorem CtxF.of_eq {fc : FC} {il : Bool} {s s' : St} (h : CtxF fc il s) (hl : s'.loops = s.loops) (hx : s'.excs = s.excs) : CtxF fc il s' := by
  refine ⟨?_, ?_, ?_, ?_, ?_, ?_, ?_, ?_, ?_, ?_⟩
  · rw [hl]; exact h.loops
  · rw [hl, hx]; exact h.ld
  · rw [hl, hx]; exact h.disj
  · rw [hx]; exact h.rn
  · rw [hx]; exact h.pe
  · rw [hx]; exact h.pf
  · rw [hx]; exact h.af
  · rw [hx]; exact h.pfin
  · rw [hx]; exact h.hnd
  · rw [hx]; exact h.hex

theorem CtxF.noLoop {fc : FC} {il : Bool} {s : St} (h : CtxF fc il s) : CtxF fc false s :=
  { h with loops := fun h' => by cases h' }

theorem CtxF.pushLoop {fc : FC} {il : Bool} {s s' : St} (h : CtxF fc il s) (w : WF s) {hd x : Nat} (hx : s'.excs = s.excs)
    (hl : s'.loops = (hd, x, s.excs.length) :: s.loops) (h1 : s.next ≤ hd) (h2 : s.next ≤ x) : CtxF fc true s' := by
  refine ⟨?_, ?_, ?_, ?_, ?_, ?_, ?_, ?_, ?_, ?_⟩
  · intro _; rw [hl]; simp
  · rw [hl, hx]
    intro l hm
    rcases List.mem_cons.mp hm with rfl | hm
    · exact Nat.le_refl _
    · exact h.ld l hm
  · rw [hl, hx]
    intro l hm c hc
    rcases List.mem_cons.mp hm with rfl | hm
    · constructor
      · intro hh; have := (w.excs c hc).2 _ hh; simp only at this; omega
      · intro hh; have := (w.excs c hc).2 _ hh; simp only at this; omega
    · exact h.disj l hm c hc
  · rw [hx]; exact h.rn
  · rw [hx]; exact h.pe
  · rw [hx]; exact h.pf
  · rw [hx]; exact h.af
  · rw [hx]; exact h.pfin
  · rw [hx]; exact h.hnd
  · rw [hx]; exact h.hex

/-- the common part of the three context changes of a `try` -/
theorem CtxF.pushAux {fc : FC} {il : Bool} {s s' : St} (h : CtxF fc il s) (w : WF s) {c0 : Exc}
    (hl : s'.loops = s.loops) (hx : s'.excs = c0 :: s.excs) (hfresh : ∀ y ∈ c0.handlers, s.next ≤ y) (hnd : c0.handlers.Nodup)
    (hpf : c0.processingFinally = true → c0.fin.isSome = true) :
    (il = true → s'.loops ≠ []) ∧ (∀ l ∈ s'.loops, l.2.2 ≤ s'.excs.length) ∧
    (∀ l ∈ s'.loops, ∀ c ∈ s'.excs, l.1 ∉ c.handlers ∧ l.2.1 ∉ c.handlers) ∧
    (∀ c ∈ s'.excs, c.processingFinally = true → c.fin.isSome = true) ∧ (∀ c ∈ s'.excs, c.handlers.Nodup) ∧
    (∀ c ∈ s'.excs, exitB ∉ c.handlers) := by
  refine ⟨?_, ?_, ?_, ?_, ?_, ?_⟩
  · rw [hl]; exact h.loops
  · rw [hl, hx]; intro l hm; have := h.ld l hm; simp only [List.length_cons]; omega
  · rw [hl, hx]
    intro l hm c hc
    rcases List.mem_cons.mp hc with rfl | hc
    · have := w.loops l hm
      exact ⟨fun hh => by have := hfresh _ hh; omega, fun hh => by have := hfresh _ hh; omega⟩
    · exact h.disj l hm c hc
  · rw [hx]; intro c hc
    rcases List.mem_cons.mp hc with rfl | hc
    · exact hpf
    · exact h.pfin c hc
  · rw [hx]; intro c hc
    rcases List.mem_cons.mp hc with rfl | hc
    · exact hnd
    · exact h.hnd c hc
  · rw [hx]; intro c hc
    rcases List.mem_cons.mp hc with rfl | hc
    · intro hh; have := hfresh _ hh; have := w.two; unfold exitB at *; omega
    · exact h.hex c hc

theorem CtxF.pushTryN {fc : FC} {il : Bool} {s s' : St} (h : CtxF fc il s) (w : WF s) {c0 : Exc}
    (hl : s'.loops = s.loops) (hx : s'.excs = c0 :: s.excs) (h1 : c0.fin = none) (h2 : c0.processingFinally = false)
    (hfresh : ∀ y ∈ c0.handlers, s.next ≤ y) (hnd : c0.handlers.Nodup) : CtxF (fc.inTry c0.handlers.length) il s' := by
  obtain ⟨a1, a2, a3, a4, a5, a6⟩ := h.pushAux w hl hx hfresh hnd (fun hh => by rw [h2] at hh; cases hh)
  have e1 : tfX s'.excs = tfX s.excs := by rw [hx, tfX_cons, h2, h1]; rfl
  have e2 : anyFin s'.excs = anyFin s.excs := by rw [hx, anyFin_cons, h1]; rfl
  have hpf := h.pf
  have haf := h.af
  refine ⟨a1, a2, a3, ?_, ?_, by rw [e1]; exact hpf, by rw [e2]; exact haf, a4, a5, a6⟩
  · unfold raiseNX
    rw [e1]
    unfold FC.inTry
    simp only
    rw [← hpf]
    cases htf : tfX s.excs with
    | some f => simp
    | none =>
      simp only [Option.isSome_none, Bool.false_eq_true, ↓reduceIte]
      have : fbX s'.excs = some c0 := by
        rw [hx]; unfold fbX; rw [List.find?_cons, h2]; rfl
      rw [this]
  · unfold peX
    rw [e2]
    unfold FC.inTry
    simp only
    rw [← haf]
    cases hq : anyFin s.excs with
    | some f => simp
    | none => simp only [Option.isSome_none, Bool.false_eq_true, ↓reduceIte]; rw [hx]

theorem CtxF.pushTryF {fc : FC} {il : Bool} {s s' : St} (h : CtxF fc il s) (w : WF s) {c0 : Exc} {f : Nat}
    (hl : s'.loops = s.loops) (hx : s'.excs = c0 :: s.excs) (h1 : c0.fin = some f) (h2 : c0.processingFinally = false)
    (hfresh : ∀ y ∈ c0.handlers, s.next ≤ y) (hnd : c0.handlers.Nodup) : CtxF FC.inFin il s' := by
  obtain ⟨a1, a2, a3, a4, a5, a6⟩ := h.pushAux w hl hx hfresh hnd (fun hh => by rw [h2] at hh; cases hh)
  have e1 : tfX s'.excs = some f := by rw [hx, tfX_cons, h2, h1]; rfl
  have e2 : anyFin s'.excs = some f := by rw [hx, anyFin_cons, h1]; rfl
  refine ⟨a1, a2, a3, ?_, ?_, by rw [e1]; rfl, by rw [e2]; rfl, a4, a5, a6⟩
  · unfold raiseNX; rw [e1]; rfl
  · unfold peX; rw [e2]; rfl

theorem CtxF.pushFinBody {fc : FC} {il : Bool} {s s' : St} (h : CtxF fc il s) (w : WF s) {c0 : Exc} {f : Nat}
    (hl : s'.loops = s.loops) (hx : s'.excs = c0 :: s.excs) (h1 : c0.fin = some f) (h2 : c0.processingFinally = true)
    (hfresh : ∀ y ∈ c0.handlers, s.next ≤ y) (hnd : c0.handlers.Nodup) : CtxF fc.finBody il s' := by
  obtain ⟨a1, a2, a3, a4, a5, a6⟩ := h.pushAux w hl hx hfresh hnd (fun _ => by rw [h1]; rfl)
  have e1 : tfX s'.excs = tfX s.excs := by rw [hx, tfX_cons, h2]; rfl
  have e2 : anyFin s'.excs = some f := by rw [hx, anyFin_cons, h1]; rfl
  have e3 : fbX s'.excs = fbX s.excs := by rw [hx]; unfold fbX; rw [List.find?_cons, h2]; rfl
  refine ⟨a1, a2, a3, ?_, ?_, by rw [e1]; exact h.pf, by rw [e2]; rfl, a4, a5, a6⟩
  · unfold raiseNX; rw [e1, e3]; exact h.rn
  · unfold peX; rw [e2]; rfl

def XT (X : List Exc) (t : Nat) : Prop := ∃ c ∈ X, t ∈ c.handlers ∨ c.fin = some t

def TgF (n : Nat) (L : List (Nat × Nat × Nat)) (X : List Exc) (brk : Bool) (t : Nat) : Prop :=
  n ≤ t ∨ t = exitB ∨ (∃ h x d rest, L = (h, x, d) :: rest ∧ (t = h ∨ (t = x ∧ brk = true))) ∨ XT X t

theorem not_XT {X : List Exc} {lo m : Nat} (h : ∀ c ∈ X, (∀ f, c.fin = some f → f < lo) ∧ ∀ h ∈ c.handlers, h < lo) (hm : lo ≤ m) : ¬ XT X m := by
  rintro ⟨c, hc, h1 | h1⟩
  · have := (h c hc).2 m h1; omega
  · have := (h c hc).1 m h1; omega

theorem WF.not_XT {s : St} (w : WF s) {m : Nat} (hm : s.next ≤ m) : ¬ XT s.excs m := PV.CFGFin.not_XT w.excs hm

theorem XT.tail {c : Exc} {X : List Exc} {t : Nat} (h : XT X t) : XT (c :: X) t := by
  obtain ⟨c', hc', h'⟩ := h
  exact ⟨c', List.mem_cons_of_mem _ hc', h'⟩

/-- `PostC` with the jumps and targets of this fragment -/
structure PostF (E : List Edge) (st st' : St) (ex : Ex) (n : Nat) : Prop where
  cnt : cnt (rE E) st'.edges = cnt (rE E) st.edges + n
  normal : ex.normal = true → EntryC E st'
  dead : ex.normal = false → ¬ R E st'.cur
  /-- the structural jumps arrive: at their own target, or at the pending `finally` block -/
  jmp : Jmp E st.loops st.excs ex
  /-- live new edges only go to new blocks, EXIT, the innermost loop, handler / `finally` blocks of the stack -/
  tgt : LTI E (TgF st.next st.loops st.excs ex.brk) st st'

end PV.CFGFin
