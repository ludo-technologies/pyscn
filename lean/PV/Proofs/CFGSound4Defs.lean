import PV.Proofs.CFGSoundDefs
/-!
The largest fragment on which the mirror is proved sound: `okL4 inLoop` = `okL3` WITHOUT the restriction that a `try` with a
non-empty `finally` must not occur inside a `finally` body.  It excludes only `break` / `continue` outside a loop and `except` /
`case` clauses outside `try` / `match`.  (The definition stands alone so that the evaluators `CFGSound4Eval*` need nothing else.)
-/
namespace PV.CFGSound
open PV.CFG PV.Py

-- `decreasing_by` runs one `simp only` on every goal, and not every goal needs both of its lemmas
set_option linter.unusedSimpArgs false in
mutual
  def okL4 (il : Bool) : List Stmt → Bool
    | [] => true
    | x :: xs => okS4 il x && okL4 il xs
  termination_by l => 2 * sizeL l
  decreasing_by
    all_goals (try simp_wf)
    all_goals (try simp only [Stmt.size, sizeL])
    all_goals omega
  def okS4 (il : Bool) : Stmt → Bool
    | .simple .. | .def_ .. | .ret .. | .raise .. => true
    | .brk .. | .cont .. => il
    | .ite _ _ a b | .elifc _ _ a b => okL4 il a && okL4 il b
    | .elsec _ _ a => okL4 il a
    | .loop _ _ a b => okL4 true a && okL4 il b
    | .with_ _ _ a => okL4 il a
    | .match_ _ _ cs => okCases4 il cs
    | .class_ _ _ a => okL4 false a
    | .try_ _ _ a hs c d => okL4 il a && okHs4 il hs && okL4 il c && (d.isEmpty || okL4 il d)
    | .handler .. | .case_ .. => false
  termination_by x => 2 * x.size + 1
  decreasing_by
    all_goals (try simp_wf)
    all_goals (try simp only [Stmt.size, sizeL])
    all_goals omega
  def okCases4 (il : Bool) : List Stmt → Bool
    | [] => true
    | .case_ _ _ a :: cs => okL4 il a && okCases4 il cs
    | _ :: _ => false
  termination_by l => 2 * sizeL l
  decreasing_by
    all_goals (try simp_wf)
    all_goals (try simp only [Stmt.size, sizeL])
    all_goals omega
  def okHs4 (il : Bool) : List Stmt → Bool
    | [] => true
    | .handler _ _ a :: hs => okL4 il a && okHs4 il hs
    | _ :: _ => false
  termination_by l => 2 * sizeL l
  decreasing_by
    all_goals (try simp_wf)
    all_goals (try simp only [Stmt.size, sizeL])
    all_goals omega
end

end PV.CFGSound
