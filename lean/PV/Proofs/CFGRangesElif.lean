import PV.Proofs.CFGRanges
import PV.Proofs.CFGRangesSpans
import PV.Proofs.CFGRangesStatic
/-!
Reported ranges for the heads of `elif` clauses.

The builder stores the test of a converted `elif` with location `0..0`, so there is no located record that witnesses that the line
of the `elif` is live, and the record-level theorem exempts these lines.  For the RANGES no exemption is needed: a live `elif` head
`l` is `ElifOK` (`elif_static`; its witness `l₁` is the first statement of the then-branch, `okEL`); every record carries `0..0` or the
span of a located statement (`build_spans`); so a range `first.s … last.e` that contains `l` would contain `l₁`, which
`mirror_ranges_static_def` excludes.
-/
namespace PV.CFGSound
open PV.CFG PV.Py

/-- the fragment for the statement without exemption: `okR`, and every `elif` clause has a then-branch that begins with a located
statement (possibly inside `try:`) -/
def okRE (body : List Stmt) : Bool := okR body && okEL body

theorem mirror_ranges_elif (k : Kind) (s e : Nat) (body : List Stmt) (hok : okRE body = true) (hwf : WFDef k s e body) :
    ∀ l ∈ (sxL body).skipped, ∀ f ∈ findings (build k s e body), ¬ (f.s ≤ l ∧ l ≤ f.e) := by
  intro l hl f hf hin
  unfold okRE at hok
  rw [Bool.and_eq_true] at hok
  obtain ⟨hokr, hoke⟩ := hok
  have hlc := okLC_of_okL3 body false false hokr
  obtain ⟨hgz, hpw, hv⟩ := build_rq k s e body hlc hwf
  have wfb := build_wf k s e body
  obtain ⟨first, hfm, last, hlm, hfd, hld, hfs, hfe, hfl⟩ := findings_shape _ hgz f hf
  obtain ⟨l₁, hl₁, hlt, hsp⟩ := elif_static body 1 hwf.wfl hoke l hl
  have hl1 : 1 ≤ l := (sx_lines_pos hwf.wfl).skipped l hl
  have hmain := mirror_ranges_static_def k s e body hokr hwf l₁ hl₁ f hf
  rw [hfs, hfe] at hin hmain
  -- records of unreachable blocks are not the class header
  have hpre : ∀ r ∈ (build k s e body).stmts, r.blk ∉ reachable (build k s e body) → r ∉ (preB k s e).stmts := by
    intro r _ hd hp
    obtain ⟨rfl, rfl⟩ := preB_stmts hp
    exact hd ((mem_reachable_iff wfb).mpr (cls_header_reach s e body))
  have hsb := spans_bounds body 1 hwf.wfl
  have spF := (build_spans k s e body hlc first hfm).resolve_left (hpre first hfm hfd)
  have spL := (build_spans k s e body hlc last hlm).resolve_left (hpre last hlm hld)
  -- the last record is located
  have hle : last.e ≠ 0 := by omega
  rcases spL with hz | hL
  · exact hle hz.2
  · have cL := hsp _ hL
    have bL := hsb _ hL
    simp only at cL bL
    -- the first record is located too
    have hfirst : (first.s, first.e) ∈ spansL body := by
      rcases spF with hz | hF
      · rcases hfl with heq | hne
        · rw [heq] at hz; exact absurd hz.2 hle
        · exact absurd hz.2 hne
      · exact hF
    have cF := hsp _ hfirst
    simp only at cF
    have h1 : first.s < l := by have := cF.1; omega
    have h2 : last.e < l₁ := by
      apply Classical.byContradiction
      intro hc
      exact hmain ⟨by omega, by omega⟩
    rcases Nat.lt_trichotomy last.s l with h3 | h3 | h3
    · have := cL.2.1 h3 hin.2; omega
    · exact cL.1 h3
    · have := cL.2.2 h3; omega

theorem mirror_ranges_sound_all (k : Kind) (s e : Nat) (body : List Stmt) (hok : okRE body = true) (hwf : WFDef k s e body)
    {o : Out} {tr : List Nat} (ex : Exec body o tr) :
    ∀ l ∈ tr, ∀ f ∈ findings (build k s e body), ¬ (f.s ≤ l ∧ l ≤ f.e) := by
  intro l hl
  have hokr : okR body = true := by unfold okRE at hok; rw [Bool.and_eq_true] at hok; exact hok.1
  have h1 := (PV.C01.C01_live_sound ex).2 l hl
  rcases (live_le_sx3 body false false hokr).1 l h1 with h | h
  · exact mirror_ranges_static_def k s e body hokr hwf l h
  · exact mirror_ranges_elif k s e body hok hwf l h

end PV.CFGSound

#print axioms PV.CFGSound.mirror_ranges_sound_all
