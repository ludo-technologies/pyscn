import PV.Proofs.CFGComplexityLemmas
/-!
Property C03 for the CFG mirror — the merge block of an `if`: what entering a branch through a conditional edge achieves (`EnterG`), what
a construct that ends in a merge block achieves (`JoinG`), and the steps from the first branch (`HeadG`) through the state after both
branches (`TwoG`) or after the rest of the chain, and the state before the last edge into the merge block (`StepG`), to the join.  Each
holds what was added so far as one `Grow` and the blocks the parts ended in as `End`s.
-/
namespace PV.CFGSound
open PV.CFG PV.CFGFin

theorem brk_union_l {a b : Ex} (h : a.brk = true) : (a.union b).brk = true := by
  show (a.brk || b.brk) = true
  rw [h]; rfl
theorem brk_union_r {a b : Ex} (h : b.brk = true) : (a.union b).brk = true := by
  show (a.brk || b.brk) = true
  rw [h]; exact Bool.or_true _

/-- what entering a sub-list through a new conditional edge `cond → st.next` achieves (`s3` = state after the sub-list, `k` = number of
blocks allocated before the sub-list is processed): `grow` is what the sub-list adds behind that edge -/
structure EnterG (S : Sch) (E : List Edge) (st s3 : St) (cond k : Nat) (t : ETy) (ex : Ex) (n : Nat) : Prop where
  grow : Grow E (TgG S (st.next + k) st.loops st.excs ex.brk) (st.edge cond st.next t) s3 n
  end_ : End E s3 s3.cur ex.normal
  jmp : S.J E st.loops st.excs ex
  mem : (cond, st.next, t) ∈ s3.edges
  calm : ∀ m, m ≠ cond → m ≠ st.next → m < st.next + k → Calm st m → Calm s3 m
  own : s3.cur = st.next ∨ st.next + k ≤ s3.cur

section main
variable {S : Sch} {E : List Edge}

/-- what a construct that ends in the merge block `m` achieves (`nrm`: can fall through, `ex`: the jumps); a live new edge enters `m`
only if the construct can fall through -/
structure JoinG (S : Sch) (E : List Edge) (st s' : St) (m : Nat) (nrm : Bool) (ex : Ex) (n : Nat) : Prop where
  grow : Grow E (fun t => (t ≠ m ∧ TgG S st.next st.loops st.excs ex.brk t) ∨ (t = m ∧ nrm = true)) st s' n
  normal : nrm = true → s'.cur = m ∧ R E m
  cur : s'.cur = m ∨ ¬ R E s'.cur
  calm : Calm s' m
  jmp : S.J E st.loops st.excs ex

theorem JoinG.congr {st s' : St} {m : Nat} {nrm nrm' : Bool} {ex ex' : Ex} {n n' : Nat} (J : JoinG S E st s' m nrm ex n)
    (h1 : nrm = nrm') (h2 : ex.brk = ex'.brk) (hj : S.J E st.loops st.excs ex') (h3 : n = n') : JoinG S E st s' m nrm' ex' n' := by
  subst h1; subst h3
  exact ⟨J.grow.mono (fun t ht => by rw [← h2]; exact ht), J.normal, J.cur, J.calm, hj⟩

/-- if the merge block belongs to the zone of the call, `JoinG` gives `PostG` -/
theorem JoinG.post {st s' : St} {m : Nat} {ex : Ex} {n : Nat} (J : JoinG S E st s' m ex.normal ex n) (w : WF st)
    (hf : Fut E st.next s'.next s') (hm1 : st.next ≤ m) (hm2 : m < s'.next) : PostG S E st s' ex n := by
  refine (J.grow.mono (fun t ht => ?_)).post rfl ⟨fun h => ?_, fun h => ?_⟩ J.jmp
  · rcases ht with ⟨_, h⟩ | ⟨h, _⟩
    · exact h
    · exact .inl (by omega)
  · obtain ⟨h1, h2⟩ := J.normal h
    exact ⟨by rw [h1]; exact h2, by rw [h1]; exact J.calm⟩
  · rcases J.cur with hc | hc
    · rw [hc]
      refine dead_of_LTI hf hm1 hm2 w hm1 (J.grow.tgt.mono (fun t ht => ?_))
      rcases ht with ⟨h1, _⟩ | ⟨_, h2⟩
      · exact h1
      · rw [h] at h2; cases h2
    · exact hc

/-- the state before the last edge `a → m` is added (`na`: the block `a` is a live end, `nr`: `m` is reachable already) -/
structure StepG (S : Sch) (E : List Edge) (st s6 : St) (m a : Nat) (na nr : Bool) (ex : Ex) (n : Nat) : Prop where
  grow : Grow E (fun t => (t ≠ m ∧ TgG S st.next st.loops st.excs ex.brk t) ∨ (t = m ∧ nr = true)) st s6 n
  ea : End E s6 a na
  rN : nr = true → R E m
  calm : Calm s6 m
  jmp : S.J E st.loops st.excs ex

theorem StepG.join {st s6 : St} {m a : Nat} {na nr : Bool} {ex : Ex} {n : Nat} (Q : StepG S E st s6 m a na nr ex n) (ham : a ≠ m)
    (hsub : ∀ e ∈ (s6.edgeUnlessExit a m .normal).edges, e ∈ E) :
    JoinG S E st (setCur (s6.edgeUnlessExit a m .normal) m) m (na || nr) ex n := by
  -- the edge `a → m` is live only if `a` is a live end (`Grow.exit`): a live edge enters `m` iff `na || nr`
  refine ⟨(((Q.grow.mono fun t ht => ht.imp id fun h => ⟨h.1, by rw [h.2]; simp⟩).exit Q.ea isCond_normal normal_ne_exc
    fun h => .inr ⟨rfl, by rw [h]; rfl⟩).eq rfl), fun h => ⟨rfl, ?_⟩, .inl rfl, (Q.calm.eue ham : Calm (s6.edgeUnlessExit a m .normal) m), Q.jmp⟩
  rcases Bool.or_eq_true_iff.mp h with h | h
  · exact Q.ea.step hsub h
  · exact Q.rN h

theorem StepG.plain {st s6 : St} {m a : Nat} {na nr : Bool} {ex : Ex} {n : Nat} (Q : StepG S E st s6 m a na nr ex n)
    (hbt : s6.blockTerminates a = true) (hcur : s6.cur = m ∨ ¬ R E s6.cur) (hrec : nr = true → s6.cur = m) :
    JoinG S E st s6 m (na || nr) ex n := by
  obtain rfl := Q.ea.of_bt hbt
  exact ⟨Q.grow, fun h => ⟨hrec h, Q.rN h⟩, hcur, Q.calm, Q.jmp⟩

/-- the facts about the `then` part shared by all shapes (`s3` = state after the `then` part, `k` = blocks allocated before it,
`m` = merge block, `lo` = bound above the context blocks) -/
structure HeadG (S : Sch) (E : List Edge) (st s3 : St) (k m lo : Nat) (exT : Ex) (nT : Nat) : Prop where
  w : WF st
  he : EntryC E st
  enter : EnterG S E st s3 st.cur k .condT exT nT
  sm : Same st s3
  w3 : WF s3
  hnx : st.next + k ≤ s3.next
  ctx : CtxLt st lo
  h2 : 2 ≤ lo
  hlo : lo ≤ m
  m1 : m ≠ st.cur
  m2 : m ≠ st.next
  m3 : m < st.next + k
  cm : Calm st m
  cm3 : Calm s3 m

/-- the targets of a branch entered below the merge block `m`, seen from the start of the construct: none is `m` -/
theorem TgG.below {st : St} {k m lo : Nat} {b b' : Bool} {x : Nat} (h : TgG S (st.next + k) st.loops st.excs b x) (hctx : CtxLt st lo)
    (h2 : 2 ≤ lo) (hlo : lo ≤ m) (m3 : m < st.next + k) (hb : b = true → b' = true) : x ≠ m ∧ TgG S st.next st.loops st.excs b' x :=
  ⟨h.ne_ctx hctx m3 hlo h2, h.mono (Nat.le_add_right _ k) hb⟩

/-- the test and the first branch: the edge `cond → st.next` is the first decision of the test block -/
theorem HeadG.grow3 {st s3 : St} {k m lo : Nat} {exT : Ex} {nT : Nat} (H : HeadG S E st s3 k m lo exT nT) {b : Bool}
    (hb : exT.brk = true → b = true) : Grow E (fun x => x ≠ m ∧ TgG S st.next st.loops st.excs b x) st s3 (1 + nT) :=
  (((Grow.refl E _ st).condNew (t := .condT) H.he.reach rfl H.he.calm.1 ⟨H.m2.symm, .inl (Nat.le_refl _)⟩).trans
    (H.enter.grow.mono fun _ h => h.below H.ctx H.h2 H.hlo H.m3 hb)).cast (by rw [Nat.zero_add])

theorem HeadG.cur_ne {st s3 : St} {k m lo : Nat} {exT : Ex} {nT : Nat} (H : HeadG S E st s3 k m lo exT nT) :
    s3.cur ≠ st.cur ∧ s3.cur ≠ m := by
  rcases H.enter.own with h | h
  · exact ⟨h ▸ Nat.ne_of_gt H.w.cur, h ▸ H.m2.symm⟩
  · exact ⟨Nat.ne_of_gt (Nat.lt_of_lt_of_le H.w.cur (Nat.le_trans (Nat.le_add_right _ k) h)), Nat.ne_of_gt (Nat.lt_of_lt_of_le H.m3 h)⟩

/-- no `else`: `cond → m` is the second conditional edge of the test block -/
theorem nil_join {st s3 : St} {k m lo : Nat} {exT : Ex} {nT : Nat} (H : HeadG S E st s3 k m lo exT nT)
    (hsub : ∀ e ∈ ((s3.edge st.cur m .condF).edgeUnlessExit s3.cur m .normal).edges, e ∈ E) :
    JoinG S E st (setCur ((s3.edge st.cur m .condF).edgeUnlessExit s3.cur m .normal) m) m (exT.normal || true) exT (1 + nT) := by
  have P := H.enter
  obtain ⟨hc1, hc2⟩ := H.cur_ne
  have Q : StepG S E st (s3.edge st.cur m .condF) m s3.cur exT.normal true exT (1 + nT) :=
    ⟨((H.grow3 id).mono fun t h => .inl h).condOld (t := .condF) rfl P.mem rfl (.inr ⟨rfl, rfl⟩),
      ⟨fun h => ⟨(P.end_.on h).1, (P.end_.on h).2.edge (Ne.symm hc1)⟩, P.end_.off⟩,
      fun _ => R.step H.he.reach (hsub _ (eue_mem (List.mem_cons_self ..))), (P.calm m H.m1 H.m2 H.m3 H.cm).edge (Ne.symm H.m1), P.jmp⟩
  exact Q.join hc2 hsub

/-- `then` and `else` both processed.  `a`, `b`: the blocks in which the two parts end; `na`, `nb`: they are live ends -/
structure TwoG (S : Sch) (E : List Edge) (st s5 : St) (m a b : Nat) (na nb : Bool) (ex : Ex) (n : Nat) : Prop where
  grow : Grow E (fun t => t ≠ m ∧ TgG S st.next st.loops st.excs ex.brk t) st s5 n
  ea : End E s5 a na
  eb : End E s5 b nb
  ab : a ≠ b
  am : a ≠ m
  bm : b ≠ m
  calm : Calm s5 m
  jmp : S.J E st.loops st.excs ex

theorem TwoG.symm {st s5 : St} {m a b : Nat} {na nb : Bool} {ex : Ex} {n : Nat} (T : TwoG S E st s5 m a b na nb ex n) :
    TwoG S E st s5 m b a nb na ex n :=
  ⟨T.grow, T.eb, T.ea, Ne.symm T.ab, T.bm, T.am, T.calm, T.jmp⟩

theorem TwoG.step {st s5 : St} {m a b : Nat} {na nb : Bool} {ex : Ex} {n : Nat} (T : TwoG S E st s5 m a b na nb ex n)
    (hsub : ∀ e ∈ (s5.edgeUnlessExit a m .normal).edges, e ∈ E) :
    StepG S E st (s5.edgeUnlessExit a m .normal) m b nb na ex n :=
  ⟨(T.grow.mono fun _ h => .inl h).exit T.ea isCond_normal normal_ne_exc fun h => .inr ⟨rfl, h⟩, T.eb.eue T.ab, T.ea.step hsub,
    T.calm.eue T.am, T.jmp⟩

/-- both parts end in a terminator: a fresh unreachable block becomes current -/
theorem TwoG.term {st s5 : St} {m a b : Nat} {na nb : Bool} {ex : Ex} {n : Nat} (T : TwoG S E st s5 m a b na nb ex n)
    (hbt : (s5.blockTerminates a && s5.blockTerminates b) = true) (w5 : WF s5) {lo : Nat} (hlo : lo ≤ s5.next)
    (hf : Fut E lo (s5.next + 1) (setCur (bumpU s5) s5.next)) :
    JoinG S E st (setCur (bumpU s5) s5.next) m (na || nb) ex n := by
  rw [Bool.and_eq_true] at hbt
  obtain rfl := T.ea.of_bt hbt.1
  obtain rfl := T.eb.of_bt hbt.2
  exact ⟨(T.grow.mono fun t h => .inl h).eq rfl, (fun h => by cases h), .inr (fresh_dead w5 hlo hf), T.calm, T.jmp⟩

theorem else_two {st s3 s5 : St} {k m lo : Nat} {exT exE : Ex} {nT nE : Nat} (H : HeadG S E st s3 k m lo exT nT)
    (P5 : EnterG S E s3 s5 st.cur 1 .condF exE nE) :
    TwoG S E st s5 m s3.cur s5.cur exT.normal exE.normal (exT.union exE) (1 + nT + nE) := by
  have P3 := H.enter
  obtain ⟨hc1, hc2⟩ := H.cur_ne
  have hk := H.w3.cur
  have hm : m < s3.next := Nat.lt_of_lt_of_le H.m3 H.hnx
  have h03 : st.next ≤ s3.next := Nat.le_trans (Nat.le_add_right _ k) H.hnx
  have h5 : ∀ y, y < s3.next → s5.cur ≠ y := fun y hy =>
    P5.own.elim (fun e => e ▸ Nat.ne_of_gt hy) (fun e => Nat.ne_of_gt (Nat.lt_of_lt_of_le (Nat.lt_succ_of_lt hy) e))
  -- `cond → s3.next` is the second conditional edge of the test block; the targets of the `else` part are seen from `st` by `TgG.below`
  refine ⟨((H.grow3 brk_union_l).condOld (t := .condF) rfl P3.mem rfl ⟨Nat.ne_of_gt hm, .inl h03⟩).trans (P5.grow.mono fun x h => ?_),
    ⟨fun h => ⟨(P3.end_.on h).1, P5.calm _ hc1 (Nat.ne_of_lt hk) (Nat.lt_succ_of_lt hk) (P3.end_.on h).2⟩, P3.end_.off⟩, P5.end_,
    (h5 _ hk).symm, hc2, h5 m hm, P5.calm m H.m1 (Nat.ne_of_lt hm) (Nat.lt_succ_of_lt hm) (P3.calm m H.m1 H.m2 H.m3 H.cm),
    S.J_union P3.jmp (S.J_cast P5.jmp H.sm.loops.symm H.sm.excs.symm)⟩
  obtain ⟨h1, h2⟩ := h.below (b' := (exT.union exE).brk) (H.ctx.same H.sm) H.h2 H.hlo (Nat.lt_succ_of_lt hm) brk_union_r
  rw [H.sm.loops, H.sm.excs] at h2
  exact ⟨h1, h2.mono h03 id⟩

/-- the `else` part is an `elif` chain (`s6` = state after the chain, which joins into `m`) -/
theorem rec_step {st s3 s6 : St} {k m lo : Nat} {exT : Ex} {nT : Nat} (H : HeadG S E st s3 k m lo exT nT) {nr : Bool} {exR : Ex} {nR : Nat}
    (j : Ext s3.next (s3.next + 1) (setCur ((bump s3).edge st.cur s3.next .condF) s3.next) s6)
    (hE4 : (st.cur, s3.next, ETy.condF) ∈ E)
    (hrec : EntryC E (setCur ((bump s3).edge st.cur s3.next .condF) s3.next) →
      JoinG S E (setCur ((bump s3).edge st.cur s3.next .condF) s3.next) s6 m nr exR nR) :
    StepG S E st s6 m s3.cur exT.normal nr (exT.union exR) (1 + nT + nR) ∧ (s6.cur = m ∨ ¬ R E s6.cur) ∧ (nr = true → s6.cur = m) ∧ s3.cur ≠ m := by
  have h03 : st.next ≤ s3.next := Nat.le_trans (Nat.le_add_right _ k) H.hnx
  have hk := H.w3.cur
  have P3 := H.enter
  obtain ⟨hc1, hc2⟩ := H.cur_ne
  have he4 : EntryC E (setCur ((bump s3).edge st.cur s3.next .condF) s3.next) :=
    ⟨R.step H.he.reach hE4,
     ((Untouched.calm (H.w3.untouched (Nat.le_refl _)) : Calm s3 s3.next).edge (s := bump s3) (a := st.cur) (b := s3.next) (t := .condF) (Nat.ne_of_lt (Nat.lt_of_lt_of_le H.w.cur h03)))⟩
  have J := hrec he4
  refine ⟨⟨?_, ⟨fun h => ⟨(P3.end_.on h).1, ?_⟩, P3.end_.off⟩, fun h => (J.normal h).2, J.calm,
    S.J_union P3.jmp (S.J_cast J.jmp H.sm.loops.symm H.sm.excs.symm)⟩, J.cur, fun h => (J.normal h).1, hc2⟩
  · -- the test and the first branch, the second edge of the test block, the rest of the chain
    refine (((((H.grow3 brk_union_l).mono fun t h => .inl h).eq (s' := bump s3) rfl).condOld (a := st.cur) (b := s3.next) (t := .condF) rfl
      P3.mem rfl (.inl ⟨Nat.ne_of_gt (Nat.lt_of_lt_of_le H.m3 H.hnx), .inl h03⟩)).eq (s' := setCur _ s3.next) rfl).trans
      (J.grow.mono fun t ht => ?_)
    rcases ht with ⟨h1, h2⟩ | h
    · have h2' : TgG S (s3.next + 1) s3.loops s3.excs exR.brk t := h2
      rw [H.sm.loops, H.sm.excs] at h2'
      exact .inl ⟨h1, h2'.mono (Nat.le_succ_of_le h03) brk_union_r⟩
    · exact .inr h
  · refine j.calm (Nat.ne_of_lt hk) (Nat.lt_succ_of_lt hk) ?_
    exact ((P3.end_.on h).2.edge (s := bump s3) (a := st.cur) (b := s3.next) (t := .condF) (Ne.symm hc1))

/-- an else-part that continues the chain: fragment, exits and count in terms of its two branches -/
theorem Chain.cnt_facts {l a b : List Stmt} {s' e' : Nat} (h : Chain l s' e' a b) (fc : FC) {il : Bool}
    (hok : S.okL il l = true) :
    (S.okL il a = true ∧ S.okL il b = true) ∧ (sxL l).ex = (sxL a).ex.union (sxL b).ex ∧ ldLX fc l = 1 + ldLX fc a + ldLX fc b := by
  cases h
  · rw [S.okL_cons, S.okL_nil, Bool.and_true, S.okS_elifc, Bool.and_eq_true] at hok
    exact ⟨hok, by rw [(sxL_single _).2.2, sxS_elifc], by rw [ldLX_single, ldSX_elifc]⟩
  · rw [S.okL_cons, S.okL_nil, Bool.and_true, S.okS_ite, Bool.and_eq_true] at hok
    exact ⟨hok, by rw [(sxL_single _).2.2, sxS_ite], by rw [ldLX_single, ldSX_ite]⟩

theorem HeadG.facts4 {st s3 : St} {k m lo : Nat} {exT : Ex} {nT : Nat} (H : HeadG S E st s3 k m lo exT nT) {fc : FC} {il : Bool}
    (hc : S.Ctx fc il st) :
    S.Ctx fc il (setCur ((bump s3).edge st.cur s3.next .condF) s3.next) ∧
    CtxLt (setCur ((bump s3).edge st.cur s3.next .condF) s3.next) lo ∧
    Calm (setCur ((bump s3).edge st.cur s3.next .condF) s3.next) m :=
  ⟨S.ctx_of_eq (S.ctx_same hc H.sm) rfl rfl, (H.ctx.same H.sm).of_eq rfl rfl,
    H.cm3.edge (s := bump s3) (a := st.cur) (b := s3.next) (t := .condF) (Ne.symm H.m1)⟩


end main
/-! `EnterG` and `JoinG` written out without `Grow`, `End` and `Sch`, at `schC` (`EnterC`, `JoinC`) and at `schF` (`EnterCF`, `JoinCF`);
`EnterC` / `EnterCF` say in addition that the old edges stay (`old`) and that the entered block is reachable (`reach`), and count from
the state with the entering edge.  No lemma relates them to the generic forms, and no proof uses them. -/
structure EnterC (E : List Edge) (st s3 : St) (cond k : Nat) (t : ETy) (ex : Ex) (n : Nat) : Prop where
  cnt : cnt (rE E) s3.edges = cnt (rE E) ((cond, st.next, t) :: st.edges) + n
  normal : ex.normal = true → EntryC E s3
  dead : ex.normal = false → ¬ R E s3.cur
  brk : ex.brk = true → ∀ h x d rest, st.loops = (h, x, d) :: rest → R E x
  tgt : LTI E (fun x => x = st.next ∨ TgOK (st.next + k) st.loops st.excs ex.brk x) st s3
  mem : (cond, st.next, t) ∈ s3.edges
  old : ∀ e ∈ st.edges, e ∈ s3.edges
  calm : ∀ m, m ≠ cond → m ≠ st.next → m < st.next + k → Calm st m → Calm s3 m
  own : s3.cur = st.next ∨ st.next + k ≤ s3.cur
  reach : R E st.next

structure _root_.PV.CFGFin.EnterCF (E : List Edge) (st s3 : St) (cond k : Nat) (t : ETy) (ex : Ex) (n : Nat) : Prop where
  cnt : cnt (rE E) s3.edges = cnt (rE E) ((cond, st.next, t) :: st.edges) + n
  normal : ex.normal = true → EntryC E s3
  dead : ex.normal = false → ¬ R E s3.cur
  jmp : Jmp E st.loops st.excs ex
  tgt : LTI E (fun x => x = st.next ∨ TgF (st.next + k) st.loops st.excs ex.brk x) st s3
  mem : (cond, st.next, t) ∈ s3.edges
  old : ∀ e ∈ st.edges, e ∈ s3.edges
  calm : ∀ m, m ≠ cond → m ≠ st.next → m < st.next + k → Calm st m → Calm s3 m
  own : s3.cur = st.next ∨ st.next + k ≤ s3.cur
  reach : R E st.next

structure JoinC (E : List Edge) (st s' : St) (m : Nat) (nrm bk : Bool) (n : Nat) : Prop where
  cnt : cnt (rE E) s'.edges = cnt (rE E) st.edges + n
  normal : nrm = true → s'.cur = m ∧ R E m
  cur : s'.cur = m ∨ ¬ R E s'.cur
  calm : Calm s' m
  brk : bk = true → ∀ h x d rest, st.loops = (h, x, d) :: rest → R E x
  tgt : LTI E (fun t => (t ≠ m ∧ TgOK st.next st.loops st.excs bk t) ∨ (t = m ∧ nrm = true)) st s'

structure _root_.PV.CFGFin.JoinCF (E : List Edge) (st s' : St) (m : Nat) (nrm : Bool) (ex : Ex) (n : Nat) : Prop where
  cnt : cnt (rE E) s'.edges = cnt (rE E) st.edges + n
  normal : nrm = true → s'.cur = m ∧ R E m
  cur : s'.cur = m ∨ ¬ R E s'.cur
  calm : Calm s' m
  jmp : Jmp E st.loops st.excs ex
  tgt : LTI E (fun t => (t ≠ m ∧ TgF st.next st.loops st.excs ex.brk t) ∨ (t = m ∧ nrm = true)) st s'

end PV.CFGSound
