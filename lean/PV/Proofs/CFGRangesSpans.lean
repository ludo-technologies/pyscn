import PV.Proofs.CFGRangesElifDefs
/-!
Every record the builder stores carries either the location `0..0` (the test of a converted `elif`) or the span of a
located statement of the program (`spansL`): read off the record trace (`procList_tr`), since the located spans are the tagged lines
that are no `elif` clauses (`proj_all`).  `procList_spans` needs no fragment condition; `build_spans` takes `okLC` and does not use it.
-/
namespace PV.CFGSound
open PV.CFG

def SpOK (sp : List (Nat × Nat)) (r : SRec) : Prop := (r.s = 0 ∧ r.e = 0) ∨ (r.s, r.e) ∈ sp

theorem tr_spans {z k : Bool} {L L' : List SRec} {c c' : Nat} {T : List TLine} {sp : List (Nat × Nat)} {ls el : List Nat}
    (h : Tr z k L c T L' c') (hp : Proj T sp ls el) : ∀ r ∈ L', r ∈ L ∨ SpOK sp r := by
  obtain ⟨ns, rfl, h1, _⟩ := h.ext
  intro r hr
  rcases List.mem_append.mp hr with hr | hr
  · refine .inr ((h1 r hr).imp id ?_)
    rintro ⟨x, hx, ht, e1, e2⟩
    rw [e1, e2]; exact hp.span_mem hx ht
  · exact .inl hr

theorem procList_spans (ss : List Stmt) (st : St) (w : WF st) : ∀ r ∈ (procList st ss).stmts, r ∈ st.stmts ∨ SpOK (spansL ss) r :=
  tr_spans (procList_tr ss false false false st w (fun h => nomatch h) (fun h => nomatch h)) (proj_all.2 ss)

theorem procStmt_spans (x : Stmt) (st : St) (w : WF st) : ∀ r ∈ (procStmt st x).stmts, r ∈ st.stmts ∨ SpOK (spansS x) r :=
  tr_spans (procStmt_tr x false false false st w (fun h => nomatch h) (fun h => nomatch h)) (proj_all.1 x)

/-- the records of a whole definition: the class header (if any), `0..0`, or spans of located statements of the body -/
theorem build_spans (k : Kind) (s e : Nat) (body : List Stmt) (_ : okLC false body = true) :
    ∀ r ∈ (build k s e body).stmts, r ∈ (preB k s e).stmts ∨ SpOK (spansL body) r := by
  rw [build_eq, finishB_stmts]
  exact procList_spans body (preB k s e) (preB_inv k s e).wf

end PV.CFGSound

#print axioms PV.CFGSound.procList_spans
#print axioms PV.CFGSound.procStmt_spans
#print axioms PV.CFGSound.build_spans
