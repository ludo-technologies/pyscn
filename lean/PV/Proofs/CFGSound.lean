import PV.Proofs.CFGSoundLib
import PV.Proofs.CFGSoundSx
import PV.Proofs.ReachComplete
/-!
The lemmas about the builder that the induction over its calls (`S4.sound_run` in `CFGSound4`) uses: comprehensions realise
their line (`comp_sound`), closure of `Good` under list operations, the edges `finallyPropagation` adds (`fp_cov`), what the
states contribute in which the bodies of compound statements are processed (`classPre_sound`, `loopPre_sound`, …), and the
builder state `preB` in which the body of a definition is processed (`preB_entry`).
-/
namespace PV.CFGSound
open PV.CFG PV.Py

section sound
variable {E : List Edge} {S : List SRec}

theorem good_of {b p q : Nat} {ty : Ty} (h : ({ blk := b, s := p, e := q, ty := ty } : SRec) ∈ S) (hr : R E b) : Good E S p :=
  ⟨_, h, rfl, hr⟩

theorem go_cov (s e : Nat) : ∀ (cs : List Bool) (st : St) (cp : Nat), Cov E S (procComp.go s e cs st cp).1 → Cov E S st
  | [], st, cp, h => by rw [go_nil] at h; exact h
  | hasTest :: rest, st, cp, h => by
    rw [go_cons] at h
    have h2 := go_cov s e rest _ _ h
    cases hasTest <;> simp only [Bool.false_eq_true, ↓reduceIte, cov_edge, cov_add, cov_bump] at h2 <;> simp only [h2]

/-- the block the clauses of a comprehension end in is reached from the block `cp` the first clause is entered from -/
theorem go_sound (s e : Nat) : ∀ (cs : List Bool) (st : St) (cp : Nat), Cov E S (procComp.go s e cs st cp).1 → R E cp →
    R E (procComp.go s e cs st cp).2
  | [], st, cp, _, hr => by
    rw [go_nil]
    exact hr
  | hasTest :: rest, st, cp, hcov, hr => by
    rw [go_cons] at hcov ⊢
    have h2 := go_cov s e rest _ _ hcov
    cases hasTest
    · simp only [Bool.false_eq_true, ↓reduceIte] at hcov ⊢
      simp only [Bool.false_eq_true, ↓reduceIte, cov_edge, cov_add, cov_bump] at h2
      exact go_sound s e rest _ st.next hcov (R.step hr h2.2.2.2.2.2.1)
    · simp only [↓reduceIte] at hcov ⊢
      simp only [↓reduceIte, cov_edge, cov_add, cov_bump] at h2
      exact go_sound s e rest _ st.next hcov (R.step hr h2.2.2.2.2.2.2.2.2.1)

theorem comp_sound (st : St) (s e : Nat) (comp : List Bool) (w : WF st) (hcov : Cov E S (procComp st s e comp)) (hr : R E st.cur) :
    Cov E S st ∧ Entry E (procComp st s e comp) := by
  rw [procComp_eq] at hcov ⊢
  simp only [cov_setCur] at hcov
  have hc1 : Cov E S (procComp.go s e comp (bump (((bump st).edge st.cur st.next .normal).add st.next s e .other)) st.next).1 := by
    -- the edge into the exit block `st.next + 1`: `condF` from the block the clauses end in, or `normal` from `st.next` if that is still it
    split at hcov <;> exact ((cov_edge ..).mp hcov).2
  have hc0 := go_cov s e comp _ _ hc1
  simp only [cov_bump, cov_add, cov_edge] at hc0
  have hcur := w.cur
  have hne : st.next ≠ st.next + 1 := Nat.ne_of_lt (Nat.lt_succ_self _)
  have hu : Untouched (bump (((bump st).edge st.cur st.next .normal).add st.next s e .other)) (st.next + 1) := by
    simp only [unt_bump, unt_edge, unt_add]
    exact ⟨hne, Nat.ne_of_lt (Nat.lt_succ_of_lt hcur), w.untouched (Nat.le_succ _)⟩
  have g1 := go_sound s e comp _ st.next hc1 (R.step hr hc0.2.1)
  -- the clauses own the block `st.next` they are entered from and what they allocate: not the exit block `st.next + 1`
  obtain ⟨j, ho, -⟩ := go_frame (c := st.next) (n := st.next + 2) s e comp _ st.next
    (stmtBlock_inv (c := st.cur) w (.inl rfl) (Nat.le_refl _) s e).bump.wf (Nat.le_refl _) (.inl rfl) (Nat.lt_add_of_pos_right (Nat.succ_pos 1))
  have g2 := j.untouched hne.symm (Nat.lt_succ_self _) hu
  have g3 := ho.ne_of_lt hne.symm (Nat.lt_succ_self _)
  refine ⟨hc0.2.2, ?_⟩
  apply Entry.mk'
  · simp only [setCur_cur]
    split at hcov
    · exact R.step g1 ((cov_edge ..).mp hcov).1
    · next h =>
      have : (procComp.go s e comp (bump (((bump st).edge st.cur st.next .normal).add st.next s e .other)) st.next).2 = st.next := by
        simpa using h
      rw [this] at g1
      exact R.step g1 ((cov_edge ..).mp hcov).1
  · simp only [setCur_cur, nt_setCur]
    apply Untouched.nt
    split
    · exact (unt_edge ..).mpr ⟨g3, g2⟩
    · exact (unt_edge ..).mpr ⟨hne, g2⟩

theorem Entry.step_eue {s : St} (h : Entry E s) {b : Nat} {t : ETy} (f : s.hasSucc s.cur exitB = false → (s.cur, b, t) ∈ E) : R E b :=
  R.step h.reach (f h.noExit)

theorem lines_single {s : Nat} (h : Good E S s) : ∀ l ∈ [s], Good E S l := by
  intro l hl
  rw [List.mem_singleton.mp hl]; exact h
theorem lines_cons {s : Nat} {t : List Nat} (h : Good E S s) (ht : ∀ l ∈ t, Good E S l) : ∀ l ∈ s :: t, Good E S l := by
  intro l hl
  rcases List.mem_cons.mp hl with rfl | hl
  · exact h
  · exact ht l hl
theorem lines_append {t u : List Nat} (ht : ∀ l ∈ t, Good E S l) (hu : ∀ l ∈ u, Good E S l) : ∀ l ∈ t ++ u, Good E S l := by
  intro l hl
  rcases List.mem_append.mp hl with hl | hl
  · exact ht l hl
  · exact hu l hl

theorem foldl_edge_cov (src : Nat) (t : ETy) (hs : List Nat) (s : St) (hc : Cov E S (hs.foldl (fun st h => st.edge src h t) s)) :
    (∀ h ∈ hs, (src, h, t) ∈ E) ∧ Cov E S s := by
  rw [foldl_edge_eq] at hc
  exact ⟨fun h hh => hc.1 _ (List.mem_append_left _ (List.mem_reverse.mpr (List.mem_map_of_mem hh))),
    fun e he => hc.1 e (List.mem_append_right _ he), hc.2⟩

theorem foldl_cur_cov (t : ETy) (hs : List Nat) (s : St) (hc : Cov E S (hs.foldl (fun st h => st.edge st.cur h t) s)) : Cov E S s := by
  rw [foldl_cur_edges_eq] at hc
  exact (foldl_edge_cov _ t hs s hc).2

theorem conn_cov {fin : Nat} {st : St} {b : Nat} {t : ETy} (h : Cov E S (conn fin st b t)) : (∃ t', (fin, b, t') ∈ E) ∧ Cov E S st := by
  unfold conn at h
  split at h
  · next hs =>
    obtain ⟨t', ht'⟩ := hasSucc_mem hs
    exact ⟨⟨t', h.1 _ ht'⟩, h⟩
  · simp only [cov_edge] at h
    exact ⟨⟨t, h.1⟩, h.2⟩

theorem fp_cov {st : St} {fin : Nat} (h : Cov E S (finallyPropagation st fin)) :
    (∀ b t, (b, t) ∈ fpT st → ∃ t', (fin, b, t') ∈ E) ∧ Cov E S st := by
  rw [finallyPropagation_fold] at h
  have : ∀ (L : List (Nat × ETy)) (s : St), Cov E S (L.foldl (fun s bt => conn fin s bt.1 bt.2) s) →
      (∀ b t, (b, t) ∈ L → ∃ t', (fin, b, t') ∈ E) ∧ Cov E S s := by
    intro L
    induction L with
    | nil => exact fun s h => ⟨(fun _ _ hm => nomatch hm), h⟩
    | cons bt L ih =>
      intro s h
      obtain ⟨a1, a2⟩ := ih _ h
      obtain ⟨c1, c2⟩ := conn_cov a2
      refine ⟨fun b t hm => ?_, c2⟩
      rcases List.mem_cons.mp hm with rfl | hm
      · exact c1
      · exact a1 b t hm
  exact this _ st h

/-- the targets of `return` and of the jumps of the innermost loop, under a context `c` that is being left -/
theorem fpT_ret {st : St} {c : Exc} {X : List Exc} (hx : st.excs = c :: X) :
    ((X.findSome? (fun c => c.fin)).getD exitB, ETy.ret) ∈ fpT st := by
  unfold fpT
  rw [hx]
  exact List.mem_cons_self

theorem fpT_loop {st : St} {c : Exc} {X : List Exc} (hx : st.excs = c :: X) {hdr ex d : Nat} {rest : List (Nat × Nat × Nat)}
    (h : st.loops = (hdr, ex, d) :: rest) :
    (((X.take (X.length - d)).findSome? (fun c => c.fin)).getD ex, ETy.brk) ∈ fpT st ∧
      (((X.take (X.length - d)).findSome? (fun c => c.fin)).getD hdr, ETy.cont) ∈ fpT st := by
  unfold fpT
  rw [hx, h]
  simp

theorem tryPre_facts (st : St) (hasFin hasElse : Bool) :
    (tryPre st hasFin hasElse).1.edges = (st.cur, st.next, .normal) :: st.edges ∧ (tryPre st hasFin hasElse).1.stmts = st.stmts ∧
    (tryPre st hasFin hasElse).1.loops = st.loops ∧ (tryPre st hasFin hasElse).1.excs = st.excs ∧ (tryPre st hasFin hasElse).1.cur = st.cur ∧
    st.next + 2 ≤ (tryPre st hasFin hasElse).1.next ∧
    (hasFin = true → st.next + 2 ≤ (tryPre st hasFin hasElse).2.1 ∧ (tryPre st hasFin hasElse).2.1 < (tryPre st hasFin hasElse).1.next) ∧
    (hasElse = true → st.next + 2 ≤ (tryPre st hasFin hasElse).2.2 ∧ (tryPre st hasFin hasElse).2.2 < (tryPre st hasFin hasElse).1.next) ∧
    (hasFin = true → hasElse = true → (tryPre st hasFin hasElse).2.1 ≠ (tryPre st hasFin hasElse).2.2) := by
  unfold tryPre
  cases hasFin <;> cases hasElse <;> simp [bump, St.edge]

theorem classPre_sound {st : St} {s e : Nat} (w : WF st) (he : Entry E st) (hcov : Cov E S (classPre st s e)) :
    Good E S s ∧ Entry E (classPre st s e) := by
  unfold classPre at hcov ⊢
  simp only [cov_add, cov_setCur, cov_edge, cov_bump] at hcov
  have hr : R E st.next := R.step he.reach hcov.2.1
  have hnt : NT (setCur ((bump st).edge st.cur st.next .normal) st.next) st.next :=
    Untouched.nt ((unt_setCur ..).mpr ((unt_edge ..).mpr ⟨Nat.ne_of_lt w.cur, w.untouched (Nat.le_refl _)⟩))
  exact ⟨good_of hcov.1 hr, Entry.mk' hr hnt.add_other⟩

/-- `st.next` is the setup block, which holds the statement, `+ 1` the body block, `+ 2` teardown, `+ 3` the exit block (`processWith`) -/
theorem withPre_sound {st : St} {s e : Nat} (w : WF st) (he : Entry E st) (hcov : Cov E S (withPre st s e)) :
    Good E S s ∧ R E st.next ∧ Entry E (withPre st s e) ∧ Untouched (withPre st s e) (st.next + 3) := by
  have hu : ∀ k, Untouched (withPre st s e) (st.next + (k + 1)) := fun k => by
    have hn : st.next ≠ st.next + (k + 1) := Nat.ne_of_lt (Nat.lt_add_of_pos_right (Nat.succ_pos k))
    simp only [withPre, unt_setCur, unt_edge, unt_add, unt_bump]
    exact ⟨hn, hn, Nat.ne_of_lt (Nat.lt_of_lt_of_le w.cur (Nat.le_add_right _ _)), w.untouched (Nat.le_add_right _ _)⟩
  unfold withPre at hcov
  simp only [cov_add, cov_setCur, cov_edge, cov_bump] at hcov
  obtain ⟨e3, e4, e5, _⟩ := hcov
  have hr : R E st.next := R.step he.reach e5
  exact ⟨good_of e4 hr, hr, Entry.mk' (R.step hr e3) (hu 0).nt, hu 2⟩

theorem casePre_sound {st : St} {mb s e : Nat} (w : WF st) (hmb : mb < st.next) (hrm : R E mb) (hcov : Cov E S (casePre st mb s e)) :
    Good E S s ∧ Entry E (casePre st mb s e) := by
  unfold casePre at hcov ⊢
  simp only [cov_add, cov_setCur, cov_edge, cov_bump] at hcov
  obtain ⟨e1, e2, -⟩ := hcov
  have hrc : R E st.next := R.step hrm e2
  have hnt : NT (setCur ((bump st).edge mb st.next .condT) st.next) st.next :=
    Untouched.nt ((unt_setCur ..).mpr ((unt_edge ..).mpr ⟨Nat.ne_of_lt hmb, w.untouched (Nat.le_refl _)⟩))
  exact ⟨good_of e1 hrc, Entry.mk' hrc hnt.add_other⟩

theorem matchPre_sound {st : St} {s e : Nat} (he : Entry E st) (hcov : Cov E S (matchPre st s e)) : Good E S s ∧ R E st.next := by
  unfold matchPre at hcov
  simp only [cov_add, cov_edge, cov_bump] at hcov
  obtain ⟨e2, e3, _⟩ := hcov
  exact ⟨good_of e2 (R.step he.reach e3), R.step he.reach e3⟩

theorem loopPre_unt {st : St} (s e : Nat) (b : Bool) {m : Nat} (h1 : st.next ≠ m) (h2 : st.cur ≠ m) (hu : Untouched st m) :
    Untouched (loopPre st s e b) m := by
  cases b
  · simp only [loopPre, Bool.false_eq_true, ↓reduceIte, unt_setCur, unt_edge, unt_add, unt_bump, unt_setLoops]
    exact ⟨h1, h1, h1, h2, hu⟩
  · simp only [loopPre, ↓reduceIte, unt_setCur, unt_edge, unt_add, unt_bump, unt_setLoops]
    exact ⟨h1, h1, h1, h2, hu⟩

/-- `st.next` is the header, `+ 1` the body block, `+ 2` the exit block; `st.next + 3` is the `else` block if there is one and is
not allocated otherwise, so it is untouched in both cases -/
theorem loopPre_sound {st : St} {s e : Nat} (b : Bool) (w : WF st) (he : Entry E st) (hcov : Cov E S (loopPre st s e b)) :
    Good E S s ∧ Entry E (loopPre st s e b) ∧ R E (if b = true then st.next + 3 else st.next + 2) ∧
    Untouched (loopPre st s e b) (st.next + 2) ∧ Untouched (loopPre st s e b) (st.next + 3) := by
  have hu : ∀ k, Untouched (loopPre st s e b) (st.next + (k + 1)) := fun k =>
    loopPre_unt s e b (Nat.ne_of_lt (Nat.lt_add_of_pos_right (Nat.succ_pos k)))
      (Nat.ne_of_lt (Nat.lt_of_lt_of_le w.cur (Nat.le_add_right _ _))) (w.untouched (Nat.le_add_right _ _))
  cases b
  · simp only [loopPre, Bool.false_eq_true, ↓reduceIte, cov_setLoops, cov_setCur, cov_edge, cov_add, cov_bump] at hcov
    obtain ⟨e1, e2, e3, e4, _⟩ := hcov
    have hr : R E st.next := R.step he.reach e4
    exact ⟨good_of e3 hr, Entry.mk' (R.step hr e2) (hu 0).nt, R.step hr e1, hu 1, hu 2⟩
  · simp only [loopPre, ↓reduceIte, cov_setLoops, cov_setCur, cov_edge, cov_add, cov_bump] at hcov
    obtain ⟨e1, e2, e3, e4, _⟩ := hcov
    have hr : R E st.next := R.step he.reach e4
    exact ⟨good_of e3 hr, Entry.mk' (R.step hr e2) (hu 0).nt, R.step hr e1, hu 1, hu 2⟩

/-- the test of an `if` / `elif`: `b` is `st` with the test recorded in the current block (and fresh blocks allocated); the first
branch starts in the new block `st.next`, entered by the `condT` edge -/
theorem testPre_sound {st b : St} {s e : Nat} (hE : b.edges = st.edges)
    (hS : b.stmts = { blk := st.cur, s := s, e := e, ty := .other } :: st.stmts) (w : WF st) (he : Entry E st)
    (hc : Cov E S (setCur (b.edge st.cur st.next .condT) st.next)) :
    Good E S s ∧ Entry E (setCur (b.edge st.cur st.next .condT) st.next) := by
  have hcur := w.cur
  simp only [cov_setCur, cov_edge] at hc
  obtain ⟨e1, hb⟩ := hc
  have e2 : ({ blk := st.cur, s := s, e := e, ty := .other } : SRec) ∈ S := hb.2 _ (by rw [hS]; exact List.mem_cons_self)
  have hu := w.untouched (Nat.le_refl st.next)
  refine ⟨good_of e2 he.reach, Entry.mk' (R.step he.reach e1) (Untouched.nt ?_)⟩
  simp only [setCur_cur, unt_setCur, unt_edge]
  refine ⟨Nat.ne_of_lt hcur, fun x hx => hu.1 x (hE ▸ hx), fun r hr => ?_⟩
  rw [hS] at hr
  rcases List.mem_cons.mp hr with rfl | hr
  · exact Nat.ne_of_lt hcur
  · exact hu.2 r hr

/-- the first branch of an `if` ends in `s3`: the merge block `st.next + 1`, allocated before the branch is processed, is not the
branch's own (it owns its first block `st.next` and what it allocates) -/
theorem ifPre_sound {st s3 : St} {s e : Nat} {thn : List Stmt} (w : WF st) (he : Entry E st) (hr : Run (ifPre st s e) (.list thn) s3)
    (hcov : Cov E S s3) : Good E S s ∧ Entry E (ifPre st s e) ∧ Untouched s3 (st.next + 1) ∧ s3.cur ≠ st.next + 1 := by
  have jh := Conv.own (ifPre_wf w s e) hr
  obtain ⟨g, hent⟩ := testPre_sound (st := st) (b := bump (bump (st.add st.cur s e .other))) rfl rfl w he (Cov.of_inv jh hcov)
  refine ⟨g, hent, jh.untouched (Nat.succ_ne_self _) (Nat.lt_succ_self _) ?_, jh.own.ne_of_lt (Nat.succ_ne_self _) (Nat.lt_succ_self _)⟩
  simp only [ifPre, unt_setCur, unt_edge, unt_bump, unt_add]
  exact ⟨Nat.ne_of_lt (Nat.lt_succ_of_lt w.cur), Nat.ne_of_lt (Nat.lt_succ_of_lt w.cur), w.untouched (Nat.le_succ _)⟩

theorem elifPre_sound {st s3 : St} {s e : Nat} {thn : List Stmt} (w : WF st) (he : Entry E st) (hr : Run (elifPre st s e) (.list thn) s3)
    (hcov : Cov E S s3) : Good E S s ∧ Entry E (elifPre st s e) :=
  testPre_sound (st := st) (b := bump (st.add st.cur s e .other)) rfl rfl w he (Conv.cov (c := .list thn) (elifPre_wf w s e) hr hcov)

/-- A call that starts in the fresh block which the `condF` edge out of `cond` enters (the `else` part of an `if`, the next clause of
a chain), framed there and ending in `s5`: the block is entered, what covers `s5` covers `st`, and the call leaves the older blocks as
they were. -/
theorem condFPre_sound {st s5 : St} {cond : Nat} (w : WF st) (hcl : cond < st.next) (hrc : R E cond)
    (j : Ext st.next (st.next + 1) (setCur ((bump st).edge cond st.next .condF) st.next) s5) (hcov : Cov E S s5) :
    Entry E (setCur ((bump st).edge cond st.next .condF) st.next) ∧ Cov E S st ∧
      ∀ m, m < st.next → (NT st m → NT s5 m) ∧ (cond ≠ m → Untouched st m → Untouched s5 m) := by
  have hc := Cov.of_ext j hcov
  simp only [cov_setCur, cov_edge, cov_bump] at hc
  refine ⟨Entry.mk' (R.step hrc hc.1) (Untouched.nt ((unt_setCur ..).mpr ((unt_edge ..).mpr ⟨Nat.ne_of_lt hcl, w.untouched (Nat.le_refl _)⟩))),
    hc.2, fun m hm => ⟨fun h => ?_, fun hne hu => ?_⟩⟩
  · exact j.nt (Nat.ne_of_lt hm) (Nat.lt_succ_of_lt hm) ((nt_setCur ..).mpr (NT.edge_tgt (Nat.ne_of_gt w.two) ((nt_bump ..).mpr h)))
  · exact j.untouched (Nat.ne_of_lt hm) (Nat.lt_succ_of_lt hm) ((unt_setCur ..).mpr ((unt_edge ..).mpr ⟨hne, hu⟩))

end sound

/-! ### an else-part that continues the chain: its summary -/
section chain
variable {l a b : List Stmt} {s' e' : Nat} (h : Chain l s' e' a b)
include h

theorem Chain.sxL_ex : (sxL l).ex = (sxL a).ex.union (sxL b).ex := by
  cases h
  · rw [(sxL_single _).2.2, sxS_elifc]
  · rw [(sxL_single _).2.2, sxS_ite]

theorem Chain.lines_good {E : List Edge} {S : List SRec} (h3 : Good E S s') (ha : ∀ x ∈ (sxL a).lines, Good E S x)
    (hb : ∀ x ∈ (sxL b).lines, Good E S x) : ∀ x ∈ (sxL l).lines, Good E S x := by
  cases h
  · rw [(sxL_single _).1, sxS_elifc]
    exact lines_append ha hb
  · rw [(sxL_single _).1, sxS_ite]
    exact lines_cons h3 (lines_append ha hb)
end chain

theorem finishElif_cur (s : St) (te fm : Nat) : (finishElif s te fm).cur = fm := by
  unfold finishElif; simp

theorem ex_union_normal (a b : Ex) : (a.union b).normal = (a.normal || b.normal) := rfl
theorem ex_union_brk (a b : Ex) : (a.union b).brk = (a.brk || b.brk) := rfl
theorem ex_union_cont (a b : Ex) : (a.union b).cont = (a.cont || b.cont) := rfl
theorem ex_union_ret (a b : Ex) : (a.union b).ret = (a.ret || b.ret) := rfl
theorem ex_union_raise (a b : Ex) : (a.union b).raise = (a.raise || b.raise) := rfl

theorem or3 {a b c : Bool} : (a || (b || c)) = true ↔ (a = true ∨ b = true ∨ c = true) := by
  cases a <;> cases b <;> cases c <;> simp

theorem preB_entry {E : List Edge} (k : Kind) (s e : Nat) (hE : ∀ x ∈ (preB k s e).edges, x ∈ E) : Entry E (preB k s e) := by
  have hu0 : Untouched initSt 0 := ⟨(fun _ h => by cases h), (fun _ h => by cases h)⟩
  have hu2 : Untouched initSt 2 := ⟨(fun _ h => by cases h), (fun _ h => by cases h)⟩
  have hnt : NT (setCur ((bump initSt).edge 0 2 .normal) 2) 2 :=
    Untouched.nt ((unt_setCur ..).mpr ((unt_edge ..).mpr ⟨by decide, hu2⟩))
  cases k
  · exact Entry.mk' (R.step R.entry (hE (0, 2, .normal) (List.mem_cons_self ..))) hnt
  · exact Entry.mk' (R.step R.entry (hE (0, 2, .normal) (List.mem_cons_self ..))) hnt.add_other
  · exact Entry.mk' R.entry (Untouched.nt hu0)

end PV.CFGSound
