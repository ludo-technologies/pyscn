import PV.Proofs.ZSKeyroots
/-! # The Zhang–Shasha mirror `PV.ZS.zsDist` computes the specification distance `PV.TED.dist` -/
namespace PV.ZSProof
open PV.TED PV.ZS

/-- **Zhang–Shasha as pyscn runs it computes the specification distance**, for all trees and all
cost models. -/
theorem _root_.PV.ZS.zs_correct (c : Cost) (t₁ t₂ : Tree) : PV.ZS.zsDist c t₁ t₂ = PV.TED.dist c t₁ t₂ := by
  unfold zsDist
  rw [keyrootsT_eq, keyrootsT_eq]
  exact apted_ok c t₁ t₂ (mkPost t₁) (mkPost t₂) (mkPost_repr t₁) (mkPost_repr t₂)

/-! ## concrete checks (executed, not proved: they exercise the executable mirror) -/

def unitCost : Cost := ⟨fun _ => 1, fun _ => 1, fun a b => if a = b then 0 else 1⟩
/-- label-dependent weights with `ins ≠ del` -/
def wCost : Cost := ⟨fun a => 1000 + a, fun a => 900 + 2 * a, fun a b => if a = b then 0 else 800 + a + b⟩

-- labels: a=1 b=2 c=3 d=4 e=5 f=6
/-- f(d(a, c(b)), e) -/
def zsA : Tree := .node 6 [.node 4 [.node 1 [], .node 3 [.node 2 []]], .node 5 []]
/-- f(c(d(a, b)), e) -/
def zsB : Tree := .node 6 [.node 3 [.node 4 [.node 1 [], .node 2 []]], .node 5 []]

#guard postT 0 zsA == [(1, 0), (2, 1), (3, 1), (4, 0), (5, 4), (6, 0)]
#guard keyroots (mkPost zsA) == [2, 4, 5]
#guard keyroots (mkPost zsB) == [1, 4, 5]
#guard keyrootsT zsA == [2, 4, 5]
#guard keyrootsT zsB == [1, 4, 5]
#guard zsDist unitCost zsA zsB == 2
#guard dist unitCost zsA zsB == 2
#guard zsDist wCost zsA zsB == dist wCost zsA zsB
#guard zsDist wCost zsB zsA == dist wCost zsB zsA

/-- all forests with `n` nodes and labels drawn from `0, 1` (test pool) -/
def allForests : Nat → Nat → List (List Tree)
  | 0, _ => [[]]
  | _, 0 => [[]]
  | fuel + 1, n + 1 =>
    -- first tree has k+1 nodes (root + forest of k nodes), rest has n-k nodes
    (List.range (n + 1)).flatMap fun k =>
      (allForests fuel k).flatMap fun cs =>
        (allForests fuel (n - k)).flatMap fun ts =>
          [Tree.node 0 cs :: ts, Tree.node 1 cs :: ts]
def allTrees (n : Nat) : List Tree :=
  (allForests n (n - 1)).flatMap fun cs => [Tree.node 0 cs, Tree.node 1 cs]

#guard (allTrees 4).length == 5 * 16
-- every tree with ≤ 3 nodes against every tree with ≤ 4 nodes (two labels)
#guard ((List.range 4).flatMap allTrees).all fun t₁ => ((List.range 5).flatMap allTrees).all fun t₂ =>
  zsDist unitCost t₁ t₂ == dist unitCost t₁ t₂
#guard ((List.range 4).flatMap allTrees).all fun t₁ => ((List.range 4).flatMap allTrees).all fun t₂ =>
  zsDist wCost t₁ t₂ == dist wCost t₁ t₂ && zsDist wCost t₂ t₁ == dist wCost t₂ t₁

/-- the same agreement as a theorem instance -/
example : zsDist unitCost zsA zsB = dist unitCost zsA zsB := zs_correct _ _ _
example : zsDist unitCost zsA zsB = 2 := by rw [zs_correct]; decide +kernel

end PV.ZSProof

#print axioms PV.ZS.zs_correct
