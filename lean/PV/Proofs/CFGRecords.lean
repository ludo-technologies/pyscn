import PV.Proofs.CFGFrameA
/-!
The record list of the builder (`St.stmts`, newest first) — what speaks of records and blocks only, not of the edge list: the states
after the leaf statements; the records of one block are consecutive, and a record with end line 0 is the newest (`GZ`, `GC`) and the
oldest (`ZF`) of its block; the test record of an `if` is the newest of its block (`UT`, `NW`, `NoT`).  With them what the walks over
records share: `noSEL` (the fragment without standalone `elif` clauses; `noSEO` for an else-part, which may be one `elif` clause that
continues a chain), `tlL` and `spansL` (the tagged lines and the located spans of a program, pre-order), and the steps of `Inv 0 0`
(well-formedness of intermediate states without ownership side conditions).
-/
namespace PV.CFGSound
open PV.CFG

@[simp] theorem finishElif_stmts (s : St) (te fm : Nat) : (finishElif s te fm).stmts = s.stmts := by
  unfold finishElif; simp

theorem foldl_cur_edge_stmts (t : ETy) (hs : List Nat) (s : St) : (hs.foldl (fun st h => st.edge st.cur h t) s).stmts = s.stmts := by
  rw [foldl_cur_edges_eq, foldl_edge_stmts]

theorem foldl_cur_edge_next (t : ETy) (hs : List Nat) (s : St) : (hs.foldl (fun st h => st.edge st.cur h t) s).next = s.next := by
  rw [foldl_cur_edges_eq, foldl_edge_next]

theorem brk_facts (st : St) (s e : Nat) :
    (procBrk st s e).stmts = { blk := st.cur, s := s, e := e, ty := .brk } :: st.stmts ∧
      ((procBrk st s e).cur = st.cur ∨ (procBrk st s e).cur = st.next) := by
  rw [procBrk_eq]
  simp only
  split
  · exact ⟨rfl, .inl rfl⟩
  · split <;> exact ⟨rfl, .inr rfl⟩

theorem cont_facts (st : St) (s e : Nat) :
    (procCont st s e).stmts = { blk := st.cur, s := s, e := e, ty := .cont } :: st.stmts ∧
      ((procCont st s e).cur = st.cur ∨ (procCont st s e).cur = st.next) := by
  rw [procCont_eq]
  simp only
  split
  · exact ⟨rfl, .inl rfl⟩
  · split <;> exact ⟨rfl, .inr rfl⟩

theorem raise_facts (st : St) (s e : Nat) :
    (procRaise st s e).stmts = { blk := st.cur, s := s, e := e, ty := .raise } :: st.stmts ∧ (procRaise st s e).cur = st.next := by
  rw [procRaise_eq]
  simp only
  split
  · exact ⟨rfl, rfl⟩
  · split
    · split
      · simp only [setCur_stmts, bumpU_stmts, setCur_cur, foldl_cur_edge_stmts, foldl_cur_edge_next]
        exact ⟨rfl, rfl⟩
      · exact ⟨rfl, rfl⟩
    · exact ⟨rfl, rfl⟩

/-- the part of `procRet` after the comprehension -/
def retTail (st0 : St) (s e : Nat) : St :=
  let st1 := st0.add st0.cur s e .ret
  let st2 := match targetFinallyRet st1 with
    | some f => st1.edge st1.cur f .ret
    | none => st1.edge st1.cur exitB .ret
  setCur (bumpU st2) st2.next

theorem procRet_tail (st : St) (s e : Nat) (c : List Bool) (h : Bool) :
    procRet st s e c h = retTail (if h then procComp st s e c else st) s e := by
  rw [procRet_eq]; rfl

theorem retTail_facts (st0 : St) (s e : Nat) :
    (retTail st0 s e).stmts = { blk := st0.cur, s := s, e := e, ty := .ret } :: st0.stmts ∧ (retTail st0 s e).cur = st0.next ∧
      (retTail st0 s e).next = st0.next + 1 ∧ ∀ x ∈ st0.edges, x ∈ (retTail st0 s e).edges := by
  unfold retTail
  simp only
  split <;> exact ⟨rfl, rfl, rfl, fun x hx => List.mem_cons_of_mem _ hx⟩

theorem comp_facts (st : St) (s e : Nat) (c : List Bool) :
    let g := procComp.go s e c (bump (((bump st).edge st.cur st.next .normal).add st.next s e .other)) st.next
    (procComp st s e c).cur = st.next + 1 ∧ (procComp st s e c).next = g.1.next ∧ (procComp st s e c).stmts = g.1.stmts ∧
      (∀ x ∈ g.1.edges, x ∈ (procComp st s e c).edges) ∧
      ((g.2, st.next + 1, ETy.condF) ∈ (procComp st s e c).edges ∨
        (g.2 = st.next ∧ (st.next, st.next + 1, ETy.normal) ∈ (procComp st s e c).edges)) := by
  rw [procComp_eq]
  simp only
  split
  · exact ⟨rfl, rfl, rfl, fun x hx => List.mem_cons_of_mem _ hx, .inl (List.mem_cons_self ..)⟩
  · next h =>
    exact ⟨rfl, rfl, rfl, fun x hx => List.mem_cons_of_mem _ hx, .inr ⟨by simpa using h, List.mem_cons_self ..⟩⟩

def NoRec (L : List SRec) (b : Nat) : Prop := ∀ r ∈ L, r.blk ≠ b
/-- the newest record is in block `b` and is not the test of a converted `elif` -/
def Top (L : List SRec) (b : Nat) : Prop := ∃ h t, L = h :: t ∧ h.blk = b ∧ h.e ≠ 0

/-- every record either opens a block without records or continues the block of the record stored just before it, which then
must have an end line `≠ 0` -/
def GZ : List SRec → Prop
  | [] => True
  | r :: L => GZ L ∧ (NoRec L r.blk ∨ Top L r.blk)

/-- the next record may go into block `c`: `c` holds no record, or the newest record is in `c` and is located -/
def CurOK (L : List SRec) (c : Nat) : Prop := NoRec L c ∨ Top L c

structure GC (L : List SRec) (c : Nat) : Prop where
  gz : GZ L
  cur : CurOK L c

section gc
variable {L : List SRec} {b c m s e : Nat} {ty : Ty}

theorem NoRec.cons (hb : b ≠ m) (h : NoRec L m) : NoRec ({ blk := b, s := s, e := e, ty := ty } :: L) m := by
  intro r hr
  rcases List.mem_cons.mp hr with rfl | hr
  · exact hb
  · exact h r hr

theorem NoRec.of_wf {st : St} (w : WF st) (h : st.next ≤ m) : NoRec st.stmts m :=
  fun r hr => by have := w.stmts r hr; omega

theorem NoRec.ext {n : Nat} {st st' : St} (i : Ext c n st st') (hm : m ≠ c) (hlt : m < n) (h : NoRec st.stmts m) : NoRec st'.stmts m := by
  obtain ⟨ns, hs, hns⟩ := i.stmts
  intro r hr
  rw [hs] at hr
  rcases List.mem_append.mp hr with hr | hr
  · rcases hns r hr with h1 | h1 <;> omega
  · exact h r hr

theorem NoRec.inv {n : Nat} {st st' : St} (i : Inv c n st st') (hm : m ≠ c) (hlt : m < n) (h : NoRec st.stmts m) : NoRec st'.stmts m :=
  NoRec.ext i.ext hm hlt h

/-- a record for the current block (any location; afterwards the current block must change if `e = 0`) -/
theorem GC.gz_add_cur (h : GC L c) : GZ ({ blk := c, s := s, e := e, ty := ty } :: L) := ⟨h.gz, h.cur⟩

theorem GC.add_cur (h : GC L c) (he : e ≠ 0) : GC ({ blk := c, s := s, e := e, ty := ty } :: L) c :=
  ⟨h.gz_add_cur, .inr ⟨_, _, rfl, rfl, he⟩⟩

theorem GZ.add_fresh (h : GZ L) (hb : NoRec L b) : GZ ({ blk := b, s := s, e := e, ty := ty } :: L) := ⟨h, .inl hb⟩

/-- a header record in a fresh block that becomes the current block -/
theorem GC.hdr (h : GZ L) (hb : NoRec L b) (he : e ≠ 0) : GC ({ blk := b, s := s, e := e, ty := ty } :: L) b :=
  ⟨h.add_fresh hb, .inr ⟨_, _, rfl, rfl, he⟩⟩

theorem GC.fresh (h : GZ L) (hc : NoRec L c) : GC L c := ⟨h, .inl hc⟩
end gc

-- the termination proofs of a block all read `simp only [Stmt.size, sizeL]`, and each needs only one of the two
set_option linter.unusedSimpArgs false in
mutual
  /-- no statement of the list is (or contains) a standalone `elif` clause -/
  def noSEL : List Stmt → Bool
    | [] => true
    | x :: xs => noSES x && noSEL xs
  termination_by l => 2 * sizeL l
  decreasing_by
    all_goals (try simp_wf)
    all_goals (try simp only [Stmt.size, sizeL])
    all_goals omega
  def noSES : Stmt → Bool
    | .simple .. | .ret .. | .brk .. | .cont .. | .raise .. | .def_ .. => true
    | .elifc .. => false
    | .ite _ _ a b => noSEL a && noSEO b
    | .loop _ _ a b => noSEL a && noSEL b
    | .elsec _ _ a | .handler _ _ a | .with_ _ _ a | .match_ _ _ a | .case_ _ _ a | .class_ _ _ a => noSEL a
    | .try_ _ _ a hs c d => noSEL a && noSEL hs && noSEL c && noSEL d
  termination_by x => 2 * x.size
  decreasing_by
    all_goals (try simp_wf)
    all_goals (try simp only [Stmt.size, sizeL])
    all_goals omega
  /-- the `orelse` list of an `if` / `elif`: a single `elif` clause (the chain continues) or ordinary statements -/
  def noSEO : List Stmt → Bool
    | [.elifc _ _ a b] => noSEL a && noSEO b
    | l => noSEL l
  termination_by l => 2 * sizeL l + 1
  decreasing_by
    all_goals (try simp_wf)
    all_goals (try simp only [Stmt.size, sizeL])
    all_goals omega
end

theorem noSEL_nil : noSEL [] = true := noSEL.eq_1 ..
theorem noSEL_cons (x : Stmt) (xs : List Stmt) : noSEL (x :: xs) = (noSES x && noSEL xs) := noSEL.eq_2 ..
theorem noSES_elifc (s e : Nat) (a b : List Stmt) : noSES (.elifc s e a b) = false := noSES.eq_7 ..
theorem noSES_ite (s e : Nat) (a b : List Stmt) : noSES (.ite s e a b) = (noSEL a && noSEO b) := noSES.eq_8 ..
theorem noSES_loop (s e : Nat) (a b : List Stmt) : noSES (.loop s e a b) = (noSEL a && noSEL b) := noSES.eq_9 ..
theorem noSES_elsec (s e : Nat) (a : List Stmt) : noSES (.elsec s e a) = noSEL a := noSES.eq_10 ..
theorem noSES_handler (s e : Nat) (a : List Stmt) : noSES (.handler s e a) = noSEL a := noSES.eq_11 ..
theorem noSES_with (s e : Nat) (a : List Stmt) : noSES (.with_ s e a) = noSEL a := noSES.eq_12 ..
theorem noSES_match (s e : Nat) (a : List Stmt) : noSES (.match_ s e a) = noSEL a := noSES.eq_13 ..
theorem noSES_case (s e : Nat) (a : List Stmt) : noSES (.case_ s e a) = noSEL a := noSES.eq_14 ..
theorem noSES_class (s e : Nat) (a : List Stmt) : noSES (.class_ s e a) = noSEL a := noSES.eq_15 ..
theorem noSES_try (s e : Nat) (a hs c d : List Stmt) :
    noSES (.try_ s e a hs c d) = (noSEL a && noSEL hs && noSEL c && noSEL d) := noSES.eq_16 ..
theorem noSEO_elifc (s e : Nat) (a b : List Stmt) : noSEO [.elifc s e a b] = (noSEL a && noSEO b) := noSEO.eq_1 ..
theorem noSEO_other (l : List Stmt) (h : ∀ s e a b, l ≠ [.elifc s e a b]) : noSEO l = noSEL l :=
  noSEO.eq_2 l h

theorem Chain.noSEO {l a b : List Stmt} {s' e' : Nat} (h : Chain l s' e' a b) (hno : noSEO l = true) :
    noSEL a = true ∧ noSEO b = true := by
  cases h
  · rw [noSEO_elifc, Bool.and_eq_true] at hno
    exact hno
  · rw [noSEO_other _ (by intro _ _ _ _ h; cases h), noSEL_cons, noSEL_nil, Bool.and_true, noSES_ite, Bool.and_eq_true] at hno
    exact hno

/-- `x` is an `elif` clause -/
def IsE (x : Stmt) : Prop := ∃ s e a b, x = .elifc s e a b
/-- `l` is an else-part that consists of one `elif` clause -/
def IsEL (l : List Stmt) : Prop := ∃ s e a b, l = [.elifc s e a b]

theorem noSEO_of_notEL {l : List Stmt} (h : ¬ IsEL l) : noSEO l = noSEL l :=
  noSEO_other l (fun s e a b hh => h ⟨s, e, a, b, hh⟩)

theorem noSEO_single_of_ne {x : Stmt} (h : ∀ s e a b, x ≠ .elifc s e a b) : noSEO [x] = noSES x := by
  rw [noSEO_other _ (fun s e a b hh => h s e a b (List.cons.inj hh).1), noSEL_cons, noSEL_nil, Bool.and_true]

theorem noSES_notE {x : Stmt} (h : noSES x = true) : ¬ IsE x := by
  rintro ⟨s, e, a, b, rfl⟩
  rw [noSES_elifc] at h; cases h

theorem noSEL_notEL {l : List Stmt} (h : noSEL l = true) : ¬ IsEL l := by
  rintro ⟨s, e, a, b, rfl⟩
  rw [noSEL_cons, noSES_elifc, Bool.false_and] at h; cases h

theorem noSEO_of_noSEL {l : List Stmt} (h : noSEL l = true) : noSEO l = true := by
  rw [noSEO_of_notEL (noSEL_notEL h)]; exact h

theorem noSEO_of_noSES {x : Stmt} (h : noSES x = true) : noSEO [x] = true := by
  rw [noSEO_single_of_ne (fun s e a b hh => noSES_notE h ⟨s, e, a, b, hh⟩)]; exact h

theorem noSEO_nil : noSEO [] = true := noSEO_of_noSEL noSEL_nil

theorem noSEO_cons {x : Stmt} {xs : List Stmt} (h : noSEO (x :: xs) = true) :
    noSEO [x] = true ∧ noSEO xs = true ∧ (xs = [] ∨ noSEL xs = true) := by
  by_cases hE : IsEL (x :: xs)
  · obtain ⟨s, e, a, b, heq⟩ := hE
    obtain ⟨h1, h2⟩ := List.cons.inj heq
    subst h2
    exact ⟨h, noSEO_nil, .inl rfl⟩
  · rw [noSEO_of_notEL hE, noSEL_cons, Bool.and_eq_true] at h
    exact ⟨noSEO_of_noSES h.1, noSEO_of_noSEL h.2, .inr h.2⟩

/-- no span ends at line 0 -/
def NZ (A : List (Nat × Nat)) : Prop := ∀ sp ∈ A, sp.2 ≠ 0

theorem NZ.left {A B : List (Nat × Nat)} (h : NZ (A ++ B)) : NZ A := fun sp hs => h sp (List.mem_append.mpr (.inl hs))
theorem NZ.right {A B : List (Nat × Nat)} (h : NZ (A ++ B)) : NZ B := fun sp hs => h sp (List.mem_append.mpr (.inr hs))
theorem NZ.head {A : List (Nat × Nat)} {s e : Nat} (h : NZ ((s, e) :: A)) : e ≠ 0 := h (s, e) (List.mem_cons_self ..)
theorem NZ.tail {A : List (Nat × Nat)} {x : Nat × Nat} (h : NZ (x :: A)) : NZ A := fun sp hs => h sp (List.mem_cons_of_mem _ hs)

/-- every record with end line 0 is the oldest record of its block (`L`: newest first) -/
def ZF : List SRec → Prop
  | [] => True
  | r :: L => ZF L ∧ (r.e = 0 → NoRec L r.blk)

section zf
variable {L : List SRec} {b s e : Nat} {ty : Ty}

theorem ZF.add_nz (h : ZF L) (he : e ≠ 0) : ZF ({ blk := b, s := s, e := e, ty := ty } :: L) := ⟨h, fun h0 => absurd h0 he⟩
theorem ZF.add_fresh (h : ZF L) (hb : NoRec L b) : ZF ({ blk := b, s := s, e := e, ty := ty } :: L) := ⟨h, fun _ => hb⟩

/-- the test record of `procIf` / `procIfElif`: located, or stored in a block without records -/
theorem ZF.add_test (h : ZF L) (ht : e ≠ 0 ∨ NoRec L b) : ZF ({ blk := b, s := s, e := e, ty := ty } :: L) := by
  rcases ht with ht | ht
  · exact h.add_nz ht
  · exact h.add_fresh ht

theorem ZF.suffix : ∀ {a : List SRec}, ZF (a ++ L) → ZF L
  | [], h => h
  | _ :: _, h => ZF.suffix h.1
end zf

section inv0
variable {s0 s : St}

/-! `Inv 0 0` owns every block, so its steps `e0` (edge), `u0` (edgeUnlessExit), `a0` (add), `c0` (setCur) only need the bounds; what
is read off it is `wf`, `next_le` and that nothing is removed (`Inv.sub`) -/
theorem own0 (x : Nat) : Own 0 0 x := .inr (Nat.zero_le _)

theorem WF.i0 (w : WF s) : Inv 0 0 s s := Inv.refl w (own0 _)

theorem Inv.e0 (i : Inv 0 0 s0 s) {a b : Nat} {t : ETy} (ha : a < s.next) (hb : b < s.next) : Inv 0 0 s0 (s.edge a b t) :=
  i.edge (own0 _) ha hb
theorem Inv.u0 (i : Inv 0 0 s0 s) {a b : Nat} {t : ETy} (ha : a < s.next) (hb : b < s.next) : Inv 0 0 s0 (s.edgeUnlessExit a b t) :=
  i.edgeUnlessExit (own0 _) ha hb
theorem Inv.a0 (i : Inv 0 0 s0 s) {b p q : Nat} {ty : Ty} (hb : b < s.next) : Inv 0 0 s0 (s.add b p q ty) :=
  i.add (own0 _) hb
theorem Inv.c0 (i : Inv 0 0 s0 s) {x : Nat} (hx : x < s.next) : Inv 0 0 s0 (PV.CFGSound.setCur s x) :=
  i.setCur (own0 _) hx

theorem procList_inv0 (ss : List Stmt) (st : St) (w : WF st) : Inv 0 0 st (procList st ss) :=
  (procList_frame ss st w 0 0 (own0 _) (Nat.zero_le _)).1
theorem procList_same (ss : List Stmt) (st : St) (w : WF st) : Same st (procList st ss) :=
  (procList_frame ss st w 0 0 (own0 _) (Nat.zero_le _)).2
theorem branch_wf {s3 : St} (w3 : WF s3) {cond : Nat} (hcl : cond < s3.next) (t : ETy) :
    WF (setCur ((bump s3).edge cond s3.next t) s3.next) :=
  (freshBranch_inv (c := 0) (n := 0) (Ext.refl w3) (Nat.zero_le _) (own0 _) hcl t).wf
end inv0

/-- tagged line: start line, end line, tag (`0`: `if`, `1`: other located statement, `2`: `elif` clause) -/
abbrev TLine := Nat × Nat × Nat

set_option linter.unusedSimpArgs false in
mutual
  def tlL : List Stmt → List TLine
    | [] => []
    | x :: xs => tlS x ++ tlL xs
  termination_by l => 2 * sizeL l
  decreasing_by
    all_goals (try simp_wf)
    all_goals (try simp only [Stmt.size, sizeL])
    all_goals omega
  def tlS : Stmt → List TLine
    | .simple s e _ _ | .ret s e _ _ | .brk s e | .cont s e | .raise s e | .def_ s e _ => [(s, e, 1)]
    | .ite s e a b => (s, e, 0) :: tlL a ++ tlL b
    | .elifc s e a b => (s, e, 2) :: tlL a ++ tlL b
    | .loop s e a b => (s, e, 1) :: tlL a ++ tlL b
    | .elsec _ _ a => tlL a
    | .handler s e a | .with_ s e a | .match_ s e a | .case_ s e a | .class_ s e a => (s, e, 1) :: tlL a
    | .try_ _ _ a hs c d => tlL a ++ tlL hs ++ tlL c ++ tlL d
  termination_by x => 2 * x.size + 1
  decreasing_by
    all_goals (try simp_wf)
    all_goals (try simp only [Stmt.size, sizeL])
    all_goals omega
end

theorem tlL_nil : tlL [] = [] := tlL.eq_1 ..
theorem tlL_cons (x : Stmt) (xs : List Stmt) : tlL (x :: xs) = tlS x ++ tlL xs := tlL.eq_2 ..
theorem tlS_simple (s e : Nat) (c : List Bool) (h : Bool) : tlS (.simple s e c h) = [(s, e, 1)] := tlS.eq_1 ..
theorem tlS_ret (s e : Nat) (c : List Bool) (h : Bool) : tlS (.ret s e c h) = [(s, e, 1)] := tlS.eq_2 ..
theorem tlS_brk (s e : Nat) : tlS (.brk s e) = [(s, e, 1)] := tlS.eq_3 ..
theorem tlS_cont (s e : Nat) : tlS (.cont s e) = [(s, e, 1)] := tlS.eq_4 ..
theorem tlS_raise (s e : Nat) : tlS (.raise s e) = [(s, e, 1)] := tlS.eq_5 ..
theorem tlS_def (s e : Nat) (b : List Stmt) : tlS (.def_ s e b) = [(s, e, 1)] := tlS.eq_6 ..
theorem tlS_ite (s e : Nat) (a b : List Stmt) : tlS (.ite s e a b) = (s, e, 0) :: tlL a ++ tlL b := tlS.eq_7 ..
theorem tlS_elifc (s e : Nat) (a b : List Stmt) : tlS (.elifc s e a b) = (s, e, 2) :: tlL a ++ tlL b := tlS.eq_8 ..
theorem tlS_loop (s e : Nat) (a b : List Stmt) : tlS (.loop s e a b) = (s, e, 1) :: tlL a ++ tlL b := tlS.eq_9 ..
theorem tlS_elsec (s e : Nat) (a : List Stmt) : tlS (.elsec s e a) = tlL a := tlS.eq_10 ..
theorem tlS_handler (s e : Nat) (a : List Stmt) : tlS (.handler s e a) = (s, e, 1) :: tlL a := tlS.eq_11 ..
theorem tlS_with (s e : Nat) (a : List Stmt) : tlS (.with_ s e a) = (s, e, 1) :: tlL a := tlS.eq_12 ..
theorem tlS_match (s e : Nat) (a : List Stmt) : tlS (.match_ s e a) = (s, e, 1) :: tlL a := tlS.eq_13 ..
theorem tlS_case (s e : Nat) (a : List Stmt) : tlS (.case_ s e a) = (s, e, 1) :: tlL a := tlS.eq_14 ..
theorem tlS_class (s e : Nat) (a : List Stmt) : tlS (.class_ s e a) = (s, e, 1) :: tlL a := tlS.eq_15 ..
theorem tlS_try (s e : Nat) (a hs c d : List Stmt) : tlS (.try_ s e a hs c d) = tlL a ++ tlL hs ++ tlL c ++ tlL d := tlS.eq_16 ..

theorem tlL_single (x : Stmt) : tlL [x] = tlS x := by rw [tlL_cons, tlL_nil, List.append_nil]

/-- the only tagged line of `A` that starts at line `t` is the `if` statement `(t, e, 0)` -/
def UT (t e : Nat) (A : List TLine) : Prop := ∀ x ∈ A, x.1 = t → x = (t, e, 0)

section ut
variable {t e : Nat} {A B : List TLine}
theorem UT.left (h : UT t e (A ++ B)) : UT t e A := fun x hx => h x (List.mem_append.mpr (.inl hx))
theorem UT.right (h : UT t e (A ++ B)) : UT t e B := fun x hx => h x (List.mem_append.mpr (.inr hx))
theorem UT.tail {y : TLine} (h : UT t e (y :: A)) : UT t e A := fun x hx => h x (List.mem_cons_of_mem _ hx)
/-- a located statement that is not an `if` does not start at `t` -/
theorem UT.head1 {s q : Nat} (h : UT t e ((s, q, 1) :: A)) : s ≠ t := by
  intro hs
  have := h (s, q, 1) (List.mem_cons_self ..) hs
  simp only [Prod.mk.injEq] at this
  omega
/-- an `if` statement that starts at `t` ends at `e` -/
theorem UT.head0 {s q : Nat} (h : UT t e ((s, q, 0) :: A)) : s = t → q = e := by
  intro hs
  have := h (s, q, 0) (List.mem_cons_self ..) hs
  simp only [Prod.mk.injEq] at this
  exact this.2.1
end ut

/-- every record that starts at line `t` ends at line `e` and is the newest record of its block (`L`: newest first) -/
def NW (t e : Nat) : List SRec → Prop
  | [] => True
  | r :: L => NW t e L ∧ (r.s = t → r.e = e) ∧ ∀ x ∈ L, x.s = t → x.blk ≠ r.blk

def NoT (t : Nat) (L : List SRec) (b : Nat) : Prop := ∀ r ∈ L, r.s = t → r.blk ≠ b

section nw
variable {t e : Nat} {L : List SRec} {b p q x : Nat} {ty : Ty}

theorem NoT.of_norec (h : NoRec L b) : NoT t L b := fun r hr _ => h r hr

theorem NoT.of_wf {st : St} (w : WF st) (h : st.next ≤ b) : NoT t st.stmts b := NoT.of_norec (NoRec.of_wf w h)

theorem NoT.cons (h : NoT t L x) (hb : p = t → b ≠ x) : NoT t ({ blk := b, s := p, e := q, ty := ty } :: L) x := by
  intro r hr hs
  rcases List.mem_cons.mp hr with rfl | hr
  · exact hb hs
  · exact h r hr hs

theorem NoT.inv {c n : Nat} {st st' : St} (i : Inv c n st st') (hm : x ≠ c) (hlt : x < n) (h : NoT t st.stmts x) : NoT t st'.stmts x := by
  obtain ⟨ns, hs, hns⟩ := i.stmts
  intro r hr hrs
  rw [hs] at hr
  rcases List.mem_append.mp hr with hr | hr
  · rcases hns r hr with h1 | h1 <;> omega
  · exact h r hr hrs

theorem NW.add (h : NW t e L) (hb : NoT t L b) (hq : p = t → q = e) : NW t e ({ blk := b, s := p, e := q, ty := ty } :: L) :=
  ⟨h, hq, fun x hx hs => hb x hx hs⟩

/-- how `NW` is read: no newer record is in the block of a record that starts at `t` -/
theorem NW.split : ∀ {L : List SRec}, NW t e L → ∀ {a c : List SRec} {r : SRec}, L = a ++ r :: c → r.s = t → r.e = e ∧ NoRec a r.blk
  | [], _, a, c, r, hL, _ => by cases a <;> cases hL
  | y :: L, h, [], c, r, hL, hs => by
    cases hL
    exact ⟨h.2.1 hs, fun _ hx => by cases hx⟩
  | y :: L, h, z :: a, c, r, hL, hs => by
    simp only [List.cons_append, List.cons.injEq] at hL
    obtain ⟨rfl, hL⟩ := hL
    obtain ⟨h1, h2⟩ := NW.split h.1 hL hs
    refine ⟨h1, ?_⟩
    intro x hx
    rcases List.mem_cons.mp hx with rfl | hx
    · have := h.2.2 r (by rw [hL]; exact List.mem_append.mpr (.inr (List.mem_cons_self ..))) hs
      exact fun hh => this hh.symm
    · exact h2 x hx
end nw

set_option linter.unusedSimpArgs false in
mutual
  def spansL : List Stmt → List (Nat × Nat)
    | [] => []
    | x :: xs => spansS x ++ spansL xs
  termination_by l => 2 * sizeL l
  decreasing_by
    all_goals (try simp_wf)
    all_goals (try simp only [Stmt.size, sizeL])
    all_goals omega
  def spansS : Stmt → List (Nat × Nat)
    | .simple s e _ _ | .ret s e _ _ | .brk s e | .cont s e | .raise s e | .def_ s e _ => [(s, e)]
    | .ite s e a b | .loop s e a b => (s, e) :: spansL a ++ spansL b
    | .elifc _ _ a b => spansL a ++ spansL b
    | .elsec _ _ a => spansL a
    | .handler s e a | .with_ s e a | .match_ s e a | .case_ s e a | .class_ s e a => (s, e) :: spansL a
    | .try_ _ _ a hs c d => spansL a ++ spansL hs ++ spansL c ++ spansL d
  termination_by x => 2 * x.size + 1
  decreasing_by
    all_goals (try simp_wf)
    all_goals (try simp only [Stmt.size, sizeL])
    all_goals omega
end

theorem spansL_nil : spansL [] = [] := spansL.eq_1 ..
theorem spansL_cons (x : Stmt) (xs : List Stmt) : spansL (x :: xs) = spansS x ++ spansL xs := spansL.eq_2 ..
theorem spansS_simple (s e : Nat) (c : List Bool) (h : Bool) : spansS (.simple s e c h) = [(s, e)] := spansS.eq_1 ..
theorem spansS_ret (s e : Nat) (c : List Bool) (h : Bool) : spansS (.ret s e c h) = [(s, e)] := spansS.eq_2 ..
theorem spansS_brk (s e : Nat) : spansS (.brk s e) = [(s, e)] := spansS.eq_3 ..
theorem spansS_cont (s e : Nat) : spansS (.cont s e) = [(s, e)] := spansS.eq_4 ..
theorem spansS_raise (s e : Nat) : spansS (.raise s e) = [(s, e)] := spansS.eq_5 ..
theorem spansS_def (s e : Nat) (b : List Stmt) : spansS (.def_ s e b) = [(s, e)] := spansS.eq_6 ..
theorem spansS_ite (s e : Nat) (a b : List Stmt) : spansS (.ite s e a b) = (s, e) :: spansL a ++ spansL b := spansS.eq_7 ..
theorem spansS_loop (s e : Nat) (a b : List Stmt) : spansS (.loop s e a b) = (s, e) :: spansL a ++ spansL b := spansS.eq_8 ..
theorem spansS_elifc (s e : Nat) (a b : List Stmt) : spansS (.elifc s e a b) = spansL a ++ spansL b := spansS.eq_9 ..
theorem spansS_elsec (s e : Nat) (a : List Stmt) : spansS (.elsec s e a) = spansL a := spansS.eq_10 ..
theorem spansS_handler (s e : Nat) (a : List Stmt) : spansS (.handler s e a) = (s, e) :: spansL a := spansS.eq_11 ..
theorem spansS_with (s e : Nat) (a : List Stmt) : spansS (.with_ s e a) = (s, e) :: spansL a := spansS.eq_12 ..
theorem spansS_match (s e : Nat) (a : List Stmt) : spansS (.match_ s e a) = (s, e) :: spansL a := spansS.eq_13 ..
theorem spansS_case (s e : Nat) (a : List Stmt) : spansS (.case_ s e a) = (s, e) :: spansL a := spansS.eq_14 ..
theorem spansS_class (s e : Nat) (a : List Stmt) : spansS (.class_ s e a) = (s, e) :: spansL a := spansS.eq_15 ..
theorem spansS_try (s e : Nat) (a hs c d : List Stmt) :
    spansS (.try_ s e a hs c d) = spansL a ++ spansL hs ++ spansL c ++ spansL d := spansS.eq_16 ..

theorem spans_single_elifc (s e : Nat) (a b : List Stmt) : spansL [.elifc s e a b] = spansL a ++ spansL b := by
  rw [spansL_cons, spansL_nil, spansS_elifc, List.append_nil]
theorem spans_single_ite (s e : Nat) (a b : List Stmt) : spansL [.ite s e a b] = (s, e) :: spansL a ++ spansL b := by
  rw [spansL_cons, spansL_nil, spansS_ite, List.append_nil]

end PV.CFGSound
