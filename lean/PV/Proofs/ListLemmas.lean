import Mathlib.Data.List.Nodup
/-!
Facts about lists that several of the models need: lookup in an association list, counting with two predicates, a
list that is appended to only when the element is new, insertion sort, `eraseDups`, lists with two members, and lists
determined by their members.
-/
namespace PV.ListLemmas

/-! ## association lists -/

theorem lookup_cons_ite {α β : Type} [BEq α] [LawfulBEq α] [DecidableEq α] (x k : α) (b : β) (l : List (α × β)) :
    List.lookup x ((k, b) :: l) = if x = k then some b else List.lookup x l := by
  rw [List.lookup_cons]
  by_cases h : x = k
  · rw [if_pos h, beq_iff_eq.mpr h]
  · rw [if_neg h, beq_eq_false_iff_ne.mpr h]

/-! ## counting -/

/-- `List.countP_mono_left` for the lengths of two filters -/
theorem length_filter_le_of_imp {α : Type} {p q : α → Bool} {l : List α} (himp : ∀ x ∈ l, q x = true → p x = true) :
    (l.filter q).length ≤ (l.filter p).length := by
  rw [← List.countP_eq_length_filter, ← List.countP_eq_length_filter]
  exact List.countP_mono_left himp

theorem length_filter_le_of_subset {α : Type} {p q : α → Bool} {l l' : List α} (hnd : l.Nodup)
    (h : ∀ x ∈ l, p x = true → x ∈ l' ∧ q x = true) : (l.filter p).length ≤ (l'.filter q).length :=
  (hnd.filter p).length_le_of_subset
    (fun x hx => List.mem_filter.mpr (h x (List.mem_filter.mp hx).1 (List.mem_filter.mp hx).2))

theorem length_filter_lt_of_imp {α : Type} {p q : α → Bool} {l : List α} (himp : ∀ x ∈ l, q x = true → p x = true)
    {x : α} (hx : x ∈ l) (hp : p x = true) (hq : q x = false) : (l.filter q).length < (l.filter p).length := by
  have e : l.filter q = (l.filter p).filter q := by
    rw [List.filter_filter]
    apply List.filter_congr
    intro y hy
    cases hqy : q y with
    | false => rfl
    | true => rw [himp y hy hqy]; rfl
  rw [e, List.length_filter_lt_length_iff_exists]
  exact ⟨x, List.mem_filter.mpr ⟨hx, hp⟩, by rw [hq]; exact Bool.false_ne_true⟩

/-! ## appending an element unless it is already there -/

section appendNew
variable {α : Type} [BEq α] [LawfulBEq α]

theorem mem_appendNew {acc : List α} {a x : α} :
    x ∈ (if acc.contains a then acc else acc ++ [a]) ↔ x ∈ acc ∨ x = a := by
  split
  · next h =>
    have ha : a ∈ acc := List.contains_iff_mem.mp h
    exact ⟨Or.inl, fun hx => hx.elim id (fun e => e ▸ ha)⟩
  · rw [List.mem_append, List.mem_singleton]

theorem nodup_appendNew {acc : List α} {a : α} (h : acc.Nodup) :
    (if acc.contains a then acc else acc ++ [a]).Nodup := by
  split
  · exact h
  · next hc =>
    have ha : a ∉ acc := fun hm => hc (List.contains_iff_mem.mpr hm)
    rw [List.nodup_append]
    refine ⟨h, List.nodup_singleton a, ?_⟩
    intro x hx y hy e
    rw [List.mem_singleton] at hy
    exact ha (hy ▸ e ▸ hx)

/-- a list built by folding a function that appends an element unless it is there (`addNode`, `addFile`, `insertNew`) -/
theorem mem_foldl_appendNew {f : List α → α → List α} (hf : ∀ acc a, f acc a = if acc.contains a then acc else acc ++ [a])
    (l : List α) : ∀ (acc : List α) (x : α), x ∈ l.foldl f acc ↔ x ∈ acc ∨ x ∈ l := by
  induction l with
  | nil => intro acc x; simp
  | cons a l ih => intro acc x; rw [List.foldl_cons, ih, hf, mem_appendNew, List.mem_cons, or_assoc]

theorem nodup_foldl_appendNew {f : List α → α → List α} (hf : ∀ acc a, f acc a = if acc.contains a then acc else acc ++ [a])
    (l : List α) {acc : List α} (h : acc.Nodup) : (l.foldl f acc).Nodup :=
  List.foldlRecOn (motive := List.Nodup) l f h (fun _ hacc _ _ => hf _ _ ▸ nodup_appendNew hacc)

end appendNew

/-! ## insertion sort, for any pair of functions that satisfy its equations -/

section insertionSort
variable {ins : Nat → List Nat → List Nat} {srt : List Nat → List Nat}
  (ins_nil : ∀ a, ins a [] = [a])
  (ins_cons : ∀ a b l, ins a (b :: l) = if a ≤ b then a :: b :: l else b :: ins a l)
  (srt_nil : srt [] = [])
  (srt_cons : ∀ a l, srt (a :: l) = ins a (srt l))
include ins_nil ins_cons

theorem insert_perm (a : Nat) (l : List Nat) : (ins a l).Perm (a :: l) := by
  induction l with
  | nil => rw [ins_nil]
  | cons b l ih =>
    rw [ins_cons]
    split
    · exact List.Perm.refl _
    · exact (List.Perm.cons b ih).trans (List.Perm.swap a b l)

theorem insert_sorted (a : Nat) (l : List Nat) (h : l.Pairwise (· ≤ ·)) : (ins a l).Pairwise (· ≤ ·) := by
  induction l with
  | nil => rw [ins_nil]; exact List.pairwise_singleton _ _
  | cons b l ih =>
    rw [ins_cons]
    split
    · next hab =>
      refine List.Pairwise.cons ?_ h
      intro x hx
      rcases List.mem_cons.mp hx with rfl | hx
      · exact hab
      · exact Nat.le_trans hab (List.rel_of_pairwise_cons h hx)
    · next hab =>
      refine List.Pairwise.cons ?_ (ih (List.Pairwise.of_cons h))
      intro x hx
      rcases List.mem_cons.mp ((insert_perm ins_nil ins_cons a l).mem_iff.mp hx) with rfl | hx
      · exact Nat.le_of_not_le hab
      · exact List.rel_of_pairwise_cons h hx

include srt_nil srt_cons

theorem sort_perm (l : List Nat) : (srt l).Perm l := by
  induction l with
  | nil => rw [srt_nil]
  | cons a l ih => rw [srt_cons]; exact (insert_perm ins_nil ins_cons a _).trans (List.Perm.cons a ih)

theorem sort_sorted (l : List Nat) : (srt l).Pairwise (· ≤ ·) := by
  induction l with
  | nil => rw [srt_nil]; exact List.Pairwise.nil
  | cons a l ih => rw [srt_cons]; exact insert_sorted ins_nil ins_cons a _ ih

end insertionSort

/-! ## `eraseDups` -/

theorem nodup_eraseDups {α : Type} [BEq α] [LawfulBEq α] : (l : List α) → l.eraseDups.Nodup
  | [] => by simp
  | a :: as => by
    rw [List.eraseDups_cons]
    exact List.nodup_cons.mpr ⟨by rw [List.mem_eraseDups]; simp, nodup_eraseDups _⟩
termination_by l => l.length
decreasing_by exact Nat.lt_succ_of_le (List.length_filter_le _ as)

/-! ## lists with two members -/

theorem two_le_length {α : Type} {l : List α} {x y : α} (hx : x ∈ l) (hy : y ∈ l) (hne : x ≠ y) : 2 ≤ l.length := by
  match l, hx, hy with
  | [a], hx, hy => exact absurd ((List.mem_singleton.mp hx).trans (List.mem_singleton.mp hy).symm) hne
  | _ :: _ :: _, _, _ => exact Nat.le_add_left _ _

theorem exists_mem_ne {α : Type} {l : List α} (hl : 2 ≤ l.length) (hnd : l.Nodup) (u : α) : ∃ v ∈ l, v ≠ u := by
  match l, hl, hnd with
  | a :: b :: _, _, hnd =>
    by_cases hau : a = u
    · refine ⟨b, List.mem_cons_of_mem _ List.mem_cons_self, fun hb => ?_⟩
      exact (List.nodup_cons.mp hnd).1 (by rw [hau, ← hb]; exact List.mem_cons_self)
    · exact ⟨a, List.mem_cons_self, hau⟩

/-! ## lists determined by their members -/

/-- two lists ordered by a relation that is asymmetric on their members, with the same members, are equal -/
theorem eq_of_pairwise_of_mem_iff {α : Type} {r : α → α → Prop} {l₁ l₂ : List α}
    (asym : ∀ a ∈ l₁, ∀ b ∈ l₁, r a b → ¬ r b a) (s₁ : l₁.Pairwise r) (s₂ : l₂.Pairwise r)
    (h : ∀ x, x ∈ l₁ ↔ x ∈ l₂) : l₁ = l₂ := by
  have irr : ∀ a ∈ l₁, ¬ r a a := fun a ha haa => asym a ha a ha haa haa
  have d₁ : l₁.Nodup := s₁.imp_of_mem (fun {a b} ha _ hab e => irr a ha (by rw [← e] at hab; exact hab))
  have d₂ : l₂.Nodup := s₂.imp_of_mem (fun {a b} ha _ hab e => irr a ((h a).mpr ha) (by rw [← e] at hab; exact hab))
  refine List.Perm.eq_of_pairwise ?_ s₁ s₂ ((List.perm_ext_iff_of_nodup d₁ d₂).mpr h)
  intro a b ha hb hab hba
  exact absurd hba (asym a ha b ((h b).mpr hb) hab)

theorem sorted_ext {l₁ l₂ : List Nat} (h₁ : l₁.Pairwise (· < ·)) (h₂ : l₂.Pairwise (· < ·))
    (h : ∀ x, x ∈ l₁ ↔ x ∈ l₂) : l₁ = l₂ :=
  eq_of_pairwise_of_mem_iff (fun _ _ _ _ hab => Nat.lt_asymm hab) h₁ h₂ h

end PV.ListLemmas
