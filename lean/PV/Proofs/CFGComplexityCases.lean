import PV.Proofs.CFGComplexityIf
/-!
Property C03 for the CFG mirror — what the walk over the builder's calls says of each kind of call (`Counted`), and its long cases,
as lemmas about the states the nested calls end in: the terminators, `with`, loops, `match`, a `case` / `except` clause, the branches of an
`if` and the chain behind a first branch, the stages of a `try` (body + handlers, `else` part, the two together under a context that
the caller supplies: with or without a `finally` block) and the `try` without `finally`.  The `try` with a non-empty `finally` is the
hypothesis `TrySpec` of the induction, stated right after `Counted`.
-/
namespace PV.CFGSound
open PV.CFG PV.Dec PV.CFGFin

/-- what the theorem says of a statement list processed from `st` to `st'`: whatever the final graph `E ⊇ edges` looks like, as long as no
later edge targets a block allocated in between (`Called`), a list entered in a reachable calm block adds exactly `ldLX fc ss` to the
count -/
abbrev CountedL (S : Sch) (E : List Edge) (st st' : St) (ss : List Stmt) : Prop :=
  Called E st st' (.list ss) → ∀ (fc : FC) (il : Bool), S.Ctx fc il st → S.okL il ss = true → EntryC E st →
    PostG S E st st' (sxL ss).ex (ldLX fc ss)

/-- what the theorem says of each kind of call that is made within the convention, for a final edge list `E` that adds no edge into the
blocks of the call (`Called`).  A clause of an `if` / `elif` chain
joins into the merge block `fm` of the whole chain, which exists already, lies above the context blocks
(`CtxLt st lo`, `lo ≤ fm`) and is calm; the chain behind a first branch is described together with that branch (`HeadG`, from the state
`st0` in which the `if` started).  Which other blocks a call leaves calm is not said here: its frame (`Conv.frame`) tells, where the call is
made.  The subject block `mb` of a `match` is reachable; `fl` says whether it has a `.condT` out-edge already;
`n0` is the `next` of the enclosing `match` on entry.  The `1` that `ldAltsX` counts per handler is the edge `try` block → handler, which
is there before the handlers are processed: hence `+ hs.length` on the left, and an equation where the clauses of `cases`, `tryMid`,
`tryElse` say what was added as a `Grow`.  `bn` says whether the `else` part of a `try` is live (the
body can fall through).  The `finally` stage is treated within the `try` statement: its clause only hands on the call of the `finally`
body and what the theorem says of it. -/
abbrev Counted (S : Sch) (E : List Edge) (st st' : St) : Call → Prop
  | .stmt x => Called E st st' (.stmt x) → ∀ (fc : FC) (il : Bool), S.Ctx fc il st → S.okS il x = true → EntryC E st →
      PostG S E st st' (sxS x).ex (ldSX fc x)
  | .list ss => CountedL S E st st' ss
  | .if_ s e thn orelse => Called E st st' (.if_ s e thn orelse) → ∀ (fc : FC) (il : Bool), S.Ctx fc il st → S.okL il thn = true →
      S.okL il orelse = true → EntryC E st →
      PostG S E st st' ((sxL thn).ex.union (sxL orelse).ex) (1 + ldLX fc thn + ldLX fc orelse)
  | .elif s e thn orelse fm => Called E st st' (.elif s e thn orelse fm) → ∀ (fc : FC) (il : Bool) (lo : Nat), S.Ctx fc il st →
      S.okL il thn = true → S.okL il orelse = true → CtxLt st lo → 2 ≤ lo → lo ≤ fm → fm ≠ st.cur → Calm st fm → EntryC E st →
      JoinG S E st st' fm ((sxL thn).ex.union (sxL orelse).ex).normal ((sxL thn).ex.union (sxL orelse).ex)
        (1 + ldLX fc thn + ldLX fc orelse)
  | .elifTail cond te merge s' e' a b => Called E st st' (.elifTail cond te merge s' e' a b) →
      ∀ (fc : FC) (il : Bool) (st0 : St) (k lo : Nat) (exT : Ex) (nT : Nat),
      HeadG S E st0 st k merge lo exT nT → cond = st0.cur → te = st.cur → S.Ctx fc il st0 → S.okL il a = true → S.okL il b = true →
      JoinG S E st0 st' merge (exT.normal || ((sxL a).ex.union (sxL b).ex).normal) (exT.union ((sxL a).ex.union (sxL b).ex))
        (1 + nT + (1 + ldLX fc a + ldLX fc b))
  | .cases cs mb merge => Called E st st' (.cases cs mb merge) → ∀ (fc : FC) (il : Bool) (n0 : Nat) (fl : Bool), R E mb → n0 ≤ merge →
      S.Ctx fc il st → S.okCases il cs = true → (fl = true → ∃ b', (mb, b', ETy.condT) ∈ st.edges) →
      (fl = false → ∀ e ∈ st.edges, e.1 ≠ mb) →
      Grow E (TgG S n0 st.loops st.excs (sxAlts cs).ex.brk) st st' ((if fl || cs.isEmpty then 0 else 1) + ldAltsX fc cs) ∧
      S.J E st.loops st.excs (sxAlts cs).ex ∧
      ((fl = true ∨ cs ≠ []) → ∃ b', (mb, b', ETy.condT) ∈ st'.edges)
  | .handlers hs hbs after => Called E st st' (.handlers hs hbs after) → ∀ (fc : FC) (il : Bool), S.Ctx fc il st → S.okHs il hs = true →
      hbs.Nodup → (∀ hb ∈ hbs, Calm st hb ∧ R E hb) →
      cnt (rE E) st'.edges + hs.length = cnt (rE E) st.edges + ldAltsX fc hs ∧ ((sxAlts hs).ex.normal = true → R E after) ∧
      S.J E st.loops st.excs (sxAlts hs).ex ∧
      LTI E (fun t => TgG S st.next st.loops st.excs (sxAlts hs).ex.brk t ∨ (t = after ∧ (sxAlts hs).ex.normal = true)) st st'
  | .tryMid tryB cfin X0 nat ah body handlers => Called E st st' (.tryMid tryB cfin X0 nat ah body handlers) → ∀ (fc' : FC) (il : Bool),
      (∀ s' : St, s'.loops = st.loops → s'.excs = ctxOf st cfin handlers :: X0 → S.Ctx fc' il s') →
      S.okL il body = true → S.okHs il handlers = true → Calm st tryB → R E tryB →
      Grow E (fun t => TgG S st.next st.loops X0 ((sxL body).ex.brk || (sxAlts handlers).ex.brk) t ∨ (t = nat ∧ (sxL body).ex.normal = true) ∨
        (t = ah ∧ (sxAlts handlers).ex.normal = true) ∨ cfin = some t) st st' (ldLX fc' body + ldAltsX fc' handlers) ∧
      ((sxL body).ex.normal = true → R E nat) ∧ ((sxAlts handlers).ex.normal = true → R E ah) ∧
      S.J E st.loops (ctxOf st cfin handlers :: X0) ((sxL body).ex.union (sxAlts handlers).ex)
  | .tryElse hasElse elseB ah orelse => Called E st st' (.tryElse hasElse elseB ah orelse) → ∀ (fc' : FC) (il : Bool) (bn : Bool),
      hasElse = !orelse.isEmpty → S.Ctx fc' il st → S.okL il orelse = true →
      (bn = true → R E (if hasElse = true then elseB else ah) ∧ (hasElse = true → Calm st elseB)) →
      (hasElse = true → bn = false → ¬ R E elseB) →
      Grow E (fun t => TgG S st.next st.loops st.excs (if bn = true then sxL orelse else ({} : SX)).ex.brk t ∨
        (t = ah ∧ (if bn = true then sxL orelse else ({} : SX)).ex.normal = true)) st st' (if bn = true then ldLX fc' orelse else 0) ∧
      ((if orelse.isEmpty = true then bn else (if bn = true then sxL orelse else ({} : SX)).ex.normal) = true → R E ah) ∧
      S.J E st.loops st.excs (if bn = true then sxL orelse else ({} : SX)).ex ∧
      ((if bn = true then sxL orelse else ({} : SX)).ex.normal = true →
        (if orelse.isEmpty = true then bn else (if bn = true then sxL orelse else ({} : SX)).ex.normal) = true)
  | .tryFin hasFin finB exitBk ctx excs0 fin => (hasFin = false → st' = st) ∧ (hasFin = true → ∃ sB,
      Run (finPre st finB ctx excs0) (.list fin) sB ∧ CountedL S E (finPre st finB ctx excs0) sB fin ∧
      st' = finallyPropagation ((setExcs sB (ctx :: excs0)).edgeUnlessExit (setExcs sB (ctx :: excs0)).cur exitBk .normal) finB)

/-- the case of a `try` with a non-empty `finally` part, given what the theorem says of its three stages: `schF` proves it, and `schC` has
no such `try` in its fragment -/
def TrySpec (S : Sch) (E : List Edge) : Prop :=
  ∀ {st s3 s7 s8 s9 : St} {s e : Nat} {body handlers orelse fin : List Stmt} {finB elseB : Nat} {cfin : Option Nat} {nat ah : Nat},
    fin.isEmpty = false → TryAlloc st (!fin.isEmpty) (!orelse.isEmpty) s3 finB elseB cfin nat ah →
    Run s3 (.tryMid st.next cfin st.excs nat ah body handlers) s7 → Run s7 (.tryElse (!orelse.isEmpty) elseB ah orelse) s8 →
    Run s8 (.tryFin (!fin.isEmpty) finB (st.next + 1) (ctxOf s3 cfin handlers) st.excs fin) s9 →
    Counted S E s3 s7 (.tryMid st.next cfin st.excs nat ah body handlers) →
    Counted S E s7 s8 (.tryElse (!orelse.isEmpty) elseB ah orelse) →
    Counted S E s8 s9 (.tryFin (!fin.isEmpty) finB (st.next + 1) (ctxOf s3 cfin handlers) st.excs fin) →
    Counted S E st (setExcs (setCur s9 (st.next + 1)) st.excs) (.stmt (.try_ s e body handlers orelse fin))

section leaves
variable {S : Sch} {E : List Edge}

theorem ret_cnt (st : St) (s e : Nat) (c : List Bool) (h : Bool) : Counted S E st (procRet st s e c h) (.stmt (.ret s e c h)) := by
  intro ⟨w, hf⟩ fc il hc hok he
  rw [procRet_eq] at hf ⊢
  rw [sxS_ret, ldSX_ret]
  have hst0 : Inv st.cur st.next st (if h then procComp st s e c else st) ∧ Same st (if h then procComp st s e c else st) ∧
      ((∀ x ∈ (if h then procComp st s e c else st).edges, x ∈ E) →
        Grow E (fun t => st.next ≤ t) st (if h then procComp st s e c else st) (if h then compClauses c else 0) ∧
        R E (if h then procComp st s e c else st).cur) := by
    cases h
    · exact ⟨Inv.refl w (.inl rfl), ⟨rfl, rfl⟩, fun _ => ⟨Grow.refl _ _ _, he.reach⟩⟩
    · obtain ⟨i, sm⟩ := comp_frame (c := st.cur) (n := st.next) st s e c w (.inl rfl) (Nat.le_refl _)
      exact ⟨i, sm, fun hm => ⟨⟨(comp_cnt' st s e c w hm he).1, (comp_cnt' st s e c w hm he).2.2⟩, (comp_cnt' st s e c w hm he).2.1.reach⟩⟩
  generalize (if h then procComp st s e c else st) = st0 at hst0 hf ⊢
  generalize (if h then compClauses c else 0) = n at hst0 ⊢
  obtain ⟨i0, sm, hk⟩ := hst0
  simp only at hf ⊢
  have hn := i0.next_le
  have hx0 : (st0.add st0.cur s e .ret).excs = st.excs := sm.excs
  -- `g`: the target of the edge, EXIT or the pending `finally` block
  have key : ∀ g : Nat, (g = exitB ∨ ∃ cx ∈ st.excs, cx.fin = some g) →
      (∀ o, targetFinallyRet (st0.add st0.cur s e .ret) = o → o.getD exitB = g) →
      Fut E st.next (((st0.add st0.cur s e .ret).edge st0.cur g .ret).next + 1)
        (setCur (bumpU ((st0.add st0.cur s e .ret).edge st0.cur g .ret)) ((st0.add st0.cur s e .ret).edge st0.cur g .ret).next) →
      PostG S E st (setCur (bumpU ((st0.add st0.cur s e .ret).edge st0.cur g .ret)) ((st0.add st0.cur s e .ret).edge st0.cur g .ret).next)
        { ret := true } n := by
    intro g htg hgo hf
    have hgl : g < st0.next := by
      rcases htg with rfl | ⟨cx, hcx, hfx⟩
      · exact i0.wf.two
      · exact Nat.lt_of_lt_of_le ((w.excs cx hcx).1 g hfx) hn
    obtain ⟨k1, k3⟩ := hk (fun x hx => hf.mem (List.mem_cons_of_mem _ hx))
    refine jump_post i0 rfl rfl (by intro h; cases h) hgl hf k1 (fun hmemE => S.J_of_jmp hc
      ⟨(fun h => by cases h), (fun h => by cases h), fun _ o ho => ?_, (fun h => by cases h)⟩) ?_
    · rcases pendO_ret st0.cur ho with hh | hh
      · have : targetFinallyRet (st0.add st0.cur s e .ret) = o := by
          unfold targetFinallyRet; rw [hx0]; exact hh
        rw [hgo o this]
        exact R.step k3 hmemE
      · rw [hh]; exact k3
    · rcases htg with rfl | ⟨cx, hcx, hfx⟩
      · exact .inr (.inl rfl)
      · exact .inr (.inr (.inr (S.TX_fin hc hcx hfx)))
  cases htf : targetFinallyRet (st0.add st0.cur s e .ret) with
  | none =>
    rw [htf] at hf key
    simp only [add_cur] at hf ⊢
    exact key exitB (.inl rfl) (fun o ho => by rw [← ho]; rfl) hf
  | some f =>
    obtain ⟨cx, hcx, hfin⟩ := tfRet_mem htf
    rw [htf] at hf key
    simp only [add_cur] at hf ⊢
    exact key f (.inr ⟨cx, hx0 ▸ hcx, hfin⟩) (fun o ho => by rw [← ho]; rfl) hf

theorem brk_cnt (st : St) (s e : Nat) : Counted S E st (procBrk st s e) (.stmt (.brk s e)) := by
  intro ⟨w, hf⟩ fc il hc hok he
  rw [S.okS_brk] at hok
  rw [procBrk_eq] at hf ⊢
  rw [sxS_brk, ldSX_brk]
  obtain ⟨⟨h, x, d⟩, rest, hll⟩ := List.exists_cons_of_ne_nil (S.ctx_loops hc hok)
  simp only [add_loops] at hf ⊢
  rw [hll] at hf ⊢
  simp only at hf ⊢
  have key := fun g hg hf => loop_jump (g := g) w hc he s e hll .brk (t := .brk) (ex := { brk := true }) rfl (by intro h; cases h) rfl rfl rfl
    (.inr ⟨rfl, rfl⟩) (fun _ => rfl) (fun h => by cases h) hg hf
  cases htf : targetFinallyLoop (st.add st.cur s e .brk) d with
  | none =>
    rw [htf] at hf key
    simp only [add_cur] at hf ⊢
    exact key x rfl hf
  | some f =>
    rw [htf] at hf key
    simp only [add_cur] at hf ⊢
    exact key f rfl hf

theorem cont_cnt (st : St) (s e : Nat) : Counted S E st (procCont st s e) (.stmt (.cont s e)) := by
  intro ⟨w, hf⟩ fc il hc hok he
  rw [S.okS_cont] at hok
  rw [procCont_eq] at hf ⊢
  rw [sxS_cont, ldSX_cont]
  obtain ⟨⟨h, x, d⟩, rest, hll⟩ := List.exists_cons_of_ne_nil (S.ctx_loops hc hok)
  simp only [add_loops] at hf ⊢
  rw [hll] at hf ⊢
  simp only at hf ⊢
  have key := fun g hg hf => loop_jump (g := g) w hc he s e hll .cont (t := .cont) (ex := { cont := true }) rfl (by intro h; cases h) rfl rfl rfl
    (.inl rfl) (fun h => by cases h) (fun _ => rfl) hg hf
  cases htf : targetFinallyLoop (st.add st.cur s e .cont) d with
  | none =>
    rw [htf] at hf key
    simp only [add_cur] at hf ⊢
    exact key h rfl hf
  | some f =>
    rw [htf] at hf key
    simp only [add_cur] at hf ⊢
    exact key f rfl hf

theorem raise_cnt (st : St) (s e : Nat) : Counted S E st (procRaise st s e) (.stmt (.raise s e)) := by
  intro ⟨w, hf⟩ fc il hc hok he
  rw [procRaise_eq] at hf ⊢
  rw [sxS_raise, ldSX_raise]
  simp only at hf ⊢
  rw [CFGFin.targetFinally_eq, fallbackExc_eq] at hf ⊢
  simp only [add_excs, add_cur] at hf ⊢
  have hcur := w.cur
  have h2 := w.two
  have i0 : Inv st.cur st.next st st := Inv.refl w (.inl rfl)
  have i1 := i0.add (b := st.cur) (p := s) (q := e) (ty := .raise) (.inl rfl) w.cur
  have hrn := S.ctx_rn hc
  unfold raiseNX at hrn
  -- `tf`: the `finally` block that the `raise` goes to, if one is pending
  have hj : ∀ tf, CFGFin.tfX st.excs = tf → (∀ f, tf = some f → R E f) → S.J E st.loops st.excs { raise := true } := fun tf htf hr =>
    S.J_of_jmp hc ⟨(fun h => by cases h), (fun h => by cases h), (fun h => by cases h),
      fun _ f ho => hr f ((pendO_tf ho).symm.trans htf).symm⟩
  have hexit : fc.nh = 1 → CFGFin.tfX st.excs = none →
      Fut E st.next (((st.add st.cur s e .raise).edge st.cur exitB .exc).next + 1)
        (setCur (bumpU ((st.add st.cur s e .raise).edge st.cur exitB .exc)) ((st.add st.cur s e .raise).edge st.cur exitB .exc).next) →
      PostG S E st (setCur (bumpU ((st.add st.cur s e .raise).edge st.cur exitB .exc)) ((st.add st.cur s e .raise).edge st.cur exitB .exc).next)
        { raise := true } fc.nh := by
    intro hnh htn hf
    have i2 := i1.edge (a := st.cur) (b := exitB) (t := .exc) (.inl rfl) hcur h2
    exact term_post rfl i2.wf (Nat.le_refl _) hf ((((Grow.refl E _ st).eq (s' := st.add st.cur s e .raise) rfl).exc he.reach
      (.inr (.inl rfl))).cast (by rw [hnh])) (hj none htn (fun f h => by cases h))
  -- the cases of `procRaise`: a pending `finally` block; else the handlers of the fallback context; else (none, or no handler) EXIT: `hexit`
  generalize htf : CFGFin.tfX st.excs = tf at hf hrn hexit hj ⊢
  cases tf with
  | some f =>
    simp only at hf ⊢ hrn
    obtain ⟨cx, hcx, hfx⟩ := List.exists_of_findSome?_eq_some (show st.excs.findSome? _ = some f from htf)
    have hfx' : cx.fin = some f := by
      split at hfx
      · cases hfx
      · exact hfx
    have hfl := (w.excs cx hcx).1 f hfx'
    have i2 := i1.edge (a := st.cur) (b := f) (t := .exc) (.inl rfl) hcur hfl
    have hmemE : (st.cur, f, ETy.exc) ∈ E := hf.mem (List.mem_cons_self ..)
    exact term_post rfl i2.wf (Nat.le_refl _) hf ((((Grow.refl E _ st).eq (s' := st.add st.cur s e .raise) rfl).exc he.reach
      (.inr (.inr (.inr (S.TX_fin hc hcx hfx'))))).cast (by rw [← hrn])) (hj _ rfl (fun f' h => by cases h; exact R.step he.reach hmemE))
  | none =>
    simp only at hf ⊢ hrn
    generalize hfb : fbX st.excs = fb at hf hrn ⊢
    cases fb with
    | none =>
      simp only at hf ⊢ hrn
      exact hexit hrn.symm rfl hf
    | some c =>
      simp only at hf ⊢ hrn
      have hmem : c ∈ st.excs := List.mem_of_find?_eq_some hfb
      by_cases hpos : c.handlers.length > 0
      · rw [if_pos hpos] at hf ⊢ hrn
        rw [foldl_cur_edges_eq] at hf ⊢
        simp only [add_cur] at hf ⊢
        obtain ⟨j, sm, hnx, hcu⟩ := foldl_edges_frame (c := st.cur) (n := st.next) st.cur .exc c.handlers _ i1 (.inl rfl) hcur
          (fun h hh => (i1.wf.excs c hmem).2 h hh)
        exact term_post rfl j.wf (Nat.le_of_eq hnx.symm) hf ((((Grow.refl E _ st).eq (s' := st.add st.cur s e .raise) rfl).excs he.reach
          c.handlers (fun h hh => .inr (.inr (.inr (S.TX_fb hc hfb hh))))).cast (by rw [← hrn, Nat.zero_add])) (hj _ rfl (fun f h => by cases h))
      · rw [if_neg hpos] at hf ⊢ hrn
        exact hexit hrn.symm rfl hf


end leaves

section main
variable {S : Sch} {E : List Edge}

theorem with_cnt {st s2 : St} {s e : Nat} {body : List Stmt} (hrun : Run (withPre st s e) (.list body) s2)
    (ih : CountedL S E (withPre st s e) s2 body) :
    Counted S E st (setCur (((s2.edgeUnlessExit s2.cur (st.next + 2) .normal).edge st.next (st.next + 2) .exc).edge (st.next + 2) (st.next + 3)
      .normal) (st.next + 3)) (.stmt (.with_ s e body)) := by
  intro hcl fc il hc hok he
  have c1 := hcl.with_
  obtain ⟨w, hf⟩ := hcl
  rw [S.okS_with] at hok
  rw [sxS_with, ldSX_with]
  have hcur := w.cur
  have hpe : (withPre st s e).edges = (st.next, st.next + 1, ETy.normal) :: (st.cur, st.next, ETy.normal) :: st.edges := rfl
  have j : Inv (st.next + 1) (st.next + 4) _ s2 := c1.conv.own hrun
  have hjo := j.own
  have ea : (st.next + 2, st.next + 3, ETy.normal) ∈ E := hf.mem (by simp)
  have eb : (st.next, st.next + 2, ETy.exc) ∈ E := hf.mem (by simp)
  have e3 : (st.next, st.next + 1, ETy.normal) ∈ E := c1.mem_start hrun (by rw [hpe]; simp)
  have e5 : (st.cur, st.next, ETy.normal) ∈ E := c1.mem_start hrun (by rw [hpe]; simp)
  have hr : R E st.next := R.step he.reach e5
  have hf1 := w.untouched (m := st.next + 1) (Nat.le_add_right _ 1)
  have hf3 := w.untouched (m := st.next + 3) (Nat.le_add_right _ 3)
  have hp := ih c1 fc il (S.ctx_of_eq hc rfl rfl) hok ⟨R.step hr e3, Untouched.calm (by unfold withPre; untt [hf1])⟩
  have hu3 := j.untouched (m := st.next + 3) (Nat.ne_of_gt (Nat.lt_add_right 1 (Nat.lt_succ_self _))) (Nat.lt_succ_self _) (by unfold withPre; untt [hf3])
  have g := ((((((Grow.refl E (TgG S st.next st.loops st.excs (sxL body).ex.brk) st).normal (a := st.cur) (.inl (Nat.le_refl _))).eq
      (s' := bump (bump (bump (((bump st).edge st.cur st.next .normal).add st.next s e .other)))) rfl).normal (a := st.next)
      (.inl (Nat.le_add_right _ 1))).eq (s' := withPre st s e) rfl).call hp (fun t h => h.mono (Nat.le_add_right _ 4) id)).exit hp.end_
      isCond_normal normal_ne_exc (fun _ => .inl (Nat.le_add_right _ 2))
  refine Grow.post (((g.exc hr (.inl (Nat.le_add_right _ 2))).normal (.inl (Nat.le_add_right _ 3))).eq rfl) (by omega)
    ⟨fun _ => ⟨R.step (R.step hr eb) ea, Untouched.calm ?_⟩, (fun h => by cases h)⟩ (S.J_mono hp.jmp id id id id)
  simp only [setCur_cur, unt_setCur, unt_edge]
  exact ⟨Nat.ne_of_lt (Nat.lt_succ_self _), Nat.ne_of_lt (Nat.lt_add_of_pos_right (Nat.succ_pos 2)),
    Untouched.eue (hjo.elim (fun h => h ▸ Nat.ne_of_lt (Nat.lt_add_right 1 (Nat.lt_succ_self _))) (fun h => Nat.ne_of_gt h)) hu3⟩

/-- the header and the body of a loop (`b`: the loop has an `else` clause, `x`: the target of the header's second edge), in
terms of the state `p = loopPre st s e b` in which the body is entered and the state `s5` after the body -/
theorem loop_body {fc : FC} {il : Bool} {st p s5 : St} {body : List Stmt} (hrun : Run p (.list body) s5) (ih : CountedL S E p s5 body)
    (s e : Nat) (w : WF st) (hc : S.Ctx fc il st) (hokb : S.okL true body = true) (he : EntryC E st) (b : Bool) {x : Nat}
    (hp : p = loopPre st s e b) (hx : x = if b then st.next + 3 else st.next + 2) (c1 : Called E p s5 (.list body)) :
    (R E st.next ∧ (st.next, x, ETy.condF) ∈ E) ∧ PostG S E p s5 (sxL body).ex (ldLX fc body) ∧
    (∀ G : Nat → Prop, G st.next → G (st.next + 1) → G x → Grow E G st p 1) ∧
    (Inv st.cur st.next st s5 ∧ s5.loops = p.loops ∧ s5.excs = st.excs ∧ st.next + 3 ≤ s5.next ∧ (b = true → st.next + 4 ≤ s5.next) ∧
      (s5.cur = st.next + 1 ∨ x < s5.cur)) ∧
    (∀ m, st.next + 2 ≤ m → m ≤ x → Untouched s5 m) := by
  have hcur := w.cur
  have hpn : p.next = if b then st.next + 4 else st.next + 3 := by subst hp; cases b <;> rfl
  have hpc : p.cur = st.next + 1 := by subst hp; cases b <;> rfl
  have hpe : p.edges = (st.next, x, ETy.condF) :: (st.next, st.next + 1, ETy.condT) :: (st.cur, st.next, ETy.normal) :: st.edges := by
    subst hp; subst hx; cases b <;> rfl
  have hpx : p.excs = st.excs := by subst hp; cases b <;> rfl
  have hpl : p.loops = (st.next, st.next + 2, st.excs.length) :: st.loops := by subst hp; cases b <;> rfl
  have hpu : ∀ m, st.next + 1 ≤ m → Untouched p m := by
    intro m hm
    refine ⟨fun y hy => ?_, fun r hr => ?_⟩
    · rw [hpe] at hy
      simp only [List.mem_cons] at hy
      rcases hy with rfl | rfl | rfl | hy
      · exact Nat.ne_of_lt hm
      · exact Nat.ne_of_lt hm
      · exact Nat.ne_of_lt (Nat.lt_trans hcur hm)
      · exact Nat.ne_of_lt (Nat.lt_trans (w.edges y hy).1 hm)
    · rw [hp, loopPre_stmts] at hr
      rcases List.mem_cons.mp hr with rfl | hr
      · exact Nat.ne_of_lt hm
      · exact Nat.ne_of_lt (Nat.lt_trans (w.stmts r hr) hm)
  have i2 : Inv st.cur st.next st p := hp ▸ loopPre_inv w (.inl rfl) (Nat.le_refl _) s e b
  have hpo : Own (st.next + 1) p.next p.cur := .inl hpc
  have j := hrun.frame st.cur st.next i2.wf i2.next_le i2.own
  have sm : Same p _ := hrun.stacks
  have jf := hrun.frame (st.next + 1) p.next i2.wf (Nat.le_refl _) hpo
  have hjn := j.next_le
  have hjo := jf.own
  have hxl : x < p.next := by subst hx hp; cases b <;> exact Nat.lt_succ_self _
  have hp3 : st.next + 3 ≤ p.next := by
    subst hp; cases b
    · exact Nat.le_refl _
    · exact Nat.le_succ _
  have hmem : ∀ y ∈ p.edges, y ∈ E := fun y hy => c1.mem_start hrun hy
  have hr : R E st.next := R.step he.reach (hmem (st.cur, st.next, ETy.normal) (by rw [hpe]; simp))
  -- `il = true`: the body of a loop (`okS_loop`)
  have post := ih c1 fc true (S.ctx_pushLoop hc w hpx hpl (Nat.le_refl _) (by omega)) hokb
    ⟨hpc ▸ R.step hr (hmem (st.next, st.next + 1, ETy.condT) (by rw [hpe]; simp)), hpc ▸ (hpu _ (Nat.le_refl _)).calm⟩
  -- the three edges of the header: `cur → hdr`, `hdr → body` (the decision), `hdr → x` (its second edge)
  have hnew : ∀ y ∈ (st.edge st.cur st.next .normal).edges, y.1 ≠ st.next := by
    intro y hy
    rcases List.mem_cons.mp hy with rfl | hy
    · exact Nat.ne_of_lt hcur
    · exact Nat.ne_of_lt (w.edges y hy).1
  refine ⟨⟨hr, hmem (st.next, x, ETy.condF) (by rw [hpe]; simp)⟩, post, fun G g1 g2 g3 =>
    ((((Grow.refl E G st).normal (a := st.cur) g1).condNew hr (t := .condT) rfl hnew g2).condOld (t := .condF) rfl (List.mem_cons_self ..) rfl g3).eq hpe,
    ⟨i2.trans j, sm.loops, sm.excs.trans hpx, Nat.le_trans hp3 hjn,
      fun hb => by rw [hpn, hb] at hjn; exact hjn, hjo.imp id (fun h => Nat.lt_of_lt_of_le hxl h)⟩, fun m hm1 hm2 => ?_⟩
  exact jf.untouched (Nat.ne_of_gt hm1) (Nat.lt_of_le_of_lt hm2 hxl) (hpu m (Nat.le_of_lt hm1))

theorem loop_nil_cnt {st s5 : St} {s e : Nat} {body : List Stmt} (hrun : Run (loopPre st s e false) (.list body) s5)
    (ih : CountedL S E (loopPre st s e false) s5 body) :
    Counted S E st (setLoops (setCur (setLoops (s5.edgeUnlessExit s5.cur st.next .loop) st.loops) (st.next + 2)) st.loops)
      (.stmt (.loop s e body [])) := by
  intro hcl fc il hc hok he
  rw [S.okS_loop, Bool.and_eq_true] at hok
  rw [sxS_loop, ldSX_loop, sxL_nil, ldLX_nil]
  obtain ⟨⟨hr, e1⟩, post, g1, ⟨k, hl5, hx5, hn5, _, hc5⟩, hu⟩ :=
    loop_body hrun ih s e hcl.wf hc hok.1 he false (x := st.next + 2) rfl rfl hcl.loop_nil
  have hu2 : Untouched (setLoops (setCur (setLoops (s5.edgeUnlessExit s5.cur st.next .loop) st.loops) (st.next + 2)) st.loops) (st.next + 2) := by
    simp only [unt_setLoops, unt_setCur]
    exact Untouched.eue (cur_ne hc5 (Nat.le_refl _) (Nat.le_refl _)) (hu _ (Nat.le_refl _) (Nat.le_refl _))
  refine Grow.post ((((g1 _ (.inl (Nat.le_refl _)) (.inl (Nat.le_add_right _ 1)) (.inl (Nat.le_add_right _ 2))).trans
      ⟨post.cnt, loop_body_tgt post (Nat.le_refl _) rfl rfl false⟩).exit post.end_ isCond_loop loop_ne_exc (fun _ => .inl (Nat.le_refl _))).eq rfl)
    (by omega) ⟨fun _ => ⟨R.step hr e1, hu2.calm⟩, fun hn => by simp at hn⟩
    (S.J_dropLoop post.jmp rfl rfl (fun h => by simpa using h) (fun h => by simpa using h))

/-- `s8`: the state after the `else` clause, which is processed from `loopElsePre st s5` -/
theorem loop_cons_cnt {st s5 s8 : St} {s e : Nat} {body : List Stmt} {o : Stmt} {os : List Stmt}
    (hrun1 : Run (loopPre st s e true) (.list body) s5) (hrun2 : Run (loopElsePre st s5) (.list (o :: os)) s8)
    (ih1 : CountedL S E (loopPre st s e true) s5 body) (ih2 : CountedL S E (loopElsePre st s5) s8 (o :: os)) :
    Counted S E st (setLoops (setCur (s8.edgeUnlessExit s8.cur (st.next + 2) .normal) (st.next + 2)) st.loops)
      (.stmt (.loop s e body (o :: os))) := by
  intro hcl fc il hc hok he
  obtain ⟨c1, c2⟩ := hcl.loop_cons hrun1 hrun2
  obtain ⟨w, hf⟩ := hcl
  rw [S.okS_loop, Bool.and_eq_true] at hok
  rw [sxS_loop, ldSX_loop]
  have hw2 := w.two
  have hxE : (loopElsePre st s5).excs = st.excs := (loopElsePre_excs st s5).trans (hrun1.stacks).excs
  have hctx : CtxLt (loopElsePre st s5) st.next := (w.ctxLt (Nat.le_refl _)).of_eq rfl hxE
  have h4E : st.next + 4 ≤ (loopElsePre st s5).next := loopElsePre_next st s5 ▸ c1.next_le hrun1
  have h2E : st.next + 2 < (loopElsePre st s5).next := Nat.lt_of_succ_lt h4E
  have h0E : st.next ≤ (loopElsePre st s5).next := Nat.le_trans (Nat.le_add_right _ 4) h4E
  have h02 : st.next < st.next + 2 := Nat.lt_add_of_pos_right (Nat.succ_pos 1)
  -- the `else` clause owns its block and what comes after `s5`: the blocks allocated before get no record and no out-edge
  have j2f : Inv (st.next + 3) _ _ s8 := c2.conv.own hrun2
  have hj2n := c2.next_le hrun2
  have hj2o := j2f.own
  obtain ⟨⟨hr, e1⟩, post, g1, ⟨k, hl5, hx5, hn5, _, hc5⟩, hu⟩ :=
    loop_body hrun1 ih1 s e w hc hok.1 he true (x := st.next + 3) rfl rfl c1
  have hu3 : Untouched (loopElsePre st s5) (st.next + 3) := by
    simp only [loopElsePre, unt_setLoops, unt_setCur]
    exact Untouched.eue (cur_ne hc5 (Nat.le_succ _) (Nat.le_refl _)) (hu _ (Nat.le_succ _) (Nat.le_refl _))
  have post2 := ih2 c2 fc il (S.ctx_of_eq hc rfl hxE) hok.2 ⟨R.step hr e1, hu3.calm⟩
  have hu2 : Untouched (setLoops (setCur (s8.edgeUnlessExit s8.cur (st.next + 2) .normal) (st.next + 2)) st.loops) (st.next + 2) := by
    simp only [unt_setLoops, unt_setCur]
    refine Untouched.eue (hj2o.elim (fun h => h ▸ Nat.ne_of_gt (Nat.lt_succ_self _)) (fun h => Nat.ne_of_gt (Nat.lt_of_lt_of_le h2E h)))
      (j2f.untouched (Nat.ne_of_lt (Nat.lt_succ_self _)) h2E ?_)
    simp only [loopElsePre, unt_setLoops, unt_setCur]
    exact Untouched.eue (cur_ne hc5 (Nat.le_refl _) (Nat.le_succ _)) (hu _ (Nat.le_refl _) (Nat.le_succ _))
  -- header, body and the back edge, whatever the targets are to satisfy
  have g3 : ∀ G : Nat → Prop, G st.next → Grow E G st (loopPre st s e true) 1 → LTI E G (loopPre st s e true) s5 →
      Grow E G st (loopElsePre st s5) (1 + ldLX fc body) :=
    fun G g a b => ((a.trans ⟨post.cnt, b⟩).exit post.end_ isCond_loop loop_ne_exc (fun _ => g)).eq rfl
  refine Grow.post ((((g3 _ (.inl (Nat.le_refl _)) (g1 _ (.inl (Nat.le_refl _)) (.inl (Nat.le_add_right _ 1)) (.inl (Nat.le_add_right _ 3)))
      (loop_body_tgt post (Nat.le_succ _) rfl rfl _)).call post2 (fun t h => by rw [hxE] at h; exact h.mono h0E id)).exit post2.end_
      isCond_normal normal_ne_exc (fun _ => .inl (Nat.le_of_lt h02))).eq rfl) rfl ⟨fun hn => ⟨?_, hu2.calm⟩, fun hn => ?_⟩
    (S.J_or (S.J_dropLoop (L := st.loops) (b := { ret := (sxL body).ex.ret, raise := (sxL body).ex.raise }) post.jmp rfl rfl id id)
      (S.J_cast post2.jmp rfl hxE.symm) id id id id)
  · show R E (st.next + 2)
    rcases Bool.or_eq_true_iff.mp hn with hb | hb
    · exact S.J_brk (X := st.excs) (rest := st.loops) post.jmp hb
    · have he8 := post2.normal hb
      have hm : (s8.cur, st.next + 2, ETy.normal) ∈ (s8.edgeUnlessExit s8.cur (st.next + 2) .normal).edges := by
        rw [he8.calm.eue_eq]; simp
      exact R.step he8.reach (hf.mem hm)
  · show ¬ R E (st.next + 2)
    have hn' := Bool.or_eq_false_iff.mp hn
    refine dead_of_LTI hf (m := st.next + 2) (Nat.le_of_lt h02)
      (by simp only [setLoops_next, setCur_next, edgeUnlessExit_next]; exact Nat.lt_of_lt_of_le h2E hj2n) w (Nat.le_of_lt h02) ?_
    have l2 := post.tgt.mono (G' := fun x => x ≠ st.next + 2) (fun t h => h.ne (m := st.next + 2) (Nat.lt_add_right 1 (Nat.lt_succ_self _))
      (Nat.ne_of_gt (Nat.lt_of_lt_of_le hw2 (Nat.le_add_right _ 2)))
      (fun hd x d rest hl => by
        simp only [loopPre, setCur_loops, edge_loops, setLoops_loops, ↓reduceIte, List.cons.injEq, Prod.mk.injEq] at hl
        obtain ⟨⟨rfl, rfl, rfl⟩, rfl⟩ := hl
        exact ⟨Nat.ne_of_lt h02, fun hb => by rw [hn'.1] at hb; cases hb⟩)
      (S.not_TX w (Nat.le_of_lt h02)))
    have l5 := post2.tgt.mono (G' := fun x => x ≠ st.next + 2) (fun t h => h.ne_ctx hctx (m := st.next + 2) h2E (Nat.le_of_lt h02) hw2)
    exact (((g3 (fun x => x ≠ st.next + 2) (Nat.ne_of_lt h02) (g1 _ (Nat.ne_of_lt h02) (Nat.ne_of_lt (Nat.lt_succ_self _))
      (Nat.ne_of_gt (Nat.lt_succ_self _))) l2).tgt.trans l5).eue (a := s8.cur) (b := st.next + 2) (t := .normal)
      (fun hr8 => absurd hr8 (post2.dead hn'.2))).of_edges_eq rfl

/-- the subject block of a `match`: its one edge is plain, and the merge block `st.next + 1` is untouched -/
theorem matchPre_cnt {st : St} (w : WF st) (s e : Nat) :
    Untouched (matchPre st s e) (st.next + 1) ∧ ∀ bf : Bool, Grow E (TgG S st.next st.loops st.excs bf) st (matchPre st s e) 0 := by
  exact ⟨matchPre_unt w s e, fun bf => (((Grow.refl E _ st).eq (s' := bump st) rfl).normal (a := st.cur) (.inl (Nat.le_refl _))).eq rfl⟩

theorem match_cons_cnt {st s2 : St} {s e : Nat} {c : Stmt} {cs : List Stmt}
    (hrun : Run (matchPre st s e) (.cases (c :: cs) st.next (st.next + 1)) s2)
    (ih : Counted S E (matchPre st s e) s2 (.cases (c :: cs) st.next (st.next + 1))) :
    Counted S E st (setCur (s2.edge st.next (st.next + 1) .condF) (st.next + 1)) (.stmt (.match_ s e (c :: cs))) := by
  intro hcl fc il hc hok he
  have c1 := hcl.match_cons
  obtain ⟨w, hf⟩ := hcl
  rw [S.okS_match] at hok
  rw [sxS_match, ldSX_match]
  have hcur := w.cur
  have h01 : st.next ≠ st.next + 1 := Nat.ne_of_lt (Nat.lt_succ_self _)
  have h02 : st.next < st.next + 2 := Nat.lt_add_of_pos_right (Nat.succ_pos 1)
  have h12 : st.next + 1 < st.next + 2 := Nat.lt_succ_self _
  obtain ⟨hu1, g1⟩ := matchPre_cnt (S := S) (E := E) w s e
  -- the clauses own the subject's block `st.next` and what they allocate: not the merge block `st.next + 1`
  have j := c1.conv.frame hrun (Nat.le_refl _) (.inl rfl)
  have hr : R E st.next := R.step he.reach (hf.mem (List.mem_cons_of_mem _ (j.sub.1 _ (List.mem_cons_self ..))))
  have hrm : R E (st.next + 1) := R.step hr (hf.mem (List.mem_cons_self ..))
  have hnone : ∀ x ∈ (matchPre st s e).edges, x.1 ≠ st.next := by
    intro x hx
    rcases List.mem_cons.mp hx with rfl | hx
    · exact Nat.ne_of_lt hcur
    · exact Nat.ne_of_lt (w.edges x hx).1
  obtain ⟨gr, r4, r5⟩ := ih c1 fc il st.next false hr (Nat.le_succ _) (S.ctx_of_eq hc rfl rfl) hok (fun h => by cases h)
    (fun _ => hnone)
  obtain ⟨b', hb'⟩ := r5 (.inr (by simp))
  refine Grow.post ((((g1 _).trans gr).condOld (a := st.next) (t := .condF) rfl hb' rfl (.inl (Nat.le_succ _))).eq rfl) (Nat.zero_add _)
    ⟨fun _ => ⟨hrm, ?_⟩, fun h => by simp at h⟩ (S.J_mono r4 id id id id)
  have : Calm (s2.edge st.next (st.next + 1) .condF) (st.next + 1) := (j.calm h01.symm h12 hu1.calm).edge h01
  exact this.congr rfl rfl

theorem cases_case_cnt {st s1 s2 : St} {s e mb merge : Nat} {body cs : List Stmt} (hrun1 : Run (casePre st mb s e) (.list body) s1)
    (hrun2 : Run (s1.edgeUnlessExit s1.cur merge .normal) (.cases cs mb merge) s2) (ih1 : CountedL S E (casePre st mb s e) s1 body)
    (ih2 : Counted S E (s1.edgeUnlessExit s1.cur merge .normal) s2 (.cases cs mb merge)) :
    Counted S E st s2 (.cases (.case_ s e body :: cs) mb merge) := by
  intro hcl fc il n0 fl hrm hn0 hc hok hfl1 hfl0
  obtain ⟨c1, c2⟩ := hcl.cases_case hrun1 hrun2
  obtain ⟨⟨w, hmb, hmg⟩, -⟩ := hcl
  obtain ⟨_, _, _, heq, hokb, hokc⟩ := S.okCases_cons hok
  cases heq
  rw [sxAlts_cons, sxS_case, ldAltsX_cons, ldSX_case]
  have hn0' : n0 ≤ st.next := Nat.le_trans hn0 (Nat.le_of_lt hmg)
  have j := c1.conv.inv0 hrun1
  have sm := hrun1.stacks
  have hcalm_cb : Calm (casePre st mb s e) st.next := by
    have hu : Untouched (setCur ((bump st).edge mb st.next .condT) st.next) st.next := by untt [w.untouched (Nat.le_refl _)]
    exact hu.calm.add_other
  have hmem2 : (mb, st.next, ETy.condT) ∈ (casePre st mb s e).edges := List.mem_cons_self ..
  -- the edge `mb → st.next` is a decision of the subject's block unless that block has one already
  have g2 : Grow E (TgG S n0 st.loops st.excs ((sxL body).ex.union (sxAlts cs).ex).brk) st (casePre st mb s e) (if fl then 0 else 1) := by
    have g0 := (Grow.refl E (TgG S n0 st.loops st.excs ((sxL body).ex.union (sxAlts cs).ex).brk) st).eq (s' := bump st) rfl
    cases fl with
    | false => exact (g0.condNew (a := mb) (b := st.next) (t := .condT) hrm rfl (hfl0 rfl) (.inl hn0')).eq rfl
    | true =>
      obtain ⟨b', hb'⟩ := hfl1 rfl
      exact (g0.condOld (a := mb) (b := st.next) (t := .condT) rfl hb' rfl (.inl hn0')).eq rfl
  have hl2 : (s1.edgeUnlessExit s1.cur merge .normal).loops = st.loops := by simp only [edgeUnlessExit_loops, sm.loops]; rfl
  have hx2 : (s1.edgeUnlessExit s1.cur merge .normal).excs = st.excs := by simp only [edgeUnlessExit_excs, sm.excs]; rfl
  have pb := ih1 c1 fc il (S.ctx_of_eq hc rfl rfl) hokb ⟨R.step hrm (c1.mem_start hrun1 hmem2), hcalm_cb⟩
  obtain ⟨gr, r4, r5⟩ := ih2 c2 fc il n0 true hrm hn0 (S.ctx_of_eq hc hl2 hx2) hokc
    (fun _ => ⟨st.next, eue_mem (j.sub.1 _ hmem2)⟩) (fun h => by cases h)
  rw [hl2, hx2] at gr
  refine ⟨((((g2.call pb (fun t h => TgG.mono h (Nat.le_succ_of_le hn0') (fun hb => by simp [ex_union_brk, hb]))).exit pb.end_
    isCond_normal normal_ne_exc (fun _ => .inl hn0)).trans (gr.mono (fun t h => h.mono (Nat.le_refl _) (fun hb => by simp [ex_union_brk, hb])))).cast ?_),
    S.J_union pb.jmp (S.J_cast r4 hl2.symm hx2.symm), fun _ => r5 (.inl rfl)⟩
  simp only [Bool.true_or, ↓reduceIte, List.isEmpty_cons, Bool.or_false, Nat.zero_add]
  omega

theorem handlers_handler_cnt {st s1 s2 : St} {s e hb after : Nat} {body hs : List Stmt} {hbs : List Nat}
    (hrun1 : Run (handlerPre st hb s e) (.list body) s1) (hrun2 : Run (s1.edgeUnlessExit s1.cur after .normal) (.handlers hs hbs after) s2)
    (ih1 : CountedL S E (handlerPre st hb s e) s1 body)
    (ih2 : Counted S E (s1.edgeUnlessExit s1.cur after .normal) s2 (.handlers hs hbs after)) :
    Counted S E st s2 (.handlers (.handler s e body :: hs) (hb :: hbs) after) := by
  intro hcl fc il hc hok hnd hhb
  obtain ⟨c1, c2⟩ := hcl.handlers_handler hrun1 hrun2
  obtain ⟨⟨w, -, hlt, -⟩, hf⟩ := hcl
  obtain ⟨_, _, _, heq, hok1, hok2⟩ := S.okHs_cons hok
  cases heq
  rw [List.nodup_cons] at hnd
  rw [sxAlts_cons, sxS_handler, ldAltsX_cons, ldSX_handler]
  obtain ⟨hbc, hbr⟩ := hhb hb List.mem_cons_self
  -- the clause owns its handler block and what it allocates: the other handler blocks stay calm
  have j : Inv hb st.next _ s1 := c1.conv.own hrun1
  have sm : Same _ s1 := hrun1.stacks
  have hown := j.own
  have hent : EntryC E (handlerPre st hb s e) := ⟨hbr, (Calm.congr (s' := setCur st hb) rfl rfl hbc).add_other⟩
  have hl2 : (s1.edgeUnlessExit s1.cur after .normal).loops = st.loops := by simp only [edgeUnlessExit_loops, sm.loops]; rfl
  have hx2 : (s1.edgeUnlessExit s1.cur after .normal).excs = st.excs := by simp only [edgeUnlessExit_excs, sm.excs]; rfl
  have h12 : st.next ≤ (s1.edgeUnlessExit s1.cur after .normal).next := Nat.le_trans j.next_le (Nat.le_of_eq (edgeUnlessExit_next ..).symm)
  have hhb' : ∀ y ∈ hbs, Calm (s1.edgeUnlessExit s1.cur after .normal) y ∧ R E y := by
    intro y hy
    obtain ⟨a2, a3⟩ := hhb y (List.mem_cons_of_mem _ hy)
    have a1 := hlt y (List.mem_cons_of_mem _ hy)
    have hne : y ≠ hb := fun h => hnd.1 (h ▸ hy)
    exact ⟨Calm.eue (Own.ne_of_lt hown hne a1) (j.calm hne a1 (Calm.add_ne (fun h => hne h.symm) (Calm.congr (s' := setCur st hb) rfl rfl a2))), a3⟩
  have hp := ih1 c1 fc il (S.ctx_of_eq hc rfl rfl) hok1 hent
  obtain ⟨r1, r2, r3, r4⟩ := ih2 c2 fc il (S.ctx_of_eq hc hl2 hx2) hok2 hnd.2 hhb'
  -- the body, and the edge to the block behind the handlers if the body can fall through
  have g := (hp.grow.mono (G' := fun t => TgG S st.next st.loops st.excs ((sxL body).ex.brk || (sxAlts hs).ex.brk) t ∨
      (t = after ∧ ((sxL body).ex.normal || (sxAlts hs).ex.normal) = true))
    (fun t h => .inl (h.mono (Nat.le_refl _) (fun hb => by simp [hb])))).exit hp.end_ isCond_normal normal_ne_exc (fun h => .inr ⟨rfl, by simp [h]⟩)
  have e2 : cnt (rE E) (s1.edgeUnlessExit s1.cur after .normal).edges = cnt (rE E) st.edges + ldLX fc body := g.cnt
  simp only [List.length_cons]
  refine ⟨by omega, ?_, S.J_union hp.jmp (S.J_cast r3 hl2.symm hx2.symm), (g.tgt.of_start_eq rfl).trans (r4.mono (fun t h => ?_))⟩
  · intro hn
    rcases Bool.or_eq_true_iff.mp hn with hn | hn
    · exact hp.end_.step (fun e h => hf.mem ((c2.conv.inv0 hrun2).sub.1 e h)) hn
    · exact r2 hn
  · rw [hl2, hx2] at h
    rcases h with h | ⟨h1, h2⟩
    · exact .inl (TgG.mono h h12 (fun hb => by simp [hb]))
    · exact .inr ⟨h1, by simp [h2]⟩

theorem enter_cnt {body : List Stmt} {st s1 s3 : St} (hrun : Run s1 (.list body) s3) (ih : CountedL S E s1 s3 body) (fc : FC) (il : Bool)
    (cond k : Nat) (t : ETy) (w : WF st) (c1 : Called E s1 s3 (.list body)) (hn : s1.next = st.next + k) (hcur : s1.cur = st.next)
    (hl : s1.loops = st.loops) (hx : s1.excs = st.excs) (hedges : s1.edges = (cond, st.next, t) :: st.edges)
    (hcalm1 : ∀ m, m ≠ cond → Calm st m → Calm s1 m) (hcl : cond < st.next) (hr : R E cond) (hc : S.Ctx fc il st)
    (hok : S.okL il body = true) : EnterG S E st s3 cond k t (sxL body).ex (ldLX fc body) := by
  have j := hrun.frame st.next (st.next + k) c1.wf (Nat.le_of_eq hn.symm) (.inl hcur)
  have hm1 : (cond, st.next, t) ∈ s1.edges := by rw [hedges]; exact List.mem_cons_self ..
  have hr1 : R E st.next := R.step hr (c1.mem_start hrun hm1)
  have hc1 : Calm s1 s1.cur := by
    rw [hcur]; exact hcalm1 _ (by omega) (Untouched.calm (w.untouched (Nat.le_refl _)))
  have post := ih c1 fc il (S.ctx_of_eq hc hl hx) hok ⟨by rw [hcur]; exact hr1, hc1⟩
  have g := post.grow
  rw [hn, hl, hx] at g
  exact ⟨g.start hedges.symm, post.end_, S.J_cast post.jmp hl.symm hx.symm, j.sub.1 _ hm1,
    fun m h1 h2 h3 hcm => j.calm h2 h3 (hcalm1 m h1 hcm), j.own⟩

/-- the first branch of an `if`; its merge block is `st.next + 1` -/
theorem ifHead_headG {thn : List Stmt} {st s3 : St} {s e : Nat} (hrun : Run (ifPre st s e) (.list thn) s3)
    (ih : CountedL S E (ifPre st s e) s3 thn) (c1 : Called E (ifPre st s e) s3 (.list thn)) (fc : FC) (il : Bool) (w : WF st)
    (hc : S.Ctx fc il st) (hok : S.okL il thn = true) (he : EntryC E st) :
    HeadG S E st s3 2 (st.next + 1) st.next (sxL thn).ex (ldLX fc thn) := by
  have hc1 : st.cur ≠ st.next + 1 := Nat.ne_of_lt (Nat.lt_succ_of_lt w.cur)
  have c0 : Calm st (st.next + 1) := Untouched.calm (w.untouched (Nat.le_succ _))
  have hpre : ∀ m, m ≠ st.cur → Calm st m → Calm (ifPre st s e) m := fun m hm h =>
    (h.add_ne (b := st.cur) (p := s) (q := e) (ty := .other) (Ne.symm hm)).edge (a := st.cur) (b := st.next) (t := .condT) (Ne.symm hm)
  refine ⟨w, he, enter_cnt hrun ih fc il st.cur 2 .condT w c1 rfl rfl rfl rfl rfl hpre w.cur he.reach hc hok,
    ⟨(hrun.stacks).loops, (hrun.stacks).excs⟩, c1.conv.wf' hrun, c1.next_le hrun, w.ctxLt (Nat.le_refl _), w.two, Nat.le_succ _,
    hc1.symm, Nat.ne_of_gt (Nat.lt_succ_self _), Nat.lt_succ_self _, c0, ?_⟩
  have j : Inv st.next (st.next + 2) _ s3 := c1.conv.own hrun
  exact j.calm (Nat.ne_of_gt (Nat.lt_succ_self _)) (Nat.lt_succ_self _) (hpre _ hc1.symm c0)

/-- the first branch of a clause of the chain; its merge block `fm` is that of the whole chain -/
theorem elifHead_headG {thn : List Stmt} {st s3 : St} {s e : Nat} (hrun : Run (elifPre st s e) (.list thn) s3)
    (ih : CountedL S E (elifPre st s e) s3 thn) (c1 : Called E (elifPre st s e) s3 (.list thn)) (fc : FC) (il : Bool) (w : WF st)
    (hc : S.Ctx fc il st) (hok : S.okL il thn = true) (he : EntryC E st) {fm lo : Nat} (hctx : CtxLt st lo) (h2 : 2 ≤ lo) (hlo : lo ≤ fm)
    (hfl : fm < st.next) (hfc : fm ≠ st.cur) (hcm : Calm st fm) : HeadG S E st s3 1 fm lo (sxL thn).ex (ldLX fc thn) := by
  have hpre : ∀ m, m ≠ st.cur → Calm st m → Calm (elifPre st s e) m := fun m hm h =>
    (h.add_ne (b := st.cur) (p := s) (q := e) (ty := .other) (Ne.symm hm)).edge (a := st.cur) (b := st.next) (t := .condT) (Ne.symm hm)
  have j : Inv st.next (st.next + 1) _ s3 := c1.conv.own hrun
  exact ⟨w, he, enter_cnt hrun ih fc il st.cur 1 .condT w c1 rfl rfl rfl rfl rfl hpre w.cur he.reach hc hok,
    ⟨(hrun.stacks).loops, (hrun.stacks).excs⟩, c1.conv.wf' hrun, c1.next_le hrun, hctx, h2, hlo, hfc, Nat.ne_of_lt hfl, Nat.lt_succ_of_lt hfl, hcm,
    j.calm (Nat.ne_of_lt hfl) (Nat.lt_succ_of_lt hfl) (hpre _ hfc hcm)⟩

/-- the general `else`: facts about the state after both parts -/
theorem else_two' {orelse : List Stmt} {st s3 s5 : St} (hrun : Run (setCur ((bump s3).edge st.cur s3.next .condF) s3.next) (.list orelse) s5)
    (ih : CountedL S E (setCur ((bump s3).edge st.cur s3.next .condF) s3.next) s5 orelse)
    (c2 : Called E (setCur ((bump s3).edge st.cur s3.next .condF) s3.next) s5 (.list orelse)) (fc : FC) (il : Bool)
    {k m lo : Nat} {exT : Ex} {nT : Nat} (H : HeadG S E st s3 k m lo exT nT) (hc : S.Ctx fc il st) (hok : S.okL il orelse = true) :
    TwoG S E st s5 m s3.cur s5.cur exT.normal (sxL orelse).ex.normal (exT.union (sxL orelse).ex) (1 + nT + ldLX fc orelse) :=
  else_two H (enter_cnt hrun ih fc il st.cur 1 .condF H.w3 c2 rfl rfl rfl rfl rfl
    (fun _ hm h => h.edge (s := bump s3) (a := st.cur) (b := s3.next) (t := .condF) (Ne.symm hm))
    (Nat.lt_of_lt_of_le H.w.cur (Nat.le_trans (Nat.le_add_right _ k) H.hnx)) H.he.reach (S.ctx_same hc H.sm) hok)

/-- the chain behind a first branch (which ends in `s3`): it joins into the merge block of the `if` -/
theorem tail_join {s3 s6 : St} {cond te merge s' e' : Nat} {a b : List Stmt}
    (hrun : Run (setCur ((bump s3).edge cond s3.next .condF) s3.next) (.elif s' e' a b merge) s6)
    (ih : Counted S E (setCur ((bump s3).edge cond s3.next .condF) s3.next) s6 (.elif s' e' a b merge)) :
    Counted S E s3 (tailJoin s6 te merge) (.elifTail cond te merge s' e' a b) := by
  intro hcl fc il st k lo exT nT H hcond hte hc hoka hokb
  subst hcond
  subst hte
  have c2 := hcl.elifTail
  have h13 : merge < s3.next := Nat.lt_of_lt_of_le H.m3 H.hnx
  obtain ⟨hc4, hctx4, hcm4⟩ := H.facts4 hc
  have j := c2.conv.frame hrun (Nat.le_refl _) (.inl rfl)
  obtain ⟨Q, hcur6, hrc, hne⟩ := rec_step H j (c2.mem_start hrun (List.mem_cons_self ..))
    (ih c2 fc il lo hc4 hoka hokb hctx4 H.h2 H.hlo (Nat.ne_of_lt h13) hcm4)
  have hmem : ∀ e ∈ (tailJoin s6 s3.cur merge).edges, e ∈ E := fun e h => Fut.mem (show Fut E merge _ _ from hcl.fut) h
  revert hmem
  unfold tailJoin
  split
  · split
    · next hbt => exact fun _ => Q.plain hbt hcur6 hrc
    · -- the chain ends in an unreachable block, the first branch does not end with a terminator: one more edge into `merge`
      rw [setCur_eue, setCur_setCur]
      exact fun h => Q.join hne h
  · exact fun h => Q.join hne h

theorem tryMid_cnt {s3 s5 s7 : St} {tryB : Nat} {cfin : Option Nat} {X0 : List Exc} {nat ah : Nat} {body handlers : List Stmt}
    (hrun1 : Run (setCur (setExcs (bumpN s3 handlers.length) (ctxOf s3 cfin handlers :: X0)) tryB) (.list body) s5)
    (hrun2 : Run (((List.range handlers.length).map (fun k => s3.next + k)).foldl (fun st h => st.edge tryB h .exc)
      (s5.edgeUnlessExit s5.cur nat .normal)) (.handlers handlers ((List.range handlers.length).map (fun k => s3.next + k)) ah) s7)
    (ih1 : CountedL S E (setCur (setExcs (bumpN s3 handlers.length) (ctxOf s3 cfin handlers :: X0)) tryB) s5 body)
    (ih2 : Counted S E (((List.range handlers.length).map (fun k => s3.next + k)).foldl (fun st h => st.edge tryB h .exc)
      (s5.edgeUnlessExit s5.cur nat .normal)) s7 (.handlers handlers ((List.range handlers.length).map (fun k => s3.next + k)) ah)) :
    Counted S E s3 s7 (.tryMid tryB cfin X0 nat ah body handlers) := by
  intro hcl fc' il hctx hokb hokh htc hrt
  obtain ⟨c1, c2⟩ := hcl.tryMid hrun1 hrun2
  obtain ⟨⟨w, htl, hcf, hx0, hnl, -⟩, -⟩ := hcl
  unfold ctxOf at hrun1 ih1 hctx ⊢
  have hmem : ∀ h ∈ (List.range handlers.length).map (fun k => s3.next + k), s3.next ≤ h ∧ h < s3.next + handlers.length :=
    fun _ hh => handlerIds_mem hh
  have hlen : ((List.range handlers.length).map (fun k => s3.next + k)).length = handlers.length := by simp
  have hnd := nodup_map_add s3.next handlers.length
  generalize (List.range handlers.length).map (fun k => s3.next + k) = hbs at *
  -- up to the state in which the handlers are processed, `tryB` and the blocks past the handler blocks are owned: the handler blocks get
  -- no record and no out-edge
  have i4 := tryMidPre_inv (c := tryB) (n := s3.next + handlers.length) (Ext.refl w) tryB (.inl rfl) htl cfin hcf X0 hx0 hbs
    handlers.length (fun h hh => (hmem h hh).2)
  have j5 : Inv tryB (s3.next + handlers.length) _ s5 := c1.conv.own hrun1
  have sm5 : Same _ s5 := hrun1.stacks
  have hjn : s3.next + handlers.length ≤ s5.next := j5.next_le
  have h35 : s3.next ≤ s5.next := Nat.le_trans (Nat.le_add_right _ _) hjn
  have k5 := (i4.trans j5).edgeUnlessExit (b := nat) (t := .normal) j5.own j5.wf.cur (Nat.lt_of_lt_of_le hnl h35)
  have hl5 : (s5.edgeUnlessExit s5.cur nat .normal).loops = s3.loops := by simp only [edgeUnlessExit_loops, sm5.loops]; rfl
  have hx5 : (s5.edgeUnlessExit s5.cur nat .normal).excs = { fin := cfin, handlers := hbs, processingFinally := false } :: X0 := by
    simp only [edgeUnlessExit_excs, sm5.excs]; rfl
  have hn5 : (s5.edgeUnlessExit s5.cur nat .normal).next = s5.next := edgeUnlessExit_next ..
  obtain ⟨k6, sm6, hn6, -⟩ := foldl_edges_frame tryB .exc hbs _ k5 (.inl rfl) (by rw [hn5]; exact Nat.lt_of_lt_of_le htl h35)
    (fun h hh => by rw [hn5]; exact Nat.lt_of_lt_of_le (hmem h hh).2 hjn)
  have cov6 : ∀ S : List SRec, Cov E S (hbs.foldl (fun st h => st.edge tryB h .exc) (s5.edgeUnlessExit s5.cur nat .normal)) →
      (∀ h ∈ hbs, (tryB, h, ETy.exc) ∈ E) ∧ Cov E S (s5.edgeUnlessExit s5.cur nat .normal) := fun _ hc => foldl_edge_cov tryB .exc hbs _ hc
  have hp := ih1 c1 fc' il (hctx _ rfl rfl) hokb ⟨hrt, Calm.congr (s := s3) rfl rfl htc⟩
  -- the body seen from outside the context of the `try`, its exit edge, the exception edges to the handler blocks
  have g6 : Grow E (fun t => TgG S s3.next s3.loops X0 ((sxL body).ex.brk || (sxAlts handlers).ex.brk) t ∨ (t = nat ∧ (sxL body).ex.normal = true) ∨
      (t = ah ∧ (sxAlts handlers).ex.normal = true) ∨ cfin = some t) s3
      (hbs.foldl (fun st h => st.edge tryB h .exc) (s5.edgeUnlessExit s5.cur nat .normal)) (ldLX fc' body + hbs.length) :=
    (((hp.grow.mono (fun t h => (tg_inner (n := s3.next) h (Nat.le_add_right _ _) (fun hb => by simp [hb]) (fun y hy => (hmem y hy).1)).imp id
      (fun h => .inr (.inr h)))).start (s0' := s3) rfl).exit hp.end_ isCond_normal normal_ne_exc (fun h => .inr (.inl ⟨rfl, h⟩))).excs hrt hbs
      (fun y hy => .inl (.inl (hmem y hy).1))
  generalize hbs.foldl (fun st h => st.edge tryB h .exc) (s5.edgeUnlessExit s5.cur nat .normal) = s6 at *
  have hl6 : s6.loops = s3.loops := sm6.loops.trans hl5
  have hx6 : s6.excs = { fin := cfin, handlers := hbs, processingFinally := false } :: X0 := sm6.excs.trans hx5
  have h36 : s3.next ≤ s6.next := Nat.le_trans h35 (Nat.le_of_eq (hn6.trans hn5).symm)
  have hcov6 : Cov E s7.stmts s6 := Cov.of_ext (c2.conv.inv0 hrun2).ext ⟨fun e h => c2.fut.mem h, fun r h => h⟩
  have hhb6 : ∀ hb ∈ hbs, Calm s6 hb ∧ R E hb := by
    intro hb hm
    have := hmem hb hm
    exact ⟨k6.calm (Nat.ne_of_gt (Nat.lt_of_lt_of_le htl this.1)) this.2 (Calm.congr (s := s3) rfl rfl (w.untouched this.1).calm),
      R.step hrt ((cov6 _ hcov6).1 hb hm)⟩
  obtain ⟨r1, r2, r3, r4⟩ := ih2 c2 fc' il (hctx _ hl6 hx6) hokh hnd hhb6
  have c6 := g6.cnt
  refine ⟨⟨by omega, g6.tgt.trans (r4.mono (fun t h => ?_))⟩, hp.end_.step (cov6 _ hcov6).2.1, r2,
    S.J_union hp.jmp (S.J_cast r3 hl6.symm hx6.symm)⟩
  rw [hl6, hx6] at h
  rcases h with h | h
  · exact (tg_inner (n := s3.next) h h36 (fun hb => by simp [hb]) (fun y hy => (hmem y hy).1)).imp id (fun h => .inr (.inr h))
  · exact .inr (.inr (.inl h))

theorem tryElse_some_cnt {s7 s8 : St} {elseB ah : Nat} {orelse : List Stmt} (hrun : Run (setCur s7 elseB) (.list orelse) s8)
    (ih : CountedL S E (setCur s7 elseB) s8 orelse) :
    Counted S E s7 (s8.edgeUnlessExit s8.cur ah .normal) (.tryElse true elseB ah orelse) := by
  intro hcl fc' il bn hE hc7 hok hlive hdead
  have c1 := hcl.tryElse_some
  have hne : orelse.isEmpty = false := by simpa using hE.symm
  simp only [hne, Bool.false_eq_true, ↓reduceIte] at hlive ⊢
  have j : Inv elseB s7.next _ s8 := c1.conv.own hrun
  cases bn
  · have dr := dead_run c1.wf j c1.fut (hdead rfl rfl)
    have hcnt := (dr (fun _ => True)).1
    have hdd := (dr (fun _ => True)).2.1
    exact ⟨⟨by rw [cnt_eue_plain s8 s8.cur ah .normal isCond_normal normal_ne_exc, hcnt]; rfl,
      ((dr _).2.2.of_start_eq (s0' := s7) rfl).eue (fun hr => absurd hr hdd)⟩, ff, S.J_empty rfl rfl rfl rfl, id⟩
  · simp only [↓reduceIte]
    have hp := ih c1 fc' il (S.ctx_of_eq hc7 rfl rfl) hok ⟨(hlive rfl).1, Calm.congr (s := s7) rfl rfl ((hlive rfl).2 trivial)⟩
    have g := (hp.grow.mono (G' := fun t => TgG S s7.next s7.loops s7.excs (sxL orelse).ex.brk t ∨ (t = ah ∧ (sxL orelse).ex.normal = true))
      (fun t h => Or.inl h)).exit hp.end_ isCond_normal normal_ne_exc (fun h => .inr ⟨rfl, h⟩)
    exact ⟨g.start rfl, hp.end_.step (fun _ => hcl.fut.mem), hp.jmp, id⟩

/-- the `else` block of a `try` whose body does not end normally is dead: no edge of a reachable block of body or handlers leads to it -/
theorem tryElse_dead {st s3 s7 s8 : St} (w : WF st) {c0 : Exc} {hasElse : Bool} {elseB ah : Nat} {b bn hn : Bool}
    {orelse : List Stmt} (hrun : Run s7 (.tryElse hasElse elseB ah orelse) s8) (q1 : s3.edges = (st.cur, st.next, .normal) :: st.edges)
    (q3 : s3.loops = st.loops) (hl7 : s7.loops = st.loops) (x7 : s7.excs = c0 :: st.excs)
    (hlo : st.next + 2 ≤ elseB) (hhi : elseB < s3.next) (hn7 : s3.next ≤ s7.next)
    (hhs : ∀ h ∈ c0.handlers, s3.next ≤ h) (hcf : ∀ f, c0.fin = some f → f ≠ elseB) (hah : ah ≠ elseB) (f8 : Fut E elseB (elseB + 1) s8)
    (m5 : LTI E (fun t => TgG S s3.next s3.loops st.excs b t ∨ (t = elseB ∧ bn = true) ∨ (t = ah ∧ hn = true) ∨ c0.fin = some t) s3 s7)
    (hbn : bn = false) : ¬ R E elseB := by
  have hAe : st.next < elseB := Nat.lt_of_lt_of_le (Nat.lt_add_of_pos_right Nat.two_pos) hlo
  have h2e : 2 ≤ elseB := Nat.le_trans (Nat.le_add_left 2 _) hlo
  have he7 : elseB < s7.next := Nat.lt_of_lt_of_le hhi hn7
  have g : TG (fun x => x < elseB ∨ elseB + 1 ≤ x) s7 :=
    TG.tryZone w (Nat.le_of_lt hAe) he7 h2e hl7 x7 (fun f hf' => Nat.lt_or_gt_of_ne (hcf f hf'))
      (fun h hh => .inr (Nat.lt_of_lt_of_le hhi (hhs h hh)))
  have f7 := f8.back_TI (target_run hrun _ g (Nat.lt_or_gt_of_ne hah)).ti
  refine dead_of_LTI f7 (Nat.le_refl _) (Nat.lt_succ_self _) w (Nat.le_of_lt hAe) ?_
  have t0 : LTI E (fun x => x ≠ elseB) st s3 :=
    ⟨[(st.cur, st.next, .normal)], q1, fun x hx _ => by rw [List.mem_singleton.mp hx]; exact Nat.ne_of_lt hAe⟩
  refine t0.trans (m5.mono (fun t h => ?_))
  rcases h with h | ⟨_, h⟩ | ⟨h, _⟩ | h
  · refine TgG.ne h hhi (Nat.ne_of_gt h2e) ?_ (S.not_TX w (Nat.le_of_lt hAe))
    intro hd x d rest hl
    have := w.loops (hd, x, d) (by rw [← q3, hl]; exact List.mem_cons_self ..)
    exact ⟨Nat.ne_of_lt (Nat.lt_trans this.1 hAe), fun _ => Nat.ne_of_lt (Nat.lt_trans this.2 hAe)⟩
  · rw [hbn] at h; cases h
  · rw [h]; exact hah
  · exact hcf t h

/-- `s8`: the state after body, handlers and `else` part, both stages called within the convention; `fc'` and `hctxM`: the structural
context under the `try`, which depends on whether there is a `finally` block; `hFe`: no later edge into a block that the `try` allocated
at its start, the `finally` block apart (asked of the `else` block, to see that it is dead if the body does not end normally) -/
theorem tryME_cnt {st s3 s7 s8 : St} {body handlers orelse : List Stmt} {hasFin hasElse : Bool} {finB elseB : Nat} {cfin : Option Nat}
    {nat ah : Nat} (ha : TryAlloc st hasFin hasElse s3 finB elseB cfin nat ah)
    (hrun7 : Run s3 (.tryMid st.next cfin st.excs nat ah body handlers) s7) (hrun8 : Run s7 (.tryElse hasElse elseB ah orelse) s8)
    (ih7 : Counted S E s3 s7 (.tryMid st.next cfin st.excs nat ah body handlers))
    (ih8 : Counted S E s7 s8 (.tryElse hasElse elseB ah orelse)) (c7 : Called E s3 s7 (.tryMid st.next cfin st.excs nat ah body handlers))
    (c8 : Called E s7 s8 (.tryElse hasElse elseB ah orelse)) (il : Bool) (w : WF st) (he : EntryC E st)
    (hokb : S.okL il body = true) (hokh : S.okHs il handlers = true) (hoke : S.okL il orelse = true) (hE : hasElse = !orelse.isEmpty)
    (fc' : FC) (hctxM : ∀ s' : St, s'.loops = s3.loops → s'.excs = ctxOf s3 cfin handlers :: st.excs → S.Ctx fc' il s')
    (hFe : ∀ m, st.next + 2 ≤ m → m < s3.next → (hasFin = true → m ≠ finB) → m < s8.next → Fut E m (m + 1) s8) :
    Grow E (fun t => TgG S st.next st.loops st.excs ((sxL body).ex.brk || (sxAlts handlers).ex.brk || (elx body orelse).ex.brk) t ∧
        (t = st.next + 1 → hasFin = false ∧ pnx body handlers orelse = true)) st s8
      (ldLX fc' body + ldAltsX fc' handlers + (if (sxL body).ex.normal = true then ldLX fc' orelse else 0)) ∧
    (pnx body handlers orelse = true → R E ah) ∧
    S.J E st.loops (ctxOf s3 cfin handlers :: st.excs) (((sxL body).ex.union (sxAlts handlers).ex).union (elx body orelse).ex) ∧
    (∀ m, st.next + 1 ≤ m → m < s3.next → m ≠ elseB → Calm s8 m) ∧ s3.next + handlers.length ≤ s8.next := by
  have hcur := w.cur
  have k3 := ha.inv (c := st.cur) (n := 0) w (.inl rfl)
  have b3 := ha.allocated
  have q3 := b3.same.loops
  obtain ⟨hahl, hnatl, hcf⟩ := ha.blocks
  have hAB : st.next < s3.next := Nat.lt_of_lt_of_le (Nat.lt_add_of_pos_right Nat.two_pos) b3.next_le
  have hAe : hasElse = true → st.next < elseB := fun h => Nat.lt_of_lt_of_le (Nat.lt_add_of_pos_right Nat.two_pos) (b3.els h).1
  -- the frames of the two stages: each owns the block it makes current first (`st.next`, `elseB`) and what it allocates
  have k7 := c7.conv.frame hrun7 (Nat.le_refl _) (.inl rfl)
  obtain ⟨l7, x7⟩ := hrun7.stacks
  have hn7 := (c7.conv.tryMid_end hrun7).2
  have h37 : s3.next ≤ s7.next := Nat.le_trans (Nat.le_add_right _ _) hn7
  have k8 := c8.conv.frame hrun8 (Nat.le_refl _) fun _ => .inl rfl
  have sm8 : Same s7 s8 := hrun8.stacks
  have hn8 : s7.next ≤ s8.next := k8.next_le
  have h38 := Nat.le_trans h37 hn8
  have hrt : R E st.next :=
    R.step he.reach (c8.fut.mem (k8.sub.1 _ (k7.sub.1 (st.cur, st.next, .normal) (by rw [b3.edges]; exact List.mem_cons_self ..))))
  have hu3 : ∀ m, st.next ≤ m → Untouched s3 m := fun m => b3.untouched w
  obtain ⟨gm, m2, m3, m4⟩ := ih7 c7 fc' il hctxM hokb hokh (hu3 _ (Nat.le_refl _)).calm hrt
  have hl7' : s7.loops = st.loops := l7.trans q3
  have hnat' : nat = if hasElse = true then elseB else ah := ha.nat_eq
  obtain ⟨ga, a2, a3, a7⟩ := ih8 c8 fc' il (sxL body).ex.normal hE (hctxM _ l7 x7) hoke
    (fun h => ⟨hnat' ▸ m2 h, fun h' => k7.calm (Nat.ne_of_gt (hAe h')) (b3.els h').2 (hu3 _ (Nat.le_of_lt (hAe h'))).calm⟩)
    (fun h' => tryElse_dead w hrun8 b3.edges q3 hl7' x7 (b3.els h').1 (b3.els h').2 h37 (fun _ hh => (handlerIds_mem hh).1)
      (fun f hf' => (hcf f hf').2.2 h') (hahl.2.2.1 h')
      (hFe elseB (b3.els h').1 (b3.els h').2 (fun hfin => ((b3.fin hfin).2.2).symm) (Nat.lt_of_lt_of_le (b3.els h').2 h38))
      (by have m5 := gm.tgt; rw [hnat', if_pos h'] at m5; exact m5))
  unfold pnx elx
  generalize (if (sxL body).ex.normal = true then sxL orelse else ({} : SX)) = el at *
  have helnE : hasElse = false → (if orelse.isEmpty = true then (sxL body).ex.normal else el.ex.normal) = (sxL body).ex.normal :=
    fun h => if_pos ((Bool.not_eq_false' _).mp (hE.symm.trans h))
  generalize (if orelse.isEmpty = true then (sxL body).ex.normal else el.ex.normal) = eln at *
  refine ⟨?_, ?_, S.J_union (S.J_cast m4 q3.symm rfl) (S.J_cast a3 hl7'.symm x7.symm), ?_, Nat.le_trans hn7 hn8⟩
  · -- the edge into the `try` block, body and handlers, the `else` part
    have t0 : Grow E (fun t => TgG S st.next st.loops st.excs ((sxL body).ex.brk || (sxAlts handlers).ex.brk || el.ex.brk) t ∧
        (t = st.next + 1 → hasFin = false ∧ (eln || (sxAlts handlers).ex.normal) = true)) st s3 0 :=
      ((Grow.refl E _ st).normal (a := st.cur) (b := st.next)
        ⟨.inl (Nat.le_refl _), fun h => absurd h (Nat.ne_of_lt (Nat.lt_succ_self _))⟩).eq b3.edges
    have t1 := t0.trans (gm.mono (fun t h => by
      rcases h with h | ⟨h1, h2⟩ | ⟨h1, h2⟩ | h
      · rw [q3] at h
        have := tg_low w (TgG.mono h (n := st.next + 2) (b := ((sxL body).ex.brk || (sxAlts handlers).ex.brk || el.ex.brk)) b3.next_le (fun hb => by simp [hb]))
        exact ⟨this.1, fun ht => absurd ht this.2⟩
      · subst h1
        refine ⟨.inl (Nat.le_of_succ_le hnatl.2.1), fun ht => ?_⟩
        obtain ⟨hf1, hf2⟩ := hnatl.2.2 ht
        refine ⟨hf1, ?_⟩
        rw [helnE hf2, h2]; rfl
      · subst h1
        refine ⟨.inl (Nat.le_of_succ_le hahl.1), fun ht => ⟨hahl.2.2.2 ht, ?_⟩⟩
        rw [h2]; simp
      · have := (hcf t h).2.1
        refine ⟨.inl (Nat.le_trans (Nat.le_add_right _ 2) this), fun ht => ?_⟩
        rw [ht] at this
        exact absurd this (Nat.not_succ_le_self _)))
    refine (t1.trans (ga.mono (fun t h => ?_))).cast (by rw [Nat.zero_add])
    rcases h with h | ⟨h1, h2⟩
    · rw [hl7', x7] at h
      have := tg_outer w (b := ((sxL body).ex.brk || (sxAlts handlers).ex.brk || el.ex.brk)) h (Nat.le_trans b3.next_le h37) (fun hb => by simp [hb])
        (fun y hy => Nat.le_trans b3.next_le (handlerIds_mem hy).1) (fun f hf' => (hcf f hf').2.1)
      exact ⟨this.1, fun ht => absurd ht this.2⟩
    · subst h1
      refine ⟨.inl (Nat.le_of_succ_le hahl.1), fun ht => ⟨hahl.2.2.2 ht, ?_⟩⟩
      rw [a7 h2]; rfl
  · intro hn
    rcases Bool.or_eq_true_iff.mp hn with hn | hn
    · exact a2 hn
    · exact m3 hn
  · intro m hm1 hm2 hm3
    exact k8.calm hm3 (Nat.lt_of_lt_of_le hm2 h37) (k7.calm (Nat.ne_of_gt hm1) hm2 (hu3 m (Nat.le_of_succ_le hm1)).calm)

theorem try_nofin_cnt {st s3 s7 s8 : St} {s e : Nat} {body handlers orelse : List Stmt} {finB elseB : Nat} {cfin : Option Nat} {nat ah : Nat}
    (ha : TryAlloc st false (!orelse.isEmpty) s3 finB elseB cfin nat ah)
    (hrun7 : Run s3 (.tryMid st.next cfin st.excs nat ah body handlers) s7) (hrun8 : Run s7 (.tryElse (!orelse.isEmpty) elseB ah orelse) s8)
    (ih7 : Counted S E s3 s7 (.tryMid st.next cfin st.excs nat ah body handlers))
    (ih8 : Counted S E s7 s8 (.tryElse (!orelse.isEmpty) elseB ah orelse)) :
    Counted S E st (setExcs (setCur s8 (st.next + 1)) st.excs) (.stmt (.try_ s e body handlers orelse [])) := by
  intro hcl fc il hc hok he
  obtain ⟨c7, c8, -⟩ := hcl.try_ (fin := []) ha hrun7 hrun8 (.tryFin_none ..)
  obtain ⟨w, hf⟩ := hcl
  obtain ⟨hokb, hokh, hoke⟩ := S.okS_try hok
  have b3 := ha.allocated
  have hcfin : cfin = none := ha.cfin_eq
  have hah : ah = st.next + 1 := ha.ah_eq
  subst hcfin hah
  rw [sxS_try, ldSX_try]
  simp only [List.isEmpty_nil, ↓reduceIte]
  obtain ⟨r1, r2, r3, r5, r9⟩ := tryME_cnt ha hrun7 hrun8 ih7 ih8 c7 c8 il w he hokb hokh hoke rfl (fc.inTry handlers.length)
    (fun s' hl hx => by
      have hlen : ((List.range handlers.length).map (fun k => s3.next + k)).length = handlers.length := by simp
      rw [← hlen]
      exact S.ctx_pushTryN (c0 := ctxOf s3 none handlers) hc w (hl.trans b3.same.loops) hx rfl rfl (fun y hy =>
        Nat.le_trans (Nat.le_trans (Nat.le_add_right _ 2) b3.next_le) (handlerIds_mem hy).1) (nodup_map_add s3.next handlers.length))
    (fun m h1 _ _ h4 => (Fut.mono (lo' := m) (hi' := m + 1) hf (Nat.le_trans (Nat.le_add_right _ 2) h1)
      (by simp only [setExcs_next, setCur_next]; exact h4)).back_setExcs.back_setCur)
  refine try_finish w _ _ (Nat.le_trans b3.next_le (Nat.le_trans (Nat.le_add_right _ _) r9)) hf (r1.mono (fun t h => ⟨h.1, fun hn ht => ?_⟩)) r2
    (r5 _ (Nat.le_refl _) b3.next_le b3.els_ne.symm) (S.J_mono (S.J_popPlain hc r3 rfl rfl) id id id id)
  have h1 := (h.2 ht).2
  have h2 : pnx body handlers orelse = false := hn
  rw [h2] at h1; cases h1

end main

end PV.CFGSound

#print axioms PV.CFGSound.with_cnt
#print axioms PV.CFGSound.loop_cons_cnt
#print axioms PV.CFGSound.match_cons_cnt
#print axioms PV.CFGSound.cases_case_cnt
#print axioms PV.CFGSound.try_nofin_cnt
