import PV.Proofs.CFGRangesLeaf
/-!
Reported ranges — the walk over the builder (`rq_run`, an induction over `Run`): the records of every call made within the
convention (`Called`: a final edge list `E` that adds no edge into the blocks of the call) are pairwise related (`Rel E`), given `SI` for
the records stored before.  The bounds of the new records and `GC` are read off the record trace (`rpost_of_pw`), so `RPost` follows
(`rq_all`).
-/
namespace PV.CFGSound
open PV.CFG

section walk
variable {E : List Edge}

/-- what the walk says of each kind of call.  `SI` is anchored at the block the call is entered through: the current block of a
statement, a list, `procIf` and a clause of the chain, the subject's block of `case` clauses; every block of the call is reachable only
if that block is (`zoneR`).  The chain behind a first branch and the body-and-handlers stage of `try` have no such zone of their own
(the chain adds an edge from the end of the branch; the `else` part, processed under the context of the `try`, may still raise into
the handler blocks): they take as a hypothesis that the fresh block of the next clause, the handler blocks are reachable only if the
anchor is.  The stages of `try` and the
`except` clauses are anchored at the block `a` that was current when the `try` started.  The calls that are followed by further parts
of the statement (`case` / `except` clauses, the stages of `try`) report `SI` at their end. -/
abbrev Ranged (E : List Edge) (st st' : St) : Call → Prop
  | .stmt x => ∀ (il : Bool) (p : Nat), okSC il x = true → wfS x = true → p ≤ x.span.1 → SI E st.stmts st.cur p →
      st'.stmts.Pairwise (Rel E)
  | .list ss => ∀ (il : Bool) (p : Nat), okLC il ss = true → wfL p ss = true → SI E st.stmts st.cur p → st'.stmts.Pairwise (Rel E)
  | .if_ rs re thn orelse | .elif rs re thn orelse _ => ∀ (il : Bool) (s e p : Nat), okLC il thn = true → okLC il orelse = true →
      ((rs = s ∧ re = e) ∨ (rs = 0 ∧ re = 0)) → Wf2 s e thn orelse → p ≤ s → SI E st.stmts st.cur p → st'.stmts.Pairwise (Rel E)
  | .elifTail cond _ _ rs' re' ta tb => ∀ (il : Bool) (s' e' q : Nat), okLC il ta = true → okLC il tb = true →
      ((rs' = s' ∧ re' = e') ∨ (rs' = 0 ∧ re' = 0)) → Wf2 s' e' ta tb → q ≤ s' → SI E st.stmts cond q →
      (st.next < st'.next → R E st.next → R E cond) → st'.stmts.Pairwise (Rel E)
  | .cases cs mb _ => ∀ (il : Bool) (p : Nat), okCasesC il cs = true → wfL p cs = true → SI E st.stmts mb p → SI E st'.stmts mb (posL p cs)
  | .handlers hs hbs _ => ∀ (il : Bool) (a q : Nat), okHsC il hs = true → wfL q hs = true →
      SI E st.stmts a q → (∀ hb ∈ hbs, R E hb → R E a) → (∀ hb ∈ hbs, R E a → R E hb) → SI E st'.stmts a (posL q hs)
  | .tryMid tryB _ _ _ _ body handlers => ∀ (il : Bool) (a q : Nat), okLC il body = true → okHsC il handlers = true →
      wfL q body = true → wfL (posL q body) handlers = true → SI E st.stmts a q →
      (R E tryB → R E a) → (a, tryB, ETy.normal) ∈ st.edges → (∀ h, st.next ≤ h → h < st.next + handlers.length → R E h → R E a) →
      SI E st'.stmts a (posL (posL q body) handlers)
  | .tryElse hasElse elseB _ orelse => ∀ (il : Bool) (a q : Nat), okLC il orelse = true → wfL q orelse = true → SI E st.stmts a q →
      (hasElse = true → R E elseB → R E a) → SI E st'.stmts a (posL q orelse)
  | .tryFin hasFin finB _ _ _ fin => ∀ (il : Bool) (a q : Nat), okLC il fin = true → wfL q fin = true → SI E st.stmts a q →
      (hasFin = true → R E finB → R E a) → SI E st'.stmts a (posL q fin)

abbrev RangedC (E : List Edge) (st st' : St) (c : Call) : Prop := Called E st st' c → Ranged E st st' c

theorem Chain.wf {l ta tb : List Stmt} {rs' re' q : Nat} (h : Chain l rs' re' ta tb) (hw : wfL q l = true) :
    ∃ s' e', ((rs' = s' ∧ re' = e') ∨ (rs' = 0 ∧ re' = 0)) ∧ posL q l = e' + 1 ∧ q ≤ s' ∧ Wf2 s' e' ta tb := by
  cases h
  case elifc s e =>
    rw [wfL_cons, wfL_nil, Bool.and_true, Bool.and_eq_true, decide_eq_true_eq, wfS_elifc] at hw
    exact ⟨s, e, .inr ⟨rfl, rfl⟩, rfl, hw.1, Wf2.of hw.2⟩
  case ite =>
    rw [wfL_cons, wfL_nil, Bool.and_true, Bool.and_eq_true, decide_eq_true_eq, wfS_ite] at hw
    exact ⟨rs', re', .inl ⟨rfl, rfl⟩, rfl, hw.1, Wf2.of hw.2⟩

/-- the head `s3` of an `if` / of a clause of the chain at `st` (test record in the block current at `st`, then-branch in the fresh block
`st.next`): `SI` at the end of the branch, once the fresh block is known to be reachable only if the current one is -/
structure Head (E : List Edge) (st s3 : St) (q : Nat) : Prop where
  post : (R E st.next → R E st.cur) → SI E s3.stmts st.cur q
  next_lt : st.next < s3.next

theorem Head.of {thn : List Stmt} {st s1 s3 : St} (hr : Run s1 (.list thn) s3) (ih : RangedC E s1 s3 (.list thn))
    (c1 : Called E s1 s3 (.list thn)) (il : Bool) {rs re s e p : Nat} (hn1 : st.next < s1.next)
    (hs1 : s1.stmts = { blk := st.cur, s := rs, e := re, ty := .other } :: st.stmts) (hc1 : s1.cur = st.next)
    (hok : okLC il thn = true) (hrs : (rs = s ∧ re = e) ∨ (rs = 0 ∧ re = 0)) (hw : Wf1 s e thn) (hp : p ≤ s)
    (hsi : SI E st.stmts st.cur p) : Head E st s3 (posL (s + 1) thn) := by
  refine ⟨fun hzt => ?_, Nat.lt_of_lt_of_le hn1 (c1.next_le hr)⟩
  have si1 : SI E s1.stmts st.cur (s + 1) := by rw [hs1]; exact testSI hsi hrs hp
  exact hr.si c1.wf hw.wa si1 (ih c1 il (s + 1) hok hw.wa (by rw [hc1]; exact si1.anchor hzt))

/-- the head of `procIf`: two fresh blocks, the then-branch in the first, the second is the merge block -/
theorem Head.ofIf {thn : List Stmt} {st s3 : St} {rs re : Nat} (hr : Run (ifPre st rs re) (.list thn) s3)
    (ih : RangedC E (ifPre st rs re) s3 (.list thn)) (c1 : Called E (ifPre st rs re) s3 (.list thn)) (il : Bool) {s e p : Nat}
    (hok : okLC il thn = true) (hrs : (rs = s ∧ re = e) ∨ (rs = 0 ∧ re = 0)) (hw : Wf1 s e thn) (hp : p ≤ s)
    (hsi : SI E st.stmts st.cur p) : Head E st s3 (posL (s + 1) thn) :=
  Head.of hr ih c1 il (Nat.lt_add_of_pos_right Nat.two_pos) rfl rfl hok hrs hw hp hsi

/-- the head of a clause of the chain: one fresh block for the then-branch -/
theorem Head.ofElif {thn : List Stmt} {st s3 : St} {rs re : Nat} (hr : Run (elifPre st rs re) (.list thn) s3)
    (ih : RangedC E (elifPre st rs re) s3 (.list thn)) (c1 : Called E (elifPre st rs re) s3 (.list thn)) (il : Bool) {s e p : Nat}
    (hok : okLC il thn = true) (hrs : (rs = s ∧ re = e) ∨ (rs = 0 ∧ re = 0)) (hw : Wf1 s e thn) (hp : p ≤ s)
    (hsi : SI E st.stmts st.cur p) : Head E st s3 (posL (s + 1) thn) :=
  Head.of hr ih c1 il (Nat.lt_succ_self _) rfl rfl hok hrs hw hp hsi

theorem Head.si {st s3 s5 : St} {q : Nat} (h : Head E st s3 q) (hl5 : s3.next ≤ s5.next)
    (hz : ∀ b, Own st.cur st.next b → b < s5.next → R E b → R E st.cur) : SI E s3.stmts st.cur q :=
  h.post (hz _ (.inr (Nat.le_refl _)) (Nat.lt_of_lt_of_le h.next_lt hl5))

/-- no `else` part: the false edge of the test and the end of the then-branch go to the merge block -/
theorem Head.nil {st s3 : St} {fm q : Nat} (h : Head E st s3 q)
    (hz : ∀ b, Own st.cur st.next b → b < (finishElif (s3.edge st.cur fm .condF) s3.cur fm).next → R E b → R E st.cur) :
    (finishElif (s3.edge st.cur fm .condF) s3.cur fm).stmts.Pairwise (Rel E) := by
  rw [finishElif_next, edge_next] at hz
  rw [finishElif_stmts, edge_stmts]
  exact (h.si (Nat.le_refl _) hz).pw

/-- a general `else` part after the head `s3`, processed in a fresh block up to `s5`; then a fresh block becomes current if both
branches terminate, or the branches are joined in the merge block (`join`) -/
theorem Head.elseEnd {orelse : List Stmt} {st s3 s5 join : St} {te q : Nat} (h : Head E st s3 q)
    (hr : Run (setCur ((bump s3).edge st.cur s3.next .condF) s3.next) (.list orelse) s5)
    (ih : RangedC E (setCur ((bump s3).edge st.cur s3.next .condF) s3.next) s5 (.list orelse))
    (c2 : Called E (setCur ((bump s3).edge st.cur s3.next .condF) s3.next) s5 (.list orelse)) (il : Bool)
    (hok : okLC il orelse = true) (hwo : wfL q orelse = true) (hn : join.next = s5.next) (hs : join.stmts = s5.stmts)
    (hz : ∀ b, Own st.cur st.next b → b < (elseJoin s5 te join).next → R E b → R E st.cur) :
    (elseJoin s5 te join).stmts.Pairwise (Rel E) := by
  have hn5 : s3.next + 1 ≤ s5.next := c2.next_le hr
  have key : (∀ b, Own st.cur st.next b → b < s5.next → R E b → R E st.cur) → s5.stmts.Pairwise (Rel E) := fun hz =>
    ih c2 il q hok hwo ((h.si (Nat.le_of_succ_le hn5) hz).anchor (hz _ (.inr (Nat.le_of_lt h.next_lt)) hn5))
  rcases elseJoin_cases s5 te join with hj | hj
  · rw [hj] at hz ⊢
    exact key fun b hb hlt => hz b hb (Nat.lt_succ_of_lt hlt)
  · rw [hj, hn] at hz
    rw [hj, hs]
    exact key hz

/-- The header record `s … e` goes to the fresh block `st.next`; the body runs from `pre` (`k` blocks allocated, `st.next + 1` current) to
`s2`.  Both blocks are reachable only if the block current at the start is.  `SI` at the end is anchored at the old current block (a
loop `else` needs it). -/
theorem hdr_body {body : List Stmt} {st pre s2 : St} {s e p k : Nat} (hr : Run pre (.list body) s2) (ih : RangedC E pre s2 (.list body))
    (hc : Called E pre s2 (.list body)) (il : Bool)
    (hst : pre.stmts = { blk := st.next, s := s, e := e, ty := .other } :: st.stmts) (hcur : pre.cur = st.next + 1)
    (hnx : pre.next = st.next + k) (hk : 2 ≤ k) (hen : (st.cur, st.next, ETy.normal) ∈ pre.edges) (hok : okLC il body = true)
    (hwb : wfL (s + 1) body = true) (hp : p ≤ s) (hsi : SI E st.stmts st.cur p)
    (hz : ∀ b, Own st.cur st.next b → b < s2.next → R E b → R E st.cur) : SI E s2.stmts st.cur (posL (s + 1) body) := by
  have hlt : ∀ m, m < k → st.next + m < s2.next := fun m hm =>
    Nat.lt_of_lt_of_le (Nat.add_lt_add_left hm _) (Nat.le_trans (Nat.le_of_eq hnx.symm) (hc.next_le hr))
  have hfw : R E st.cur → R E st.next := fun h => R.step h (hc.mem_start hr hen)
  have si1 : SI E pre.stmts st.cur (s + 1) := by
    rw [hst]
    exact hsi.cons (b := st.next) (e := e) (ty := .other) hp (hz _ (.inr (Nat.le_refl _)) (hlt 0 (Nat.lt_of_lt_of_le Nat.two_pos hk))) hfw
  exact hr.si hc.wf hwb si1 (ih hc il (s + 1) hok hwb (by rw [hcur]; exact si1.anchor (hz _ (.inr (Nat.le_succ _)) (hlt 1 hk))))

/-- one case clause: its header record in the fresh block `st.next`, entered from the subject's block `mb`, and its body -/
theorem case_si {b : List Stmt} {st s1 : St} {mb s e : Nat} (hr : Run (casePre st mb s e) (.list b) s1)
    (ih : RangedC E (casePre st mb s e) s1 (.list b)) (hc : Called E (casePre st mb s e) s1 (.list b)) (il : Bool) (p : Nat)
    (hok : okLC il b = true) (hps : p ≤ s) (hw : Wf1 s e b) (hsi : SI E st.stmts mb p) (hbw : R E st.next → R E mb) :
    SI E s1.stmts mb (e + 1) := by
  have hfw : R E mb → R E st.next := fun h => R.step h (hc.mem_start hr (e := (mb, st.next, .condT)) (by simp [casePre]))
  have si1 : SI E (casePre st mb s e).stmts mb (s + 1) := hsi.cons (b := st.next) (e := e) (ty := .other) hps hbw hfw
  exact (hr.si hc.wf hw.wa si1 (ih hc il (s + 1) hok hw.wa (si1.anchor (a' := st.next) hbw))).mono hw.q

theorem rq_run {st st' : St} {cl : Call} (h : Run st cl st') : RangedC E st st' cl := by
  induction h with
  | simple st s e c h =>
    intro hc il p hok hwf hp hsi
    simp only [Stmt.span] at hp
    have hf : Fut E st.next _ _ := hc.fut
    have hz := zoneR hc.conv (.simple st s e c h) (.inl rfl) hf
    cases h
    · exact pw_one e .other hsi hp
    · simp only [↓reduceIte] at hf hz ⊢
      exact comp_own_pw hc.wf hp hsi (fun x hx => hf.mem hx) hz
  | ret st s e c h =>
    intro hc il p hok hwf hp hsi
    have hf : Fut E st.next _ _ := hc.fut
    have hz := zoneR hc.conv (.ret st s e c h) (.inl rfl) hf
    simp only [Stmt.span] at hp
    rw [procRet_tail] at hf hz ⊢
    cases h
    · simp only [Bool.false_eq_true, ↓reduceIte]
      rw [(retTail_facts st s e).1]
      exact pw_one e .ret hsi hp
    · simp only [↓reduceIte] at hf hz ⊢
      obtain ⟨h1, -, h3, h4⟩ := retTail_facts (procComp st s e c) s e
      rw [h3] at hz
      rw [h1]
      exact comp_own_pw hc.wf hp hsi (fun x hx => hf.mem (h4 x hx)) (fun b b1 b2 => hz b b1 (Nat.lt_succ_of_lt b2))
  | brk st s e =>
    intro hc il p hok hwf hp hsi
    rw [(brk_facts st s e).1]
    exact pw_one e .brk hsi hp
  | cont st s e =>
    intro hc il p hok hwf hp hsi
    rw [(cont_facts st s e).1]
    exact pw_one e .cont hsi hp
  | raise st s e =>
    intro hc il p hok hwf hp hsi
    rw [(raise_facts st s e).1]
    exact pw_one e .raise hsi hp
  | def_ st s e b => intro hc il p hok hwf hp hsi; exact pw_one e .other hsi hp
  -- `except` and `case` clauses outside `try` / `match` are not in the fragment
  | handler st s e b =>
    intro hc il p hok
    rw [okSC_handler] at hok
    cases hok
  | case_ st s e b =>
    intro hc il p hok
    rw [okSC_case] at hok
    cases hok
  | @class_ st s e body s1 hr ih =>
    intro hc il p hok hwf hp hsi
    rw [okSC_class] at hok
    rw [wfS_class] at hwf
    obtain ⟨hse, hwb, _, hpe⟩ := Wf1.of hwf
    simp only [Stmt.span] at hp
    have c1 := hc.class_
    have hfw : R E st.cur → R E st.next := fun h =>
      R.step h (c1.mem_start hr (e := (st.cur, st.next, .normal)) (by simp [classPre]))
    have hbk : R E st.next → R E st.cur :=
      zoneR hc.conv (.class_ hr) (.inl rfl) hc.fut _ (.inr (Nat.le_refl _)) (Nat.lt_of_lt_of_le (Nat.lt_succ_self _) (c1.next_le hr))
    exact ih c1 false (s + 1) hok hwb ((hsi.cons (b := st.next) (e := e) (ty := .other) hp hbk hfw).anchor (a' := st.next) hbk)
  | @ite st s e a b s1 _ ih =>
    intro hc il p hok hwf hp hsi
    rw [okSC_ite, Bool.and_eq_true] at hok
    rw [wfS_ite] at hwf
    exact ih ⟨hc.wf, hc.fut⟩ il s e p hok.1 hok.2 (.inl ⟨rfl, rfl⟩) (Wf2.of hwf) hp hsi
  | @elifc st s e a b s1 _ ih =>
    intro hc il p hok hwf hp hsi
    rw [okSC_elifc, Bool.and_eq_true] at hok
    rw [wfS_elifc] at hwf
    exact ih ⟨hc.wf, hc.fut⟩ il s e p hok.1 hok.2 (.inr ⟨rfl, rfl⟩) (Wf2.of hwf) hp hsi
  | @elsec st s e b s1 _ ih =>
    intro hc il p hok hwf hp hsi
    rw [okSC_elsec] at hok
    rw [wfS_elsec] at hwf
    obtain ⟨_, hwb, _, hpe⟩ := Wf1.of hwf
    simp only [Stmt.span] at hp
    exact ih ⟨hc.wf, hc.fut⟩ il (s + 1) hok hwb (hsi.mono (Nat.le_succ_of_le hp))
  | @loop_nil st s e body s5 hr ih =>
    intro hc il p hok hwf hp hsi
    rw [okSC_loop, Bool.and_eq_true] at hok
    rw [wfS_loop] at hwf
    obtain ⟨hse, hwb, _, _, _, hpe⟩ := Wf2.of hwf
    simp only [Stmt.span] at hp
    have hz := zoneR hc.conv (.loop_nil hr) (.inl rfl) hc.fut
    simp only [setLoops_next, setCur_next, edgeUnlessExit_next] at hz
    simp only [setLoops_stmts, setCur_stmts, edgeUnlessExit_stmts]
    exact (hdr_body (k := 3) hr ih hc.loop_nil true rfl rfl rfl (by decide) (by simp [loopPre]) hok.1 hwb hp hsi hz).pw
  | @loop_cons st s e body o os s5 s8 hr hr2 ih1 ih2 =>
    intro hc il p hok hwf hp hsi
    rw [okSC_loop, Bool.and_eq_true] at hok
    rw [wfS_loop] at hwf
    obtain ⟨hse, hwb, hwo, hpg, hpo, hpe⟩ := Wf2.of hwf
    simp only [Stmt.span] at hp
    obtain ⟨c1, c2⟩ := hc.loop_cons hr hr2
    have hjn : st.next + 4 ≤ s5.next := c1.next_le hr
    have h8 : s5.next ≤ s8.next := Nat.le_trans (Nat.le_of_eq (loopElsePre_next st s5).symm) (c2.next_le hr2)
    have hz := zoneR hc.conv (.loop_cons hr hr2) (.inl rfl) hc.fut
    simp only [setLoops_next, setCur_next, edgeUnlessExit_next] at hz
    have si5 := hdr_body (k := 4) hr ih1 c1 true rfl rfl rfl (by decide) (by simp [loopPre]) hok.1 hwb hp hsi
      (fun b h1 h2 => hz b h1 (Nat.lt_of_lt_of_le h2 h8))
    -- the `else` part starts in the block `st.next + 3`, which is reachable only if the block current at the start is
    have si3 := si5.anchor (a' := st.next + 3)
      (hz _ (.inr (Nat.le_add_right _ 3)) (Nat.lt_of_lt_of_le (Nat.add_lt_add_left (by decide) _) (Nat.le_trans hjn h8)))
    simp only [setLoops_stmts, setCur_stmts, edgeUnlessExit_stmts]
    exact ih2 c2 il (posL (s + 1) body) hok.2 hwo (by rw [loopElsePre_stmts]; exact si3)
  | @with_ st s e body s2 hr ih =>
    intro hc il p hok hwf hp hsi
    rw [okSC_with] at hok
    rw [wfS_with] at hwf
    obtain ⟨hse, hwb, _, hpe⟩ := Wf1.of hwf
    simp only [Stmt.span] at hp
    have hz := zoneR hc.conv (.with_ hr) (.inl rfl) hc.fut
    simp only [setCur_next, edge_next, edgeUnlessExit_next] at hz
    simp only [setCur_stmts, edge_stmts, edgeUnlessExit_stmts]
    exact (hdr_body (k := 4) hr ih hc.with_ il rfl rfl rfl (by decide) (by simp [withPre]) hok hwb hp hsi hz).pw
  | match_nil st s e =>
    intro hc il p hok hwf hp hsi
    simp only [Stmt.span] at hp
    have hz := zoneR hc.conv (.match_nil st s e) (.inl rfl) hc.fut
    simp only [setCur_next, edge_next] at hz
    have hfw : R E st.cur → R E st.next := fun hr =>
      R.step hr (hc.mem_end (.match_nil st s e) (e := (st.cur, st.next, .normal)) (by simp [matchPre]))
    simp only [setCur_stmts, edge_stmts]
    exact (hsi.cons (b := st.next) (e := e) (ty := .other) hp (hz _ (.inr (Nat.le_refl _)) (Nat.lt_add_of_pos_right Nat.two_pos)) hfw).pw
  | @match_cons st s e c cs s2 hr ih =>
    intro hc il p hok hwf hp hsi
    rw [okSC_match] at hok
    rw [wfS_match] at hwf
    obtain ⟨hse, hwb, _, hpe⟩ := Wf1.of hwf
    simp only [Stmt.span] at hp
    have c1 := hc.match_cons
    have hjn : st.next + 2 ≤ s2.next := c1.next_le hr
    have hz := zoneR hc.conv (.match_cons hr) (.inl rfl) hc.fut
    simp only [setCur_next, edge_next] at hz
    have hfw : R E st.cur → R E st.next := fun h =>
      R.step h (c1.mem_start hr (e := (st.cur, st.next, .normal)) (by simp [matchPre]))
    have hbw : R E st.next → R E st.cur := hz _ (.inr (Nat.le_refl _)) (Nat.lt_of_lt_of_le (Nat.lt_add_of_pos_right Nat.two_pos) hjn)
    simp only [setCur_stmts, edge_stmts]
    exact (ih c1 il (s + 1) hok hwb ((hsi.cons (b := st.next) (e := e) (ty := .other) hp hbw hfw).anchor hbw)).pw
  | @try_ st s e body handlers orelse fin s3 finB elseB cfin nat ah s7 s8 s9 ha h7 h8 h9 ih7 ih8 ih9 =>
    intro hc il p hok hwf hp hsi
    rw [okSC_try] at hok
    simp only [Bool.and_eq_true] at hok
    obtain ⟨⟨⟨hoka, hokh⟩, hokc⟩, hokd⟩ := hok
    rw [wfS_try] at hwf
    simp only [Bool.and_eq_true, decide_eq_true_eq] at hwf
    obtain ⟨⟨⟨⟨⟨hse, hwa⟩, hwh⟩, hwc⟩, hwd⟩, hpe⟩ := hwf
    simp only [Stmt.span] at hp
    obtain ⟨c7, c8, c9⟩ := hc.try_ ha h7 h8 h9
    have hb := ha.allocated
    have h03 : st.next ≤ s3.next := Nat.le_of_lt (Nat.lt_of_succ_lt hb.next_le)
    have h37 : s3.next ≤ s7.next := c7.next_le h7
    have h39 : s3.next ≤ s9.next := Nat.le_trans h37 (Nat.le_trans (c8.next_le h8) (c9.next_le h9))
    have hz := zoneR hc.conv (.try_ ha h7 h8 h9) (.inl rfl) hc.fut
    simp only [setExcs_next, setCur_next] at hz
    have hzz : ∀ b, st.next ≤ b → b < s9.next → R E b → R E st.cur := fun b h1 h2 => hz b (.inr h1) h2
    have si0 : SI E s3.stmts st.cur (s + 1) := by rw [hb.stmts]; exact hsi.mono (Nat.le_succ_of_le hp)
    have si7 := ih7 c7 il st.cur (s + 1) hoka hokh hwa hwh si0
      (hzz st.next (Nat.le_refl _) (Nat.lt_of_lt_of_le (Nat.lt_of_succ_lt hb.next_le) h39))
      (by rw [hb.edges]; exact List.mem_cons_self ..)
      (fun h h1 h2 => hzz h (Nat.le_trans h03 h1) (Nat.lt_of_lt_of_le h2 (Nat.le_trans (c7.conv.tryMid_end h7).2
        (Nat.le_trans (c8.next_le h8) (c9.next_le h9)))))
    have above : ∀ x, st.next + 2 ≤ x → st.next ≤ x := fun x hx => Nat.le_trans (Nat.le_add_right _ 2) hx
    have si8 := ih8 c8 il st.cur _ hokc hwc si7 (fun h => hzz elseB (above _ (hb.els h).1) (Nat.lt_of_lt_of_le (hb.els h).2 h39))
    simp only [setExcs_stmts, setCur_stmts]
    exact (ih9 c9 il st.cur _ hokd hwd si8 (fun h => hzz finB (above _ (hb.fin h).1) (Nat.lt_of_lt_of_le (hb.fin h).2.1 h39))).pw
  | nil st => intro hc il p hok hwf hsi; exact hsi.pw
  | @cons st x xs s1 s2 h1 h2 ih1 ih2 =>
    intro hc il p hok hwf hsi
    rw [okLC_cons, Bool.and_eq_true] at hok
    rw [wfL_cons] at hwf
    simp only [Bool.and_eq_true, decide_eq_true_eq] at hwf
    obtain ⟨⟨hpx, hwx⟩, hwxs⟩ := hwf
    obtain ⟨c1, c2⟩ := hc.cons h1 h2
    have j1 := h1.frame st.cur st.next hc.wf (Nat.le_refl _) (Or.inl rfl)
    exact ih2 c2 il (x.span.2 + 1) hok.2 hwxs
      ((h1.siS hc.wf hwx hpx hsi (ih1 c1 il p hok.1 hwx hpx hsi)).anchor (zoneR c1.conv h1 (.inl rfl) c1.fut _ j1.own j1.wf.cur))
  | @if_nil st rs re thn s3 hr ih =>
    intro hc il s e p hokt hoke hrs hw hp hsi
    exact (Head.ofIf hr ih hc.if_nil il hokt hrs hw.wf1 hp hsi).nil (zoneR hc.conv (.if_nil hr) (.inl rfl) hc.fut)
  | @if_chain st rs re thn l ta tb rs' re' s3 s5 hch hr hr2 ih1 ih2 =>
    intro hc il s e p hokt hoke hrs hw hp hsi
    obtain ⟨c1, c2⟩ := hc.if_chain hr hr2
    have hd := Head.ofIf hr ih1 c1 il hokt hrs hw.wf1 hp hsi
    have hokab := hch.okLC hoke
    obtain ⟨s', e', hrs', -, hqs, hw'⟩ := hch.wf hw.wb
    have hz := zoneR hc.conv (.if_chain hch hr hr2) (.inl rfl) hc.fut
    exact ih2 c2 il s' e' (posL (s + 1) thn) hokab.1 hokab.2 hrs' hw' hqs (hd.si (c2.next_le hr2) hz)
      (hz _ (.inr (Nat.le_of_lt hd.next_lt)))
  | @if_else st rs re thn o os s3 s5 hne1 hne2 hr hr2 ih1 ih2 =>
    intro hc il s e p hokt hoke hrs hw hp hsi
    obtain ⟨c1, c2⟩ := hc.if_else hr hr2
    exact (Head.ofIf hr ih1 c1 il hokt hrs hw.wf1 hp hsi).elseEnd hr2 ih2 c2 il hoke hw.wb
      (by rw [setCur_next, edgeUnlessExit_next, edgeUnlessExit_next]) (by rw [setCur_stmts, edgeUnlessExit_stmts, edgeUnlessExit_stmts])
      (zoneR hc.conv (.if_else hne1 hne2 hr hr2) (.inl rfl) hc.fut)
  | @elifTail st cond te merge rs' re' ta tb s5 hr ih =>
    intro hc il s' e' q hoka hokb hrs' hw' hqs hsi hz
    have c1 := hc.elifTail
    rw [tailJoin_next] at hz
    rw [tailJoin_stmts]
    exact ih c1 il s' e' q hoka hokb hrs' hw' hqs (hsi.anchor (hz (c1.next_le hr)))
  | @elif_nil st rs re thn fm s3 hr ih =>
    intro hc il s e p hokt hoke hrs hw hp hsi
    exact (Head.ofElif hr ih hc.elif_nil il hokt hrs hw.wf1 hp hsi).nil (zoneR hc.conv (.elif_nil hr) (.inl rfl) hc.fut)
  | @elif_chain st rs re thn l ta tb fm rs' re' s3 s5 hch hr hr2 ih1 ih2 =>
    intro hc il s e p hokt hoke hrs hw hp hsi
    obtain ⟨c1, c2⟩ := hc.elif_chain hr hr2
    have hd := Head.ofElif hr ih1 c1 il hokt hrs hw.wf1 hp hsi
    have hokab := hch.okLC hoke
    obtain ⟨s', e', hrs', -, hqs, hw'⟩ := hch.wf hw.wb
    have hjn : s3.next + 1 ≤ s5.next := c2.next_le hr2
    have hz := zoneR hc.conv (.elif_chain hch hr hr2) (.inl rfl) hc.fut
    rw [finishElif_next] at hz
    rw [finishElif_stmts]
    exact ih2 c2 il s' e' (posL (s + 1) thn) hokab.1 hokab.2 hrs' hw' hqs
      ((hd.si (Nat.le_of_succ_le hjn) hz).anchor (hz _ (.inr (Nat.le_of_lt hd.next_lt)) hjn))
  | @elif_else st rs re thn fm o os s3 s5 hne1 hne2 hr hr2 ih1 ih2 =>
    intro hc il s e p hokt hoke hrs hw hp hsi
    obtain ⟨c1, c2⟩ := hc.elif_else hr hr2
    exact (Head.ofElif hr ih1 c1 il hokt hrs hw.wf1 hp hsi).elseEnd hr2 ih2 c2 il hoke hw.wb
      (by rw [finishElif_next, edgeUnlessExit_next]) (by rw [finishElif_stmts, edgeUnlessExit_stmts])
      (zoneR hc.conv (.elif_else hne1 hne2 hr hr2) (.inl rfl) hc.fut)
  | cases_nil st mb merge => intro _ il p _ _ hsi; exact hsi
  | @cases_case st s e b cs mb merge s1 s2 hr hr2 ih1 ih2 =>
    intro hc il p hok hwf hsi
    rw [okCasesC_case, Bool.and_eq_true] at hok
    rw [wfL_cons] at hwf
    simp only [Bool.and_eq_true, decide_eq_true_eq] at hwf
    simp only [Stmt.span] at hwf
    obtain ⟨⟨hps, hwc⟩, hwr⟩ := hwf
    rw [wfS_case] at hwc
    rw [posL_cons]
    simp only [Stmt.span]
    obtain ⟨c1, c2⟩ := hc.cases_case hr hr2
    have hjn : st.next + 1 ≤ s1.next := c1.next_le hr
    have si3 := case_si hr ih1 c1 il p hok.1 hps (Wf1.of hwc) hsi
      (zoneR hc.conv (.cases_case hr hr2) (.inl rfl) hc.fut _ (.inr (Nat.le_refl _))
        (Nat.lt_of_lt_of_le hjn (Nat.le_trans (Nat.le_of_eq (edgeUnlessExit_next ..).symm) (c2.next_le hr2))))
    exact ih2 c2 il (e + 1) hok.2 hwr (by rw [edgeUnlessExit_stmts]; exact si3)
  | @cases_other st x cs mb merge s1 s2 hne _ _ _ _ =>
    intro _ il p hok
    obtain ⟨s, e, b, rfl, _⟩ := okCasesC_cons hok
    exact absurd rfl (hne s e b)
  | handlers_nil_l st hbs after => intro _ il a q _ _ hsi _ _; exact hsi
  | handlers_nil_r st hs after => intro _ il a q _ hwf hsi _ _; exact hsi.mono (posL_ge hs q hwf)
  | @handlers_handler st s e b hs hb hbs after s1 s2 hr hr2 ih1 ih2 =>
    intro hc il a q hok hwf hsi hzb hfw
    rw [okHsC_handler, Bool.and_eq_true] at hok
    rw [wfL_cons] at hwf
    simp only [Bool.and_eq_true, decide_eq_true_eq] at hwf
    simp only [Stmt.span] at hwf
    obtain ⟨⟨hqs, hwc⟩, hwr⟩ := hwf
    rw [wfS_handler] at hwc
    obtain ⟨hse, hwb, _, hpe⟩ := Wf1.of hwc
    rw [posL_cons]
    simp only [Stmt.span]
    obtain ⟨c1, c2⟩ := hc.handlers_handler hr hr2
    have si1 : SI E (handlerPre st hb s e).stmts a (s + 1) :=
      hsi.cons (b := hb) (e := e) (ty := .other) hqs (hzb hb (List.mem_cons_self ..)) (hfw hb (List.mem_cons_self ..))
    have si3 : SI E s1.stmts a (e + 1) :=
      (hr.si c1.wf hwb si1 (ih1 c1 il (s + 1) hok.1 hwb (si1.anchor (a' := hb) (hzb hb (List.mem_cons_self ..))))).mono hpe
    exact ih2 c2 il a (e + 1) hok.2 hwr (by rw [edgeUnlessExit_stmts]; exact si3)
      (fun y hy => hzb y (List.mem_cons_of_mem _ hy)) (fun y hy => hfw y (List.mem_cons_of_mem _ hy))
  | @handlers_other st x hs hb hbs after s1 s2 hne _ _ _ _ =>
    intro _ il a q hok
    obtain ⟨s, e, b, rfl, _⟩ := okHsC_cons hok
    exact absurd rfl (hne s e b)
  | @tryMid s3 tryB cfin excs0 nat ah body handlers s5 s7 hr1 hr2 ih1 ih2 =>
    intro hc il a q hokb hokh hwb hwh hsi hzt hat hzb
    obtain ⟨c1, c2⟩ := hc.tryMid hr1 hr2
    have si5 : SI E s5.stmts a (posL q body) := hr1.si c1.wf hwb hsi (ih1 c1 il q hokb hwb (hsi.anchor hzt))
    have hat' : R E a → R E tryB := fun h => R.step h (hc.mem_start (.tryMid hr1 hr2) hat)
    exact ih2 c2 il a (posL q body) hokh hwh (by rw [foldl_edge_stmts, edgeUnlessExit_stmts]; exact si5)
      (fun y hy => hzb y (handlerIds_mem hy).1 (handlerIds_mem hy).2)
      (fun y hy h => R.step (hat' h) (c2.mem_start hr2 ((foldl_edge_mem tryB .exc _ _).2 y hy)))
  | tryElse_none s7 elseB ah orelse => intro _ il a q _ hw hsi _; exact hsi.mono (posL_ge orelse q hw)
  | @tryElse_some s7 elseB ah orelse s hr ih =>
    intro hc il a q hok hw hsi hz
    have c1 := hc.tryElse_some
    rw [edgeUnlessExit_stmts]
    exact hr.si c1.wf hw hsi (ih c1 il q hok hw (hsi.anchor (hz rfl)))
  | tryFin_none s8 finB exitBk ctx excs0 fin => intro _ il a q _ hw hsi _; exact hsi.mono (posL_ge fin q hw)
  | @tryFin_some s8 finB exitBk ctx excs0 fin s hr ih =>
    intro hc il a q hok hw hsi hz
    have c1 := hc.tryFin_some hr
    rw [finallyPropagation_stmts, edgeUnlessExit_stmts, setExcs_stmts]
    exact hr.si c1.wf hw hsi (ih c1 il q hok hw (hsi.anchor (hz rfl)))

end walk

theorem rq_all (E : List Edge) : (∀ x, RQS E x) ∧ (∀ ss, RQL E ss) :=
  ⟨fun x il st p w hok hf hwf hp hsi hgc => rpost_of_pw_stmt x st p w hwf hp hsi.pos hgc
      (rq_run ((run_all.1 x).stmt st) ⟨w, hf⟩ il p hok hwf hp hsi),
    fun ss il st p w hok hf hwf hsi hgc => rpost_of_pw ss st p w hwf hsi.pos hgc (rq_run ((run_all.2 ss).list st) ⟨w, hf⟩ il p hok hwf hsi)⟩

theorem rq_list (E : List Edge) (ss : List Stmt) : RQL E ss := (rq_all E).2 ss

section kinds
variable {E : List Edge}

theorem simple_rq (s e : Nat) (c : List Bool) (h : Bool) : RQS E (.simple s e c h) := (rq_all E).1 _
theorem def_rq (s e : Nat) (b : List Stmt) : RQS E (.def_ s e b) := (rq_all E).1 _
theorem ret_rq (s e : Nat) (c : List Bool) (h : Bool) : RQS E (.ret s e c h) := (rq_all E).1 _
theorem brk_rq (s e : Nat) : RQS E (.brk s e) := (rq_all E).1 _
theorem cont_rq (s e : Nat) : RQS E (.cont s e) := (rq_all E).1 _
theorem raise_rq (s e : Nat) : RQS E (.raise s e) := (rq_all E).1 _
theorem handler_rq (s e : Nat) (b : List Stmt) : RQS E (.handler s e b) := (rq_all E).1 _
theorem case_rq (s e : Nat) (b : List Stmt) : RQS E (.case_ s e b) := (rq_all E).1 _
theorem if_rq (thn orelse : List Stmt) (s e : Nat) : RQS E (.ite s e thn orelse) := (rq_all E).1 _
theorem elifc_rq (thn orelse : List Stmt) (s e : Nat) : RQS E (.elifc s e thn orelse) := (rq_all E).1 _
theorem try_rq (body handlers orelse fin : List Stmt) (s e : Nat) : RQS E (.try_ s e body handlers orelse fin) := (rq_all E).1 _

end kinds
end PV.CFGSound

#print axioms PV.CFGSound.simple_rq
#print axioms PV.CFGSound.def_rq
#print axioms PV.CFGSound.ret_rq
#print axioms PV.CFGSound.brk_rq
#print axioms PV.CFGSound.cont_rq
#print axioms PV.CFGSound.raise_rq
#print axioms PV.CFGSound.handler_rq
#print axioms PV.CFGSound.case_rq
#print axioms PV.CFGSound.if_rq
#print axioms PV.CFGSound.elifc_rq
#print axioms PV.CFGSound.try_rq
