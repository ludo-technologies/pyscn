import PV.Model.ZS
/-!
Prefix forests of a post-order numbered forest, and their link with the arrays of `PV.ZS.postL`.
Forests given to `nthL` / `preL` are in left-to-right order; the forests they return are REVERSED
(right-most tree first), as `PV.TED.ted` expects.
-/
namespace PV.ZSProof
open PV.TED PV.ZS

def label : Tree → Nat | .node a _ => a

theorem size_pos (t : Tree) : 0 < t.size := by cases t; simp [Tree.size]; omega

/-- subtree rooted at post-order position `k` of a (left-to-right) forest -/
def nthL : List Tree → Nat → Tree
  | [], _ => default
  | .node a cs :: ts, k =>
    if k < sizeL cs then nthL cs k
    else if k = sizeL cs then .node a cs
    else nthL ts (k - (sizeL cs + 1))
termination_by Fs => sizeL Fs
decreasing_by
  all_goals simp only [sizeL, Tree.size]
  all_goals omega

/-- REVERSED forest made of the first `k` post-order positions of a (left-to-right) forest -/
def preL : List Tree → Nat → List Tree
  | [], _ => []
  | .node a cs :: ts, k =>
    if k ≤ sizeL cs then preL cs k
    else preL ts (k - (sizeL cs + 1)) ++ [.node a cs]
termination_by Fs => sizeL Fs
decreasing_by
  all_goals simp only [sizeL, Tree.size]
  all_goals omega

theorem sizeL_node (a : Nat) (cs ts : List Tree) : sizeL (.node a cs :: ts) = sizeL cs + 1 + sizeL ts := by
  simp only [sizeL, Tree.size]; omega

/-- left-most leaf of position `x` of a forest: the first position of the subtree rooted at `x` -/
def lmlF (Fs : List Tree) (x : Nat) : Nat := x + 1 - (nthL Fs x).size

theorem lmlF_le (Fs : List Tree) (x : Nat) : lmlF Fs x ≤ x := by
  have := size_pos (nthL Fs x); unfold lmlF; omega

theorem nthL_lt {a cs ts k} (h : k < sizeL cs) : nthL (.node a cs :: ts) k = nthL cs k := by
  rw [nthL, if_pos h]
theorem nthL_eq {a cs ts} : nthL (.node a cs :: ts) (sizeL cs) = .node a cs := by
  rw [nthL, if_neg (Nat.lt_irrefl _), if_pos rfl]
theorem nthL_gt {a cs ts k} (h : sizeL cs < k) : nthL (.node a cs :: ts) k = nthL ts (k - (sizeL cs + 1)) := by
  rw [nthL, if_neg (by omega), if_neg (by omega)]
theorem preL_le {a cs ts k} (h : k ≤ sizeL cs) : preL (.node a cs :: ts) k = preL cs k := by
  rw [preL, if_pos h]
theorem preL_gt {a cs ts k} (h : sizeL cs < k) :
    preL (.node a cs :: ts) k = preL ts (k - (sizeL cs + 1)) ++ [.node a cs] := by
  rw [preL, if_neg (by omega)]

theorem preL_zero (Fs : List Tree) : preL Fs 0 = [] := by
  suffices h : ∀ k, k = 0 → preL Fs k = [] from h 0 rfl
  intro k
  induction Fs, k using preL.induct with
  | case1 => intro _; rw [preL]
  | case2 a cs ts k h ih => intro hk; rw [preL_le h]; exact ih hk
  | case3 a cs ts k h ih => intro hk; omega

theorem preL_full (Fs : List Tree) (k : Nat) (h : sizeL Fs ≤ k) : preL Fs k = Fs.reverse := by
  induction Fs, k using preL.induct with
  | case1 => rw [preL]; rfl
  | case2 a cs ts k h' ih => simp [sizeL, Tree.size] at h; omega
  | case3 a cs ts k h' ih =>
    rw [preL_gt (by omega), ih (by rw [sizeL_node] at h; omega)]; simp

/-- induction over the post-order positions of a forest, in the three ways a position can lie relative to the first tree
`node a cs`: inside it, at its root, or behind it (then written as an offset, so that no truncated subtraction appears) -/
theorem pos_induction {P : List Tree → Nat → Prop} (nil : ∀ k, P [] k)
    (inside : ∀ a cs ts k, k < sizeL cs → P cs k → P (.node a cs :: ts) k)
    (root : ∀ a cs ts, P (.node a cs :: ts) (sizeL cs))
    (behind : ∀ a cs ts k, P ts k → P (.node a cs :: ts) (sizeL cs + 1 + k))
    (Fs : List Tree) (k : Nat) : P Fs k := by
  induction Fs, k using nthL.induct with
  | case1 => exact nil _
  | case2 a cs ts k h' ih => exact inside a cs ts k h' ih
  | case3 a cs ts _ => exact root a cs ts
  | case4 a cs ts k h1 h2 ih =>
    obtain ⟨k', rfl⟩ : ∃ k', k = sizeL cs + 1 + k' := ⟨k - (sizeL cs + 1), by omega⟩
    rw [Nat.add_sub_cancel_left] at ih
    exact behind a cs ts k' ih

theorem lt_of_behind {a cs ts k} (h : sizeL cs + 1 + k < sizeL (.node a cs :: ts)) : k < sizeL ts := by
  rw [sizeL_node] at h; omega

theorem nthL_behind {a cs ts k} : nthL (.node a cs :: ts) (sizeL cs + 1 + k) = nthL ts k := by
  rw [nthL_gt (by omega), Nat.add_sub_cancel_left]

theorem preL_behind {a cs ts k} : preL (.node a cs :: ts) (sizeL cs + 1 + k) = preL ts k ++ [.node a cs] := by
  rw [preL_gt (Nat.lt_add_right k (Nat.lt_succ_self _)), Nat.add_sub_cancel_left]

theorem size_node (a : Nat) (cs : List Tree) : (Tree.node a cs).size = sizeL cs + 1 := by
  rw [Tree.size, Nat.add_comm]

/-- the first position of a subtree of size `s` rooted at `k`, seen from in front of an offset `c` -/
theorem behind_sub {c k s : Nat} (hs : s ≤ k + 1) : c + k + 1 - s = c + (k + 1 - s) := by
  rw [Nat.add_assoc, Nat.add_sub_assoc hs]

theorem nthL_size_le (Fs : List Tree) (k : Nat) (h : k < sizeL Fs) : (nthL Fs k).size ≤ k + 1 := by
  induction Fs, k using pos_induction with
  | nil => simp [sizeL] at h
  | inside a cs ts k h' ih => rw [nthL_lt h']; exact ih h'
  | root a cs ts => rw [nthL_eq, size_node]; exact Nat.le_refl _
  | behind a cs ts k ih => rw [nthL_behind]; exact Nat.le_trans (ih (lt_of_behind h)) (Nat.succ_le_succ (Nat.le_add_left _ _))

/-- the right-most root of the prefix forest of `k+1` positions is node `k`; removing its whole
subtree leaves the prefix that stops just before the left-most leaf of `k` -/
theorem preL_succ (Fs : List Tree) (k : Nat) (h : k < sizeL Fs) :
    preL Fs (k + 1) = nthL Fs k :: preL Fs (k + 1 - (nthL Fs k).size) := by
  induction Fs, k using pos_induction with
  | nil => simp [sizeL] at h
  | inside a cs ts k h' ih =>
    rw [nthL_lt h', preL_le (Nat.succ_le_of_lt h'), preL_le (Nat.le_trans (Nat.sub_le _ _) h')]; exact ih h'
  | root a cs ts =>
    rw [nthL_eq, preL_gt (Nat.lt_succ_self _), Nat.sub_self, size_node, Nat.sub_self, preL_zero, preL_zero,
      List.nil_append]
  | behind a cs ts k ih =>
    have hk := lt_of_behind h
    have hs := nthL_size_le ts k hk
    rw [nthL_behind, behind_sub hs, Nat.add_assoc (sizeL cs + 1) k 1, preL_behind, preL_behind, ih hk,
      List.cons_append]

/-- removing only the root `k` of the prefix of `k+1` positions leaves the prefix of `k` positions -/
theorem preL_children (Fs : List Tree) (k : Nat) (h : k < sizeL Fs) (a : Nat) (as : List Tree)
    (hn : nthL Fs k = .node a as) :
    as.reverse ++ preL Fs (k + 1 - (Tree.node a as).size) = preL Fs k := by
  induction Fs, k using pos_induction with
  | nil => simp [sizeL] at h
  | inside b cs ts k h' ih =>
    rw [nthL_lt h'] at hn
    rw [preL_le (Nat.le_trans (Nat.sub_le _ _) h'), preL_le (Nat.le_of_lt h')]; exact ih h' hn
  | root b cs ts =>
    rw [nthL_eq] at hn
    injection hn with h1 h2
    subst h1 h2
    rw [preL_le (Nat.le_refl _), preL_full cs _ (Nat.le_refl _), size_node, Nat.sub_self, preL_zero,
      List.append_nil]
  | behind b cs ts k ih =>
    have hk := lt_of_behind h
    rw [nthL_behind] at hn
    have hs := nthL_size_le ts k hk
    rw [hn] at hs
    rw [behind_sub hs, preL_behind, preL_behind, ← ih hk hn, List.append_assoc]

/-- the subtree at a position inside the subtree of `k` is found inside that subtree -/
theorem nthL_nthL (Fs : List Tree) (k : Nat) (h : k < sizeL Fs) (x : Nat)
    (hx1 : k + 1 - (nthL Fs k).size ≤ x) (hx2 : x ≤ k) :
    nthL Fs x = nthL [nthL Fs k] (x - (k + 1 - (nthL Fs k).size)) := by
  induction Fs, k using pos_induction generalizing x with
  | nil => simp [sizeL] at h
  | inside b cs ts k h' ih =>
    rw [nthL_lt h'] at hx1 ⊢
    rw [nthL_lt (Nat.lt_of_le_of_lt hx2 h')]
    exact ih h' x hx1 hx2
  | root b cs ts =>
    rw [nthL_eq, size_node, Nat.sub_self, Nat.sub_zero]
    by_cases hx : x < sizeL cs
    · rw [nthL_lt hx, nthL_lt hx]
    · have : x = sizeL cs := Nat.le_antisymm hx2 (Nat.le_of_not_lt hx)
      subst this
      rw [nthL_eq, nthL_eq]
  | behind b cs ts k ih =>
    have hk := lt_of_behind h
    rw [nthL_behind, behind_sub (nthL_size_le ts k hk)] at hx1 ⊢
    obtain ⟨x', rfl⟩ := Nat.exists_eq_add_of_le (Nat.le_trans (Nat.le_add_right _ _) hx1)
    rw [nthL_behind, Nat.add_sub_add_left]
    exact ih hk x' (Nat.le_of_add_le_add_left hx1) (Nat.le_of_add_le_add_left hx2)


/-- the recursor of the nested type, for forests -/
theorem forest_ind (P : List Tree → Prop) (nil : P [])
    (cons : ∀ a cs ts, P cs → P ts → P (.node a cs :: ts)) (Fs : List Tree) : P Fs :=
  Tree.rec_1 (motive_1 := fun t => ∀ ts, P ts → P (t :: ts)) (motive_2 := P)
    (fun a cs ih ts hts => cons a cs ts ih hts) nil (fun _ ts iht ihts => iht ts ihts) Fs

theorem postL_cons (off a cs ts) :
    postL off (.node a cs :: ts) = postL off cs ++ [(a, off)] ++ postL (off + (1 + sizeL cs)) ts := by
  simp [postL, postT, Tree.size]

theorem postL_length (Fs : List Tree) : ∀ off, (postL off Fs).length = sizeL Fs := by
  induction Fs using forest_ind with
  | nil => intro off; simp [postL, sizeL]
  | cons a cs ts ih1 ih2 =>
    intro off
    rw [postL_cons]; simp [ih1, ih2, sizeL, Tree.size]; omega

theorem postL_get (Fs : List Tree) (k : Nat) (h : k < sizeL Fs) (off : Nat) :
    (postL off Fs)[k]? = some (label (nthL Fs k), off + (k + 1 - (nthL Fs k).size)) := by
  induction Fs, k using pos_induction generalizing off with
  | nil => simp [sizeL] at h
  | inside a cs ts k h' ih =>
    rw [postL_cons, nthL_lt h', List.append_assoc, List.getElem?_append_left (by rw [postL_length]; exact h')]
    exact ih h' off
  | root a cs ts =>
    rw [postL_cons, nthL_eq, List.append_assoc, List.getElem?_append_right (Nat.le_of_eq (postL_length cs off)),
      postL_length, Nat.sub_self, size_node, Nat.sub_self]
    rfl
  | behind a cs ts k ih =>
    have hk := lt_of_behind h
    have hs := nthL_size_le ts k hk
    rw [postL_cons, nthL_behind, List.getElem?_append_right (by simp [postL_length])]
    simp only [List.length_append, postL_length, List.length_singleton]
    rw [Nat.add_sub_cancel_left, ih hk, behind_sub hs, Nat.add_assoc off, Nat.add_comm 1]

end PV.ZSProof
