import PV.Proofs.ListLemmas
/-!
The canonical listing of a partition of `0 … n-1`: for a Boolean relation `r` that is an equivalence below `n`, the class of `u` is the
increasing list of the `v < n` with `r u v`, and the classes are listed at their smallest members, i.e. in the order of these.
`PV.SCC.classesOf` is this list for mutual reachability (by `rfl`), `PV.UF.components` is this list for "same root"
(`PV.UF.components_eq_classes`); two relations that agree below `n` give the same list (`classes_congr`).
-/
namespace PV.Classes

/-- the class of `u`, increasing -/
def cls (n : Nat) (r : Nat → Nat → Bool) (u : Nat) : List Nat := (List.range n).filter (r u)

/-- the vertices that are the smallest member of their class -/
def reps (n : Nat) (r : Nat → Nat → Bool) : List Nat := (List.range n).filter (fun u => (cls n r u).head? == some u)

/-- all classes, each listed at its smallest member -/
def classes (n : Nat) (r : Nat → Nat → Bool) : List (List Nat) := (reps n r).map (cls n r)

/-- `r` is an equivalence relation on `0 … n-1` -/
structure EquivOn (n : Nat) (r : Nat → Nat → Bool) : Prop where
  refl : ∀ u, u < n → r u u = true
  symm : ∀ u v, u < n → v < n → r u v = true → r v u = true
  trans : ∀ u v w, u < n → v < n → w < n → r u v = true → r v w = true → r u w = true

/-- "same value of `f`" -/
theorem EquivOn.of_key (n : Nat) (f : Nat → Nat) : EquivOn n (fun u v => f u == f v) :=
  ⟨fun _ _ => beq_self_eq_true _, fun _ _ _ _ h => by rw [beq_iff_eq] at h ⊢; exact h.symm,
    fun _ _ _ _ _ _ h₁ h₂ => by rw [beq_iff_eq] at h₁ h₂ ⊢; exact h₁.trans h₂⟩

section
variable {n : Nat} {r : Nat → Nat → Bool}

theorem mem_cls {u v : Nat} : v ∈ cls n r u ↔ v < n ∧ r u v = true := by
  unfold cls; rw [List.mem_filter, List.mem_range]

theorem cls_sorted (n : Nat) (r : Nat → Nat → Bool) (u : Nat) : (cls n r u).Pairwise (· < ·) :=
  List.Pairwise.filter _ List.pairwise_lt_range

theorem cls_nodup (n : Nat) (r : Nat → Nat → Bool) (u : Nat) : (cls n r u).Nodup := List.Nodup.filter _ List.nodup_range

theorem mem_reps {u : Nat} : u ∈ reps n r ↔ u < n ∧ (cls n r u).head? = some u := by
  unfold reps; rw [List.mem_filter, List.mem_range, beq_iff_eq]

theorem mem_classes {c : List Nat} : c ∈ classes n r ↔ ∃ u, u < n ∧ c = cls n r u ∧ c.head? = some u := by
  unfold classes reps
  simp only [List.mem_map, List.mem_filter, List.mem_range, beq_iff_eq]
  constructor
  · rintro ⟨u, ⟨hu, hh⟩, rfl⟩; exact ⟨u, hu, rfl, hh⟩
  · rintro ⟨u, hu, rfl, hh⟩; exact ⟨u, ⟨hu, hh⟩, rfl⟩

/-- relations that agree below `n` list the same classes -/
theorem classes_congr {r' : Nat → Nat → Bool} (h : ∀ u v, u < n → v < n → r u v = r' u v) : classes n r = classes n r' := by
  have hc : ∀ u, u < n → cls n r u = cls n r' u := fun u hu =>
    List.filter_congr fun v hv => h u v hu (List.mem_range.mp hv)
  unfold classes reps
  rw [List.filter_congr (q := fun u => (cls n r' u).head? == some u) fun u hu => by rw [hc u (List.mem_range.mp hu)]]
  exact List.map_congr_left fun u hu => hc u (List.mem_range.mp (List.mem_filter.mp hu).1)

variable (E : EquivOn n r)
include E

theorem self_mem_cls {u : Nat} (hu : u < n) : u ∈ cls n r u := mem_cls.mpr ⟨hu, E.refl u hu⟩

/-- related vertices have the same class, as lists -/
theorem cls_congr {u v : Nat} (hu : u < n) (hv : v < n) (h : r u v = true) : cls n r u = cls n r v :=
  List.filter_congr fun x hx => by
    have hx' := List.mem_range.mp hx
    rw [Bool.eq_iff_iff]
    exact ⟨fun h' => E.trans v u x hv hu hx' (E.symm u v hu hv h) h', fun h' => E.trans u v x hu hv hx' h h'⟩

/-- the class of any vertex is listed (at its smallest member) -/
theorem cls_mem_classes {u : Nat} (hu : u < n) : cls n r u ∈ classes n r := by
  have hu' := self_mem_cls E hu
  match hc : cls n r u with
  | [] => rw [hc] at hu'; cases hu'
  | m :: rest =>
    obtain ⟨hm, hum⟩ := mem_cls.mp (hc ▸ List.mem_cons_self : m ∈ cls n r u)
    exact mem_classes.mpr ⟨m, hm, by rw [← hc, cls_congr E hu hm hum], rfl⟩

/-- two vertices are in a common class iff they are related -/
theorem classes_spec {u v : Nat} (hu : u < n) (hv : v < n) : (∃ c ∈ classes n r, u ∈ c ∧ v ∈ c) ↔ r u v = true := by
  constructor
  · rintro ⟨c, hc, huc, hvc⟩
    obtain ⟨w, hw, rfl, _⟩ := mem_classes.mp hc
    exact E.trans u w v hu hw hv (E.symm w u hw hu (mem_cls.mp huc).2) (mem_cls.mp hvc).2
  · intro h
    exact ⟨_, cls_mem_classes E hu, self_mem_cls E hu, mem_cls.mpr ⟨hv, h⟩⟩

/-- a listed class is the class of each of its members -/
theorem eq_cls_of_mem {c : List Nat} (hc : c ∈ classes n r) {u : Nat} (hu : u ∈ c) : u < n ∧ c = cls n r u := by
  obtain ⟨w, hw, rfl, _⟩ := mem_classes.mp hc
  obtain ⟨hun, hwu⟩ := mem_cls.mp hu
  exact ⟨hun, cls_congr E hw hun hwu⟩

omit E in
theorem classes_ne_nil {c : List Nat} (hc : c ∈ classes n r) : c ≠ [] := by
  obtain ⟨w, _, _, hh⟩ := mem_classes.mp hc
  intro e; rw [e] at hh; cases hh

/-- classes that share a member are the same list -/
theorem classes_disjoint {c₁ c₂ : List Nat} (h₁ : c₁ ∈ classes n r) (h₂ : c₂ ∈ classes n r) {x : Nat} (hx₁ : x ∈ c₁)
    (hx₂ : x ∈ c₂) : c₁ = c₂ :=
  (eq_cls_of_mem E h₁ hx₁).2.trans (eq_cls_of_mem E h₂ hx₂).2.symm

omit E in
theorem classes_nodup (n : Nat) (r : Nat → Nat → Bool) : (classes n r).Nodup := by
  unfold classes reps
  refine List.Nodup.map_on ?_ (List.Nodup.filter _ List.nodup_range)
  intro a ha b hb hab
  have ha' := (List.mem_filter.mp ha).2
  have hb' := (List.mem_filter.mp hb).2
  rw [beq_iff_eq] at ha' hb'
  rw [hab, hb'] at ha'
  exact (Option.some.inj ha').symm

omit E in
/-- the classes are ordered by their first members -/
theorem classes_heads (n : Nat) (r : Nat → Nat → Bool) :
    (classes n r).Pairwise fun c d => ∀ x ∈ c.head?, ∀ y ∈ d.head?, x < y := by
  unfold classes reps
  rw [List.pairwise_map]
  refine (List.Pairwise.filter _ List.pairwise_lt_range).imp_of_mem ?_
  intro a b ha hb hab x hx y hy
  rw [beq_iff_eq.mp (List.mem_filter.mp ha).2] at hx
  rw [beq_iff_eq.mp (List.mem_filter.mp hb).2] at hy
  cases hx; cases hy; exact hab

/-- together the classes list every vertex once -/
theorem classes_flatten_perm : (classes n r).flatten.Perm (List.range n) := by
  refine (List.perm_ext_iff_of_nodup ?_ List.nodup_range).mpr fun x => ?_
  · rw [List.nodup_flatten]
    refine ⟨fun c hc => ?_, (classes_nodup n r).pairwise_of_forall_ne fun c₁ h₁ c₂ h₂ hne x hx₁ hx₂ =>
      hne (classes_disjoint E h₁ h₂ hx₁ hx₂)⟩
    obtain ⟨w, _, rfl, _⟩ := mem_classes.mp hc
    exact cls_nodup n r w
  · rw [List.mem_flatten, List.mem_range]
    exact ⟨fun ⟨c, hc, hx⟩ => (eq_cls_of_mem E hc hx).1, fun hx => ⟨_, cls_mem_classes E hx, self_mem_cls E hx⟩⟩

/-- two different representatives are unrelated -/
theorem reps_unrelated : (reps n r).Pairwise fun a b => ¬ r a b = true := by
  refine (List.Pairwise.filter _ List.pairwise_lt_range).imp_of_mem ?_
  intro a b ha hb hab h
  obtain ⟨han, hha⟩ := mem_reps.mp ha
  obtain ⟨hbn, hhb⟩ := mem_reps.mp hb
  rw [cls_congr E han hbn h, hhb] at hha
  exact Nat.ne_of_lt hab (Option.some.inj hha).symm

end

/-! ### one more vertex -/

section
variable {n : Nat} {r : Nat → Nat → Bool}

theorem cls_succ (u : Nat) : cls (n + 1) r u = cls n r u ++ (if r u n = true then [n] else []) := by
  unfold cls
  rw [List.range_succ, List.filter_append, List.filter_singleton, Bool.cond_eq_ite]

variable (E : EquivOn (n + 1) r)
include E

theorem EquivOn.pred : EquivOn n r :=
  ⟨fun u hu => E.refl u (Nat.lt_succ_of_lt hu), fun u v hu hv => E.symm u v (Nat.lt_succ_of_lt hu) (Nat.lt_succ_of_lt hv),
    fun u v w hu hv hw => E.trans u v w (Nat.lt_succ_of_lt hu) (Nat.lt_succ_of_lt hv) (Nat.lt_succ_of_lt hw)⟩

/-- the new vertex joins an existing class iff it is related to a smaller vertex -/
theorem exists_rep_iff : (∃ u ∈ reps n r, r u n = true) ↔ cls n r n ≠ [] := by
  constructor
  · rintro ⟨u, hu, h⟩ e
    have : u ∈ cls n r n := mem_cls.mpr ⟨(mem_reps.mp hu).1, E.symm u n (Nat.lt_succ_of_lt (mem_reps.mp hu).1) (Nat.lt_succ_self n) h⟩
    rw [e] at this; cases this
  · intro hne
    match hc : cls n r n, hne with
    | m :: rest, _ =>
      obtain ⟨hm, hnm⟩ := mem_cls.mp (hc ▸ List.mem_cons_self : m ∈ cls n r n)
      have hmn := E.symm n m (Nat.lt_succ_self n) (Nat.lt_succ_of_lt hm) hnm
      refine ⟨m, mem_reps.mpr ⟨hm, ?_⟩, hmn⟩
      have : cls n r m = cls n r n := List.filter_congr fun x hx => by
        have hx' := Nat.lt_succ_of_lt (List.mem_range.mp hx)
        rw [Bool.eq_iff_iff]
        exact ⟨E.trans n m x (Nat.lt_succ_self n) (Nat.lt_succ_of_lt hm) hx' hnm,
          E.trans m n x (Nat.lt_succ_of_lt hm) (Nat.lt_succ_self n) hx' hmn⟩
      rw [this, hc]; rfl

theorem reps_succ : reps (n + 1) r = reps n r ++ (if cls n r n = [] then [n] else []) := by
  unfold reps
  rw [List.range_succ, List.filter_append, List.filter_singleton]
  congr 1
  · refine List.filter_congr fun u hu => ?_
    have hne : cls n r u ≠ [] := List.ne_nil_of_mem (self_mem_cls E.pred (List.mem_range.mp hu))
    rw [cls_succ, List.head?_append_of_ne_nil _ hne]
  · rw [cls_succ, if_pos (E.refl n (Nat.lt_succ_self n))]
    cases hc : cls n r n with
    | nil => simp
    | cons m rest =>
      have : m < n := (mem_cls.mp (hc ▸ List.mem_cons_self : m ∈ cls n r n)).1
      simp [beq_eq_false_iff_ne.mpr (Nat.ne_of_lt this)]

end

end PV.Classes
