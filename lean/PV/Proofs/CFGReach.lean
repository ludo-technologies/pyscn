import PV.Model.CFG
/-!
Reachability in the edge list of the CFG mirror, as an inductive relation (`R`).  That the executable breadth-first search
`PV.CFG.reachable`, which the mirror (and the driver) actually run, computes it is in `ReachComplete`.
-/
namespace PV.CFGSound
open PV.CFG

abbrev Edge := Nat × Nat × ETy

/-- block `b` is reachable from ENTRY (block 0) along edges of `E` -/
inductive R (E : List Edge) : Nat → Prop
  | entry : R E 0
  | step {a b : Nat} {t : ETy} : R E a → (a, b, t) ∈ E → R E b

theorem R.mono {E E' : List Edge} (h : ∀ e ∈ E, e ∈ E') {b : Nat} (r : R E b) : R E' b := by
  induction r with
  | entry => exact .entry
  | step _ he ih => exact .step ih (h _ he)

end PV.CFGSound
