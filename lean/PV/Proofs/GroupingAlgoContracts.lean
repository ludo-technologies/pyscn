import PV.Proofs.GroupingAlgoKCore
import Mathlib.Data.List.Perm.Subperm
/-!
The MIRRORS of the star/medoid, complete-linkage and centroid grouping (`PV/Model/GroupingAlgo.lean`) emit, for every
input (star and complete linkage: for a positive threshold), groups that pass the checkers of `PV/Model/Grouping.lean` (whose soundness is `C10_*_sound`).
-/
namespace PV.GroupingAlgo
open PV.Grouping PV.SCC PV.C10

theorem linked_of_pair {θ : Nat} {ps : List Pair} {a b : Nat} {p : Pair} (hp : p ∈ ps) (hk : sameKey p a b = true)
    (hθ : θ ≤ p.sim) : linked θ ps a b = true := by
  unfold sameKey at hk
  simp only [Bool.or_eq_true, Bool.and_eq_true, beq_iff_eq] at hk
  exact linked_iff.mpr ⟨p, hp, hk, hθ⟩

theorem simMax_some {ps : List Pair} {a b m : Nat} (h : simMax ps a b = some m) :
    ∃ p ∈ ps, sameKey p a b = true ∧ p.sim = m := by
  unfold simMax at h
  refine List.foldlRecOn (motive := fun acc => ∀ m, acc = some m → ∃ p ∈ ps, sameKey p a b = true ∧ p.sim = m)
    ps _ (b := none) (fun _ h => nomatch h) ?_ m h
  intro acc hacc p hp m' hm'
  by_cases hk : sameKey p a b = true
  · rw [if_pos hk] at hm'
    cases acc with
    | none => exact ⟨p, hp, hk, Option.some.inj hm'⟩
    | some old =>
      dsimp only at hm'
      split at hm'
      · exact ⟨p, hp, hk, Option.some.inj hm'⟩
      · exact hacc m' hm'
  · rw [if_neg hk] at hm'
    exact hacc m' hm'

theorem linked_of_simOr0 {θ : Nat} {ps : List Pair} {a b : Nat} (hθ : 0 < θ) (h : θ ≤ simOr0 ps a b) :
    linked θ ps a b = true := by
  unfold simOr0 at h
  cases hm : simMax ps a b with
  | none => rw [hm] at h; simp at h; omega
  | some m =>
    rw [hm] at h
    simp only [Option.getD_some] at h
    obtain ⟨p, hp, hk, hs⟩ := simMax_some hm
    exact linked_of_pair hp hk (by omega)

theorem simLast_some {ps : List Pair} {a b m : Nat} (h : simLast ps a b = some m) :
    ∃ p ∈ ps, sameKey p a b = true ∧ p.sim = m := by
  unfold simLast at h
  refine List.foldlRecOn (motive := fun acc => ∀ m, acc = some m → ∃ p ∈ ps, sameKey p a b = true ∧ p.sim = m)
    ps _ (b := none) (fun _ h => nomatch h) ?_ m h
  intro acc hacc p hp m' hm'
  by_cases hk : sameKey p a b = true
  · rw [if_pos hk] at hm'
    exact ⟨p, hp, hk, Option.some.inj hm'⟩
  · rw [if_neg hk] at hm'
    exact hacc m' hm'

theorem linked_of_centroidLink {θ : Nat} {ps : List Pair} {a b : Nat} (h : centroidLink θ ps a b = true) :
    linked θ ps a b = true := by
  unfold centroidLink at h
  split at h
  · next s hs =>
    obtain ⟨p, hp, hk, hs'⟩ := simLast_some hs
    exact linked_of_pair hp hk (by simp at h; omega)
  · cases h

theorem subperm_nodup {l₁ l₂ : List Nat} (h : l₁.Subperm l₂) (hnd : l₂.Nodup) : l₁.Nodup := by
  obtain ⟨l, hp, hs⟩ := h
  exact hp.nodup_iff.mp (hs.nodup hnd)

theorem filterMap_flatten_subperm (F : List Nat → Option (List Nat)) (hF : ∀ c g, F c = some g → g.Subperm c) :
    ∀ cs : List (List Nat), ((cs.filterMap F).flatten).Subperm cs.flatten
  | [] => by simp
  | c :: cs => by
    have ih := filterMap_flatten_subperm F hF cs
    rw [List.filterMap_cons]
    cases hc : F c with
    | none =>
      simp only [List.flatten_cons]
      exact ih.trans (List.sublist_append_right _ _).subperm
    | some g =>
      simp only [List.flatten_cons]
      exact (hF c g hc).append ih

theorem sortNat_perm (l : List Nat) : (sortNat l).Perm l :=
  PV.ListLemmas.sort_perm (ins := insertNat) (srt := sortNat) (fun _ => rfl) (fun _ _ _ => rfl) rfl (fun _ _ => rfl) l

theorem sortNat_sorted (l : List Nat) : (sortNat l).Pairwise (· ≤ ·) :=
  PV.ListLemmas.sort_sorted (ins := insertNat) (srt := sortNat) (fun _ => rfl) (fun _ _ _ => rfl) rfl (fun _ _ => rfl) l

/-- **groups selected from a partition of the fragments**: when every cluster yields at most one group, a rearranged part
of it with ≥ 2 members and the property `P`, then every group has `P` and the groups pass `checkCommon` -/
theorem selected_of_partition {ps : List Pair} {P : List Nat → Prop} (F : List Nat → Option (List Nat))
    (hF : ∀ c g, F c = some g → (g.Subperm c ∧ 2 ≤ g.length) ∧ P g) {cs : List (List Nat)}
    (hperm : cs.flatten.Perm (nodesOf ps)) : (∀ g ∈ cs.filterMap F, P g) ∧ checkCommon (cs.filterMap F) = true := by
  have hsel : ∀ g ∈ cs.filterMap F, 2 ≤ g.length ∧ P g := by
    intro g hg
    obtain ⟨c, _, hc⟩ := List.mem_filterMap.mp hg
    exact ⟨(hF c g hc).1.2, (hF c g hc).2⟩
  exact ⟨fun g hg => (hsel g hg).2, checkCommon_iff.mpr ⟨fun g hg => (hsel g hg).1,
    subperm_nodup (filterMap_flatten_subperm F (fun c g h => (hF c g h).1.1) cs) (hperm.nodup_iff.mpr (nodup_nodesOf ps))⟩⟩

theorem labelPassS_fst (fuel : Nat) : ∀ (vs : List Nat) (s : PV.UF.State), (labelPassS fuel s vs).2.map (·.1) = vs
  | [], _ => rfl
  | v :: vs, s => by
    unfold labelPassS
    simp only [List.map_cons, List.cons.injEq, true_and]
    exact labelPassS_fst fuel vs _

/-- `buildClusters` returns a partition of the fragments, whatever the union–find state -/
theorem buildClusters_perm (fuel : Nat) (s : PV.UF.State) (fr : List Nat) : ((buildClusters fuel s fr).2.flatten).Perm fr := by
  unfold buildClusters
  have := PV.UF.group_flatten (labelPassS fuel s fr).2
  rwa [labelPassS_fst] at this

theorem starLoop_perm (ps : List Pair) (fuel : Nat) (medoid : List Nat → Option Nat) (fr : List Nat) :
    ∀ (left iter : Nat) (s : PV.UF.State) (clusters : List (List Nat)) (streak : Nat), clusters.flatten.Perm fr →
      ((starLoop ps fuel medoid fr left iter s clusters streak).flatten).Perm fr
  | 0, _, _, _, _, h => h
  | left + 1, iter, s, clusters, streak, _ => by
    unfold starLoop
    dsimp only
    generalize (if (fr.foldl (assignStep ps fuel iter (clusters.map medoid)) (s, false)).2 = true then 0 else streak + 1) = streak'
    split
    · exact buildClusters_perm ..
    · exact starLoop_perm ps fuel medoid fr left _ _ _ _ (buildClusters_perm ..)

/-- the medoid selection returns a member of every cluster with two or more members -/
def MedoidOK (medoid : List Nat → Option Nat) : Prop := ∀ ms : List Nat, 2 ≤ ms.length → ∃ m ∈ ms, medoid ms = some m

/-- whatever the medoid selection returns is a member of the cluster (clusters with fewer than two members included) -/
def MedoidMember (medoid : List Nat → Option Nat) : Prop := ∀ ms m, medoid ms = some m → m ∈ ms

theorem findMedoid_ok (ps : List Pair) : MedoidOK (findMedoid ps) := by
  intro ms hms
  match ms, hms with
  | a :: b :: rest, _ =>
    -- after the first candidate the accumulator always holds a member
    have h := List.foldlRecOn (motive := fun acc => ∃ r, acc = some r ∧ r.1 ∈ a :: b :: rest)
      (b :: rest) (medoidStep ps (a :: b :: rest)) (b := some (a, sumSim ps (a :: b :: rest) a))
      ⟨_, rfl, List.mem_cons_self⟩ ?_
    · obtain ⟨r, hr, hmem⟩ := h
      refine ⟨r.1, hmem, ?_⟩
      show (List.foldl (medoidStep ps (a :: b :: rest)) (some (a, sumSim ps (a :: b :: rest) a)) (b :: rest)).map (·.1) = _
      rw [hr]; rfl
    · rintro acc ⟨⟨b1, b2⟩, rfl, hb⟩ c hc
      unfold medoidStep
      dsimp only
      split
      · exact ⟨_, rfl, List.mem_cons_of_mem _ hc⟩
      · exact ⟨_, rfl, hb⟩

theorem starGroupsWith_contract (fuel θ : Nat) (ps : List Pair) (medoid : List Nat → Option Nat) (hm : MedoidOK medoid)
    (hθ : 0 < θ) :
    checkStar θ ps (starGroupsWith fuel θ ps medoid) = true ∧ checkCommon (starGroupsWith fuel θ ps medoid) = true := by
  unfold starGroupsWith
  simp only
  split
  · exact ⟨rfl, rfl⟩
  · have hperm := starLoop_perm ps fuel medoid (nodesOf ps) 10 0 (buildClusters fuel PV.UF.init (nodesOf ps)).1
      (buildClusters fuel PV.UF.init (nodesOf ps)).2 0 (buildClusters_perm ..)
    generalize starLoop ps fuel medoid (nodesOf ps) 10 0 (buildClusters fuel PV.UF.init (nodesOf ps)).1
      (buildClusters fuel PV.UF.init (nodesOf ps)).2 0 = clusters at hperm
    -- what one cluster yields
    have hF : ∀ c g, (fun members : List Nat =>
        if members.length < 2 then none
        else
          let filtered := match medoid members with
            | none => members.filter (fun _ => decide (θ ≤ 0))
            | some m => members.filter (fun f => f == m || decide (θ ≤ simOr0 ps f m))
          if filtered.length < 2 then none else some (sortNat filtered)) c = some g →
        (g.Subperm c ∧ 2 ≤ g.length) ∧ ∃ m ∈ g, ∀ u ∈ g, u ≠ m → linked θ ps u m = true := by
      intro c g hg
      simp only at hg
      split at hg
      · cases hg
      · next hlen =>
        obtain ⟨m, hmc, hmed⟩ := hm c (by omega)
        rw [hmed] at hg
        simp only at hg
        split at hg
        · cases hg
        · next hlen2 =>
          simp only [Option.some.injEq] at hg
          subst hg
          have hp := sortNat_perm (c.filter (fun f => f == m || decide (θ ≤ simOr0 ps f m)))
          refine ⟨⟨hp.subperm.trans List.filter_sublist.subperm, by rw [hp.length_eq]; omega⟩, m, ?_, ?_⟩
          · exact hp.mem_iff.mpr (List.mem_filter.mpr ⟨hmc, by simp⟩)
          · intro u hu hne
            have := (List.mem_filter.mp (hp.mem_iff.mp hu)).2
            simp only [Bool.or_eq_true, beq_iff_eq, decide_eq_true_eq] at this
            exact linked_of_simOr0 hθ (this.resolve_left hne)
    unfold starFinal
    obtain ⟨h1, h2⟩ := selected_of_partition _ hF hperm
    exact ⟨checkStar_iff.mpr h1, h2⟩

theorem eraseIdx_flatten : ∀ (cs : List (List Nat)) (j : Nat), (cs.getD j [] ++ (cs.eraseIdx j).flatten).Perm cs.flatten
  | [], j => by simp
  | c :: cs, 0 => by simp
  | c :: cs, j + 1 => by
    simp only [List.getD_cons_succ, List.eraseIdx_cons_succ, List.flatten_cons]
    exact (List.perm_append_comm_assoc _ _ _).trans ((eraseIdx_flatten cs j).append_left c)

theorem mergeAt_perm : ∀ (cs : List (List Nat)) (i j : Nat), ((mergeAt cs i j).flatten).Perm cs.flatten
  | [], _, _ => by simp [mergeAt]
  | c :: cs, 0, 0 => by simp [mergeAt]
  | c :: cs, _ + 1, 0 => by simp [mergeAt]
  | c :: cs, 0, j + 1 => by
    simp only [mergeAt, List.flatten_cons, List.append_assoc]
    exact (eraseIdx_flatten cs j).append_left c
  | c :: cs, i + 1, j + 1 => by
    simp only [mergeAt, List.flatten_cons]
    exact (mergeAt_perm cs i j).append_left c

theorem mergeLoop_perm (θ one : Nat) (ps : List Pair) : ∀ (f : Nat) (cs : List (List Nat)),
    ((mergeLoop θ one ps f cs).flatten).Perm cs.flatten
  | 0, _ => List.Perm.refl _
  | f + 1, cs => by
    unfold mergeLoop
    split
    · exact List.Perm.refl _
    · exact (mergeLoop_perm θ one ps f _).trans (mergeAt_perm cs _ _)

theorem mem_indexPairs {m i j : Nat} (h : (i, j) ∈ indexPairs m) : i < j ∧ j < m := by
  unfold indexPairs at h
  simp only [List.mem_flatMap, List.mem_range, List.mem_map, List.mem_filter, decide_eq_true_eq, Prod.mk.injEq] at h
  obtain ⟨a, _, b, ⟨hb, hab⟩, rfl, rfl⟩ := h
  exact ⟨hab, hb⟩

theorem bestPair_lt {θ one : Nat} {ps : List Pair} {cs : List (List Nat)} {i j s : Nat}
    (h : bestPair θ one ps cs = some (i, j, s)) : i < j ∧ j < cs.length := by
  unfold bestPair at h
  refine mem_indexPairs (List.foldlRecOn (motive := fun acc => ∀ r, acc = some r → (r.1, r.2.1) ∈ indexPairs cs.length)
    _ _ (b := none) (fun _ h => nomatch h) ?_ _ h)
  intro acc hacc ij hij r hr
  dsimp only at hr
  split at hr
  · split at hr
    · cases hr; exact hij
    · split at hr
      · cases hr; exact hij
      · exact hacc r hr
  · exact hacc r hr

theorem mergeAt_length : ∀ (cs : List (List Nat)) (i j : Nat), i < j → j < cs.length → (mergeAt cs i j).length + 1 = cs.length
  | [], _, _, _, h => absurd h (Nat.not_lt_zero _)
  | c :: cs, 0, j + 1, _, h => by
    have h' : j < cs.length := Nat.lt_of_succ_lt_succ h
    show (cs.eraseIdx j).length + 1 + 1 = cs.length + 1
    rw [List.length_eraseIdx_of_lt h']
    omega
  | c :: cs, i + 1, j + 1, hij, h => by
    show (mergeAt cs i j).length + 1 + 1 = cs.length + 1
    rw [mergeAt_length cs i j (Nat.lt_of_succ_lt_succ hij) (Nat.lt_of_succ_lt_succ h)]
  | c :: cs, _, 0, hij, _ => absurd hij (Nat.not_lt_zero _)

theorem mergeLoop_done (θ one : Nat) (ps : List Pair) : ∀ (f : Nat) (cs : List (List Nat)), cs.length ≤ f + 1 →
    bestPair θ one ps (mergeLoop θ one ps f cs) = none
  | 0, cs, h => by
    unfold mergeLoop
    cases hb : bestPair θ one ps cs with
    | none => rfl
    | some r =>
      obtain ⟨i, j, s⟩ := r
      have := bestPair_lt hb
      omega
  | f + 1, cs, h => by
    unfold mergeLoop
    cases hb : bestPair θ one ps cs with
    | none => simp only [hb]
    | some r =>
      obtain ⟨i, j, s⟩ := r
      simp only
      have hlt := bestPair_lt hb
      have := mergeAt_length cs i j hlt.1 hlt.2
      exact mergeLoop_done θ one ps f _ (by omega)

theorem allPairsOK_pairwise {θ : Nat} {ps : List Pair} (hθ : 0 < θ) : ∀ cl : List Nat, allPairsOK θ ps cl = true →
    cl.Pairwise (fun x y => linked θ ps x y = true)
  | [], _ => List.Pairwise.nil
  | x :: rest, h => by
    unfold allPairsOK at h
    simp only [Bool.and_eq_true, List.all_eq_true, decide_eq_true_eq] at h
    exact List.Pairwise.cons (fun y hy => linked_of_simOr0 hθ (h.1 y hy)) (allPairsOK_pairwise hθ rest h.2)

theorem completeGroupsAlgo_contract (θ one : Nat) (ps : List Pair) (hθ : 0 < θ) :
    checkComplete θ ps (completeGroupsAlgo θ one ps) = true ∧ checkCommon (completeGroupsAlgo θ one ps) = true := by
  unfold completeGroupsAlgo
  simp only
  split
  · exact ⟨rfl, rfl⟩
  · have hperm := mergeLoop_perm θ one ps (nodesOf ps).length ((nodesOf ps).map (fun f => [f]))
    rw [← List.flatMap_def, List.flatMap_singleton'] at hperm
    generalize mergeLoop θ one ps (nodesOf ps).length ((nodesOf ps).map (fun f => [f])) = clusters at hperm
    have hF : ∀ c g, (fun cl : List Nat =>
        if cl.length < 2 then none
        else if allPairsOK θ ps cl then some (sortNat cl) else none) c = some g →
        (g.Subperm c ∧ 2 ≤ g.length) ∧ ∀ u ∈ g, ∀ v ∈ g, u ≠ v → linked θ ps u v = true := by
      intro c g hg
      simp only at hg
      split at hg
      · cases hg
      · next hlen =>
        split at hg
        · next hok =>
          simp only [Option.some.injEq] at hg
          subst hg
          have hp := sortNat_perm c
          refine ⟨⟨hp.subperm, by rw [hp.length_eq]; omega⟩, ?_⟩
          intro u hu v hv hne
          have : Std.Symm (fun x y => linked θ ps x y = true) := ⟨fun _ _ h => linked_symm h⟩
          exact (allPairsOK_pairwise hθ c hok).forall (hp.mem_iff.mp hu) (hp.mem_iff.mp hv) hne
        · cases hg
    obtain ⟨h1, h2⟩ := selected_of_partition _ hF hperm
    exact ⟨checkComplete_iff.mpr h1, h2⟩

theorem reach_mono {n θ : Nat} {ps : List Pair} {k₁ k₂ : Nat → Bool} (hk : ∀ u, k₁ u = true → k₂ u = true) {a b : Nat}
    (h : Reach (linkGraph n θ ps k₁) a b) : Reach (linkGraph n θ ps k₂) a b := by
  refine h.least Reach.refl Reach.trans (fun he => ?_)
  obtain ⟨h1, h2, h3⟩ := mem_linkGraph.mp he
  exact Reach.edge (mem_linkGraph.mpr ⟨h1, hk _ h2, hk _ h3⟩)

def LinkedFrom (n θ : Nat) (ps : List Pair) (seed : Nat) (g : List Nat) : Prop :=
  ∀ v ∈ g, Reach (linkGraph n θ ps (fun u => g.contains u)) seed v

/-- **The BFS growth**: it returns within the fuel `queue + unclassified`; the returned group extends the current one,
every member is linked to the seed inside the group, and nothing is lost or duplicated.  For `centroidLoop_spec`,
`G = group ++ t` keeps the seed at the head of the group and `U.length ≤ uncl.length` pays for the fuel of the next round. -/
theorem centroidBFS_spec (n θ : Nat) (ps : List Pair) (seed : Nat) :
    ∀ (f : Nat) (queue group uncl : List Nat), queue.length + uncl.length ≤ f → (∀ x ∈ queue, x ∈ group) →
      LinkedFrom n θ ps seed group →
      ∃ G U, centroidBFS θ ps f queue group uncl = some (G, U) ∧ LinkedFrom n θ ps seed G ∧
        (G ++ U).Perm (group ++ uncl) ∧ (∃ t, G = group ++ t) ∧ U.length ≤ uncl.length
  | f, [], group, uncl, _, _, hl => by
    refine ⟨group, uncl, ?_, hl, List.Perm.refl _, ⟨[], by simp⟩, Nat.le_refl _⟩
    cases f <;> rfl
  | 0, _ :: _, _, _, hf, _, _ => by simp at hf
  | f + 1, cur :: queue, group, uncl, hf, hq, hl => by
    unfold centroidBFS
    split
    · exact ⟨group, uncl, rfl, hl, List.Perm.refl _, ⟨[], by simp⟩, Nat.le_refl _⟩
    · have hlen := List.length_eq_length_filter_add (l := uncl) (fun c => centroidLink θ ps cur c)
      have hcur : cur ∈ group := hq cur (List.mem_cons_self ..)
      obtain ⟨G, U, h1, h2, h3, ⟨t, h4⟩, h5⟩ := centroidBFS_spec n θ ps seed f
        (queue ++ uncl.filter (fun c => centroidLink θ ps cur c))
        (group ++ uncl.filter (fun c => centroidLink θ ps cur c))
        (uncl.filter (fun c => !centroidLink θ ps cur c))
        (by simp only [List.length_append, List.length_cons] at hf ⊢; omega)
        (by
          intro x hx
          rcases List.mem_append.mp hx with h | h
          · exact List.mem_append_left _ (hq x (List.mem_cons_of_mem _ h))
          · exact List.mem_append_right _ h)
        (by
          intro v hv
          have hmono : ∀ u, (fun u => group.contains u) u = true →
              (fun u => (group ++ uncl.filter (fun c => centroidLink θ ps cur c)).contains u) u = true := by
            intro u hu
            simp only [List.contains_iff_mem] at hu ⊢
            exact List.mem_append_left _ hu
          rcases List.mem_append.mp hv with h | h
          · exact reach_mono hmono (hl v h)
          · have hlink := linked_of_centroidLink (List.mem_filter.mp h).2
            refine Reach.step (reach_mono hmono (hl cur hcur)) (mem_linkGraph.mpr ⟨hlink, ?_, ?_⟩)
            · simp only [List.contains_iff_mem]; exact List.mem_append_left _ hcur
            · simp only [List.contains_iff_mem]; exact hv)
      refine ⟨G, U, h1, h2, ?_, ⟨uncl.filter (fun c => centroidLink θ ps cur c) ++ t, by rw [h4, List.append_assoc]⟩, by omega⟩
      refine h3.trans ?_
      rw [List.append_assoc]
      exact (List.filter_append_perm _ uncl).append_left group

theorem groupLinked_of_linkedFrom {n θ : Nat} {ps : List Pair} {seed : Nat} {t : List Nat}
    (h : LinkedFrom n θ ps seed (seed :: t)) : groupLinked n θ ps (seed :: t) = true := by
  unfold groupLinked
  simp only
  obtain ⟨S, hS⟩ := PV.C11.reachSet_total (linkGraph n θ ps (fun u => (seed :: t).contains u)) seed
  rw [hS]
  simp only [List.all_eq_true, List.contains_iff_mem]
  intro v hv
  exact (PV.C11.reachSet_spec hS v).mpr (h v hv)

/-- the outer loop returns within its fuel; the groups it adds are linked, have ≥ 2 members and are disjoint from
everything else -/
theorem centroidLoop_spec (n θ : Nat) (ps : List Pair) :
    ∀ (f : Nat) (uncl : List Nat) (groups : List (List Nat)), uncl.length ≤ f → (groups.flatten ++ uncl).Nodup →
      (∀ g ∈ groups, 2 ≤ g.length ∧ groupLinked n θ ps g = true) →
      ∃ gs, centroidLoop θ ps f uncl groups = some gs ∧ gs.flatten.Nodup ∧
        ∀ g ∈ gs, 2 ≤ g.length ∧ groupLinked n θ ps g = true
  | f, [], groups, _, hnd, hg => by
    refine ⟨groups, by cases f <;> rfl, by simpa using hnd, hg⟩
  | 0, _ :: _, _, hf, _, _ => by simp at hf
  | f + 1, seed :: rest, groups, hf, hnd, hg => by
    unfold centroidLoop
    obtain ⟨G, U, h1, h2, h3, ⟨t, h4⟩, h5⟩ := centroidBFS_spec n θ ps seed (rest.length + 1) [seed] [seed] rest
      (by simp; omega) (fun x hx => hx)
      (by
        intro v hv
        simp only [List.mem_singleton] at hv
        subst hv
        exact Reach.refl _)
    rw [h1]
    simp only
    simp only [List.length_cons] at hf
    have hnd' : (groups.flatten ++ (G ++ U)).Nodup := by
      refine (List.Perm.append_left groups.flatten ?_).nodup_iff.mpr hnd
      simpa using h3
    simp only [List.singleton_append] at h4
    split
    · next hlen =>
      refine centroidLoop_spec n θ ps f U (groups ++ [G]) (by omega) ?_ ?_
      · simpa [List.append_assoc] using hnd'
      · intro g hg'
        rcases List.mem_append.mp hg' with h | h
        · exact hg g h
        · simp only [List.mem_singleton] at h
          subst h
          refine ⟨hlen, ?_⟩
          subst h4
          exact groupLinked_of_linkedFrom h2
    · refine centroidLoop_spec n θ ps f U groups (by omega) ?_ hg
      rw [← List.append_assoc] at hnd'
      have := hnd'
      rw [List.nodup_append] at this ⊢
      rw [List.nodup_append] at this
      refine ⟨this.1.1, this.2.1, ?_⟩
      intro a ha b hb
      exact this.2.2 a (List.mem_append_left _ ha) b hb

theorem centroidGroupsAlgo_contract (n θ : Nat) (ps : List Pair) :
    ∃ gs, centroidGroupsAlgo θ ps = some gs ∧ checkLinked n θ ps gs = true ∧ checkCommon gs = true := by
  unfold centroidGroupsAlgo
  obtain ⟨gs, h1, h2, h3⟩ := centroidLoop_spec n θ ps (nodesOf ps).length (nodesOf ps) [] (Nat.le_refl _)
    (by simpa using nodup_nodesOf ps) (fun _ h => by cases h)
  exact ⟨gs, h1, List.all_eq_true.mpr (fun g hg => (h3 g hg).2),
    checkCommon_iff.mpr ⟨fun g hg => (h3 g hg).1, h2⟩⟩

end PV.GroupingAlgo
