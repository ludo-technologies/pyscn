import PV.Proofs.CFGRecords
/-!
The CALLING CONVENTION of the builder.  `Conv st c` (CFGFrameA): the call `c` is made from a well-formed state and the blocks handed
to it exist, so its frame needs no further hypothesis (`Conv.frame`, `Conv.inv0`, `Conv.own` …).  Every
nested call of a construct is made within the convention again: one lemma per constructor of `Run` that has nested calls
(`Conv.loop_cons`, `Conv.try_`, …; for a body in a named pre-body state it is that state's `classPre_wf`, `loopPre_wf`, `ifPre_wf` …).
The walks take the convention of their nested calls from here.
-/
namespace PV.CFGSound
open PV.CFG

section
variable {st st' : St}

theorem Owns.zero : {cl : Call} → Owns 0 0 st cl
  | .stmt _ | .list _ | .if_ .. | .elif .. | .cases .. | .tryMid .. => own0 _
  | .elifTail .. => ⟨own0 _, own0 _⟩
  | .handlers .. => fun _ _ => own0 _
  | .tryElse .. | .tryFin .. => fun _ => own0 _

/-- the frame of a call within the convention, for any owner set that contains the blocks handed to it: what `Run.frame` says of
every kind of call -/
theorem Conv.frame {cl : Call} (h : Conv st cl) (hr : Run st cl st') {c n : Nat} (hn : n ≤ st.next) (ho : Owns c n st cl) : Ext c n st st' := by
  have f := hr.frame c n h hn ho
  cases cl with
  | stmt | list | if_ => exact f.ext
  | elif | elifTail | tryMid => exact f.1
  | cases | handlers | tryElse | tryFin => exact f

/-- every call within the convention is framed with all blocks owned: read for `wf`, `next_le` and `Inv.sub` -/
theorem Conv.inv0 {c : Call} (h : Conv st c) (hr : Run st c st') : Inv 0 0 st st' := (h.frame hr (Nat.zero_le _) Owns.zero).inv (own0 _)
theorem Conv.loops_eq {c : Call} (h : Conv st c) (hr : Run st c st') : st'.loops = st.loops := by
  have sm := hr.stacks
  cases c with
  | tryMid => exact sm.1
  | tryFin => exact (sm h.tryFin_excs).loops
  | stmt | list | if_ | elif | elifTail | cases | handlers | tryElse => exact sm.loops
theorem Conv.next_le {c : Call} (h : Conv st c) (hr : Run st c st') : st.next ≤ st'.next := (h.inv0 hr).next_le
theorem Conv.wf' {c : Call} (h : Conv st c) (hr : Run st c st') : WF st' := (h.inv0 hr).wf
/-- a nested list owns the block it starts in and what it allocates -/
theorem Conv.own {ss : List Stmt} (h : Conv st (.list ss)) (hr : Run st (.list ss) st') : Inv st.cur st.next st st' :=
  hr.frame st.cur st.next h (Nat.le_refl _) (.inl rfl)
/-- where `tryMid` ends: the context of the `try` is on the exception stack, the handler blocks are allocated -/
theorem Conv.tryMid_end {tryB : Nat} {cfin : Option Nat} {excs0 : List Exc} {nat ah : Nat} {body handlers : List Stmt}
    (h : Conv st (.tryMid tryB cfin excs0 nat ah body handlers)) (hr : Run st (.tryMid tryB cfin excs0 nat ah body handlers) st') :
    st'.excs = { fin := cfin, handlers := (List.range handlers.length).map (fun k => st.next + k), processingFinally := false } :: excs0 ∧
      st.next + handlers.length ≤ st'.next :=
  ⟨hr.stacks.2, (hr.frame 0 0 h (Nat.zero_le _) (own0 _)).2⟩

end

section stmts
variable {st : St} {s e : Nat}

theorem Conv.loop_cons {body os : List Stmt} {o : Stmt} {s5 : St} (hr : Run (loopPre st s e true) (.list body) s5) (w : WF st) :
    Conv (loopElsePre st s5) (.list (o :: os)) :=
  have c1 : Conv (loopPre st s e true) (.list body) := loopPre_wf w s e true
  (loopElsePre_inv w ((loopPre_inv (c := 0) (n := 0) w (own0 _) (Nat.zero_le _) s e true).trans (c1.inv0 hr)) (Nat.zero_le _)
    (c1.next_le hr)).wf

theorem Conv.match_cons {c : Stmt} {cs : List Stmt} (w : WF st) : Conv (matchPre st s e) (.cases (c :: cs) st.next (st.next + 1)) :=
  ⟨matchPre_wf w s e, Nat.lt_add_of_pos_right Nat.two_pos, Nat.lt_succ_self _⟩

theorem Conv.cons {x : Stmt} {xs : List Stmt} {s1 : St} (h1 : Run st (.stmt x) s1) (w : WF st) : Conv s1 (.list xs) :=
  Conv.wf' (c := .stmt x) w h1
end stmts

section ifs
variable {st s3 : St} {s e : Nat} {thn : List Stmt}

/-- a plain `else` part, or the next clause of the chain, is processed in a fresh block entered from the block `c` of the test, which
was current before the first branch `pre … s3` -/
theorem Conv.afterThen {pre : St} (hr : Run pre (.list thn) s3) (c1 : Conv pre (.list thn)) {c : Nat} (hc : c < pre.next) :
    WF (setCur ((bump s3).edge c s3.next .condF) s3.next) :=
  branch_wf (c1.wf' hr) (Nat.lt_of_lt_of_le hc (c1.next_le hr)) .condF

/-- the rest of the chain joins into the second of the two blocks `procIf` allocates -/
theorem Conv.if_chain {a b : List Stmt} {s' e' : Nat} (hr : Run (ifPre st s e) (.list thn) s3) (w : WF st) :
    Conv s3 (.elifTail st.cur s3.cur (st.next + 1) s' e' a b) :=
  have c1 : Conv (ifPre st s e) (.list thn) := ifPre_wf w s e
  have h3 : st.next + 2 ≤ s3.next := c1.next_le hr
  ⟨c1.wf' hr, Nat.lt_of_lt_of_le (Nat.lt_add_right 2 w.cur) h3, (c1.wf' hr).cur, h3⟩

theorem Conv.if_else {os : List Stmt} (hr : Run (ifPre st s e) (.list thn) s3) (w : WF st) :
    Conv (setCur ((bump s3).edge st.cur s3.next .condF) s3.next) (.list os) :=
  Conv.afterThen hr (ifPre_wf w s e) (Nat.lt_add_right 2 w.cur)

theorem Conv.elifTail {cond te merge s' e' : Nat} {a b : List Stmt} (h : Conv st (.elifTail cond te merge s' e' a b)) :
    Conv (setCur ((bump st).edge cond st.next .condF) st.next) (.elif s' e' a b merge) :=
  ⟨branch_wf h.wf h.tail_cond .condF, Nat.lt_succ_of_lt h.tail_merge⟩

theorem Conv.elif_chain {l a b : List Stmt} {fm s' e' : Nat} (hr : Run (elifPre st s e) (.list thn) s3)
    (h : Conv st (.elif s e thn l fm)) : Conv (setCur ((bump s3).edge st.cur s3.next .condF) s3.next) (.elif s' e' a b fm) :=
  have c1 : Conv (elifPre st s e) (.list thn) := elifPre_wf h.wf s e
  ⟨Conv.afterThen hr c1 (Nat.lt_succ_of_lt h.wf.cur), Nat.lt_succ_of_lt (Nat.lt_of_lt_of_le (Nat.lt_succ_of_lt h.elif_fm) (c1.next_le hr))⟩

theorem Conv.elif_else {os : List Stmt} (hr : Run (elifPre st s e) (.list thn) s3) (w : WF st) :
    Conv (setCur ((bump s3).edge st.cur s3.next .condF) s3.next) (.list os) :=
  Conv.afterThen hr (elifPre_wf w s e) (Nat.lt_succ_of_lt w.cur)
end ifs

section clauses
variable {st : St}

/-- after a clause that ends in `s1`, the remaining `case` clauses -/
theorem Conv.cases_rest {mb merge : Nat} {cs : List Stmt} {s1 : St} (j : Inv 0 0 st s1) (hmb : mb < st.next) (hm : merge < st.next) :
    Conv (s1.edgeUnlessExit s1.cur merge .normal) (.cases cs mb merge) :=
  have h01 : st.next ≤ (s1.edgeUnlessExit s1.cur merge .normal).next := Nat.le_trans j.next_le (Nat.le_of_eq (edgeUnlessExit_next ..).symm)
  ⟨(j.u0 j.wf.cur (Nat.lt_of_lt_of_le hm j.next_le)).wf, Nat.lt_of_lt_of_le hmb h01, Nat.lt_of_lt_of_le hm h01⟩

theorem Conv.cases_case {s e mb merge : Nat} {body cs : List Stmt} {s1 : St} (hr : Run (casePre st mb s e) (.list body) s1)
    (h : Conv st (.cases (.case_ s e body :: cs) mb merge)) :
    Conv (casePre st mb s e) (.list body) ∧ Conv (s1.edgeUnlessExit s1.cur merge .normal) (.cases cs mb merge) :=
  have i1 := casePre_inv (c := 0) (n := 0) h.wf (Nat.zero_le _) (own0 _) h.cases_mb s e
  ⟨i1.wf, Conv.cases_rest (i1.trans (Conv.inv0 (c := .list body) i1.wf hr)) h.cases_mb h.cases_merge⟩

theorem Conv.cases_other {x : Stmt} {mb merge : Nat} {cs : List Stmt} {s1 : St}
    (hr : Run (setCur ((bump st).edge mb st.next .condT) st.next) (.stmt x) s1) (h : Conv st (.cases (x :: cs) mb merge)) :
    Conv (setCur ((bump st).edge mb st.next .condT) st.next) (.stmt x) ∧ Conv (s1.edgeUnlessExit s1.cur merge .normal) (.cases cs mb merge) :=
  have i1 := freshBranch_inv (c := 0) (n := 0) (Ext.refl h.wf) (Nat.zero_le _) (own0 _) h.cases_mb .condT
  ⟨i1.wf, Conv.cases_rest (i1.trans (Conv.inv0 (c := .stmt x) i1.wf hr)) h.cases_mb h.cases_merge⟩

/-- after a clause that ends in `s1`, the remaining `except` clauses with the remaining handler blocks -/
theorem Conv.handlers_rest {x : Stmt} {hb after : Nat} {hs : List Stmt} {hbs : List Nat} {s1 : St} (j : Inv 0 0 st s1)
    (h : Conv st (.handlers (x :: hs) (hb :: hbs) after)) : Conv (s1.edgeUnlessExit s1.cur after .normal) (.handlers hs hbs after) :=
  have h01 : st.next ≤ (s1.edgeUnlessExit s1.cur after .normal).next := Nat.le_trans j.next_le (Nat.le_of_eq (edgeUnlessExit_next ..).symm)
  ⟨(j.u0 j.wf.cur (Nat.lt_of_lt_of_le h.handlers_after j.next_le)).wf, Nat.le_of_succ_le_succ h.handlers_len,
    fun y hy => Nat.lt_of_lt_of_le (h.handlers_lt y (List.mem_cons_of_mem _ hy)) h01, Nat.lt_of_lt_of_le h.handlers_after h01⟩

theorem Conv.handlers_handler {s e hb after : Nat} {body hs : List Stmt} {hbs : List Nat} {s1 : St}
    (hr : Run (handlerPre st hb s e) (.list body) s1) (h : Conv st (.handlers (.handler s e body :: hs) (hb :: hbs) after)) :
    Conv (handlerPre st hb s e) (.list body) ∧ Conv (s1.edgeUnlessExit s1.cur after .normal) (.handlers hs hbs after) :=
  have i1 := handlerPre_inv (c := 0) (n := 0) h.wf (own0 _) (h.handlers_lt hb (List.mem_cons_self ..)) s e
  ⟨i1.wf, Conv.handlers_rest (i1.trans (Conv.inv0 (c := .list body) i1.wf hr)) h⟩

theorem Conv.handlers_other {x : Stmt} {hb after : Nat} {hs : List Stmt} {hbs : List Nat} {s1 : St}
    (hr : Run (setCur st hb) (.stmt x) s1) (h : Conv st (.handlers (x :: hs) (hb :: hbs) after)) :
    Conv (setCur st hb) (.stmt x) ∧ Conv (s1.edgeUnlessExit s1.cur after .normal) (.handlers hs hbs after) :=
  have i1 := h.wf.i0.c0 (x := hb) (h.handlers_lt hb (List.mem_cons_self ..))
  ⟨i1.wf, Conv.handlers_rest (i1.trans (Conv.inv0 (c := .stmt x) i1.wf hr)) h⟩

theorem Conv.tryElse_some {elseB ah : Nat} {orelse : List Stmt} (h : Conv st (.tryElse true elseB ah orelse)) :
    Conv (setCur st elseB) (.list orelse) :=
  (h.wf.i0.c0 (x := elseB) (h.tryElse_elseB rfl)).wf

theorem Conv.tryFin_some {finB exitBk : Nat} {ctx : Exc} {excs0 : List Exc} {fin : List Stmt}
    (h : Conv st (.tryFin true finB exitBk ctx excs0 fin)) : Conv (finPre st finB ctx excs0) (.list fin) :=
  (finPre_inv (Ext.refl h.wf : Ext 0 0 st st) h.tryFin_excs (own0 _) (h.tryFin_finB rfl)).wf

/-- the body from the block `tryB`, then the handlers from the handler blocks (allocated before the body) -/
theorem Conv.tryMid {tryB : Nat} {cfin : Option Nat} {excs0 : List Exc} {nat ah : Nat} {body handlers : List Stmt} {s5 : St}
    (hr1 : Run (setCur (setExcs (bumpN st handlers.length)
      ({ fin := cfin, handlers := (List.range handlers.length).map (fun k => st.next + k), processingFinally := false } :: excs0)) tryB)
      (.list body) s5)
    (h : Conv st (.tryMid tryB cfin excs0 nat ah body handlers)) :
    Conv (setCur (setExcs (bumpN st handlers.length)
      ({ fin := cfin, handlers := (List.range handlers.length).map (fun k => st.next + k), processingFinally := false } :: excs0)) tryB)
      (.list body) ∧
    Conv (((List.range handlers.length).map (fun k => st.next + k)).foldl (fun s h => s.edge tryB h .exc)
      (s5.edgeUnlessExit s5.cur nat .normal)) (.handlers handlers ((List.range handlers.length).map (fun k => st.next + k)) ah) := by
  obtain ⟨w3, htl, hcf, hx, hnat, hah⟩ := h
  have hmem : ∀ h ∈ (List.range handlers.length).map (fun k => st.next + k), st.next ≤ h ∧ h < st.next + handlers.length :=
    fun _ => handlerIds_mem
  have hlen : handlers.length ≤ ((List.range handlers.length).map (fun k => st.next + k)).length := by simp
  generalize (List.range handlers.length).map (fun k => st.next + k) = hbs at *
  have i4 := tryMidPre_inv (Ext.refl w3 : Ext 0 0 st st) tryB (own0 _) htl cfin hcf excs0 hx hbs handlers.length
    (fun h hh => (hmem h hh).2)
  have j := Conv.inv0 (c := .list body) i4.wf hr1
  have hjn : st.next + handlers.length ≤ s5.next := j.next_le
  have up : ∀ {x : Nat} {s : St}, x < st.next → st.next + handlers.length ≤ s.next → x < s.next :=
    fun hx h => Nat.lt_of_lt_of_le (Nat.lt_add_right _ hx) h
  have j5 := j.u0 (b := nat) (t := .normal) j.wf.cur (up hnat hjn)
  obtain ⟨j6, -⟩ := foldl_edges_frame (c := 0) (n := 0) tryB .exc hbs _ j5 (own0 _) (up htl j5.next_le)
    (fun h hh => Nat.lt_of_lt_of_le (hmem h hh).2 j5.next_le)
  exact ⟨i4.wf, j6.wf, hlen, fun y hy => Nat.lt_of_lt_of_le (hmem y hy).2 j6.next_le, up hah j6.next_le⟩

theorem Conv.try_ {body handlers orelse fin : List Stmt} {s3 : St} {finB elseB : Nat} {cfin : Option Nat} {nat ah : Nat}
    {s7 s8 : St} (ha : TryAlloc st (!fin.isEmpty) (!orelse.isEmpty) s3 finB elseB cfin nat ah)
    (h7 : Run s3 (.tryMid st.next cfin st.excs nat ah body handlers) s7) (h8 : Run s7 (.tryElse (!orelse.isEmpty) elseB ah orelse) s8)
    (w : WF st) :
    Conv s3 (.tryMid st.next cfin st.excs nat ah body handlers) ∧ Conv s7 (.tryElse (!orelse.isEmpty) elseB ah orelse) ∧
    Conv s8 (.tryFin (!fin.isEmpty) finB (st.next + 1)
      { fin := cfin, handlers := (List.range handlers.length).map (fun k => s3.next + k), processingFinally := false } st.excs fin) := by
  have hb := ha.allocated
  have h0lt : st.next < s3.next := Nat.lt_of_succ_lt hb.next_le
  have c7 : Conv s3 (.tryMid st.next cfin st.excs nat ah body handlers) :=
    ⟨(ha.inv w (own0 _)).wf, h0lt, hb.cfin_lt, w.excs_le (Nat.le_of_lt h0lt), hb.nat_lt, hb.ah_lt⟩
  obtain ⟨x7, hn7⟩ := c7.tryMid_end h7
  have h37 : s3.next ≤ s7.next := Nat.le_trans (Nat.le_add_right _ _) hn7
  have c8 : Conv s7 (.tryElse (!orelse.isEmpty) elseB ah orelse) :=
    ⟨c7.wf' h7, fun h => Nat.lt_of_lt_of_le (hb.els h).2 h37, Nat.lt_of_lt_of_le hb.ah_lt h37⟩
  have sm8 : Same s7 s8 := h8.stacks
  have h38 : s3.next ≤ s8.next := Nat.le_trans h37 (c8.next_le h8)
  exact ⟨c7, c8, c8.wf' h8, by rw [sm8.excs, x7], fun h => Nat.lt_of_lt_of_le (hb.fin h).2.1 h38, Nat.lt_of_lt_of_le hb.next_le h38⟩
end clauses

end PV.CFGSound
