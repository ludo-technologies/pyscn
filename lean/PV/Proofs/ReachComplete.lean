import PV.Proofs.CFGReach
/-!
The executable breadth-first search `PV.CFG.reachable` computes exactly the blocks related by the
inductive reachability relation `R`: soundness (every listed block is `R`-reachable) and, for a state
whose edges stay inside `0 … next-1`, completeness (every `R`-reachable block is listed; the fuel
`next + 1` cannot run out before the frontier becomes empty).
-/
namespace PV.CFGSound
open PV.CFG

/-- the list of newly discovered blocks of one round of `reachFrom` -/
def nextOf (E : List Edge) (frontier seen : List Nat) : List Nat :=
  (E.filterMap (fun x => if frontier.contains x.1 && !seen.contains x.2.1 then some x.2.1 else none)).eraseDups

theorem reachFrom_succ (E : List Edge) (fuel : Nat) (frontier seen : List Nat) :
    reachFrom E (fuel + 1) frontier seen =
      if (nextOf E frontier seen).isEmpty then seen
      else reachFrom E fuel (nextOf E frontier seen) (seen ++ nextOf E frontier seen) := rfl

theorem mem_nextOf {E : List Edge} {frontier seen : List Nat} {x : Nat} :
    x ∈ nextOf E frontier seen ↔ ∃ e ∈ E, e.1 ∈ frontier ∧ e.2.1 ∉ seen ∧ e.2.1 = x := by
  unfold nextOf
  rw [List.mem_eraseDups, List.mem_filterMap]
  constructor
  · rintro ⟨e, he, h⟩
    by_cases hc : (frontier.contains e.1 && !seen.contains e.2.1) = true
    · rw [if_pos hc] at h
      simp only [Bool.and_eq_true, Bool.not_eq_true', List.contains_iff_mem] at hc
      have hs : e.2.1 ∉ seen := by
        intro hm
        have := List.contains_iff_mem.mpr hm
        rw [hc.2] at this
        exact Bool.noConfusion this
      exact ⟨e, he, hc.1, hs, Option.some.inj h⟩
    · rw [if_neg hc] at h
      cases h
  · rintro ⟨e, he, hf, hs, hx⟩
    refine ⟨e, he, ?_⟩
    have hc : (frontier.contains e.1 && !seen.contains e.2.1) = true := by
      have h1 : frontier.contains e.1 = true := List.contains_iff_mem.mpr hf
      have h2 : seen.contains e.2.1 = false := by
        cases hcs : seen.contains e.2.1 with
        | false => rfl
        | true => exact absurd (List.contains_iff_mem.mp hcs) hs
      rw [h1, h2]; rfl
    rw [if_pos hc, hx]

theorem nodup_eraseDups {α : Type} [BEq α] [LawfulBEq α] : (l : List α) → l.eraseDups.Nodup
  | [] => by simp
  | a :: as => by
    rw [List.eraseDups_cons]
    exact List.nodup_cons.mpr ⟨by rw [List.mem_eraseDups]; simp, nodup_eraseDups _⟩
termination_by l => l.length
decreasing_by exact Nat.lt_succ_of_le (List.length_filter_le _ as)

theorem nodup_nextOf (E : List Edge) (frontier seen : List Nat) : (nextOf E frontier seen).Nodup :=
  nodup_eraseDups _

theorem reachFrom_sound (E : List Edge) : ∀ (fuel : Nat) (frontier seen : List Nat),
    (∀ x ∈ frontier, R E x) → (∀ x ∈ seen, R E x) → ∀ b ∈ reachFrom E fuel frontier seen, R E b := by
  intro fuel
  induction fuel with
  | zero => intro frontier seen _ hs b hb; exact hs b hb
  | succ fuel ih =>
    intro frontier seen hf hs b hb
    rw [reachFrom_succ] at hb
    by_cases hc : (nextOf E frontier seen).isEmpty = true
    · rw [if_pos hc] at hb; exact hs b hb
    · rw [if_neg hc] at hb
      have hn : ∀ x ∈ nextOf E frontier seen, R E x := by
        intro x hx
        obtain ⟨e, he, hef, _, hex⟩ := mem_nextOf.mp hx
        obtain ⟨a, c, t⟩ := e
        simp only at hef hex
        subst hex
        exact R.step (hf a hef) he
      refine ih _ _ hn ?_ b hb
      intro x hx
      rcases List.mem_append.mp hx with h | h
      · exact hs x h
      · exact hn x h

theorem reachable_sound (st : St) {b : Nat} (h : b ∈ reachable st) : R st.edges b := by
  have h0 : ∀ x ∈ [0], R st.edges x := by
    intro x hx
    rw [List.mem_singleton.mp hx]
    exact R.entry
  exact reachFrom_sound st.edges (st.next + 1) [0] [0] h0 h0 b h

theorem length_le_of_nodup_lt {l : List Nat} {N : Nat} (hd : l.Nodup) (hb : ∀ x ∈ l, x < N) :
    l.length ≤ N := by
  have h := List.Nodup.length_le_of_subset (l₂ := List.range N) hd
    (fun x hx => List.mem_range.mpr (hb x hx))
  rwa [List.length_range] at h

theorem closed_complete {E : List Edge} {S : List Nat} (h0 : 0 ∈ S)
    (hc : ∀ e ∈ E, e.1 ∈ S → e.2.1 ∈ S) {b : Nat} (r : R E b) : b ∈ S := by
  induction r with
  | entry => exact h0
  | step _ he ih => exact hc _ he ih

theorem reachFrom_complete (E : List Edge) (N : Nat)
    (hE : ∀ e ∈ E, e.1 < N ∧ e.2.1 < N) : ∀ (fuel : Nat) (frontier seen : List Nat),
    seen.Nodup → (∀ x ∈ seen, x < N) → (∀ x ∈ frontier, x ∈ seen) →
    (∀ e ∈ E, e.1 ∈ seen → e.1 ∉ frontier → e.2.1 ∈ seen) → 0 ∈ seen →
    N < seen.length + fuel →
    ∀ b, R E b → b ∈ reachFrom E fuel frontier seen := by
  intro fuel
  induction fuel with
  | zero =>
    intro frontier seen hd hb _ _ _ hfuel
    have := length_le_of_nodup_lt hd hb
    omega
  | succ fuel ih =>
    intro frontier seen hd hb hfs hcl h0 hfuel b r
    rw [reachFrom_succ]
    -- two invariants carry the proof: an edge from `seen` that does not start in the frontier ends in `seen` (so `seen` is
    -- closed once nothing new is found), and `N < seen.length + fuel` (every round adds a new block below `N`)
    have hstep : ∀ e ∈ E, e.1 ∈ seen → e.2.1 ∈ seen ∨ e.2.1 ∈ nextOf E frontier seen := by
      intro e he hes
      by_cases hef : e.1 ∈ frontier
      · by_cases hts : e.2.1 ∈ seen
        · exact Or.inl hts
        · exact Or.inr (mem_nextOf.mpr ⟨e, he, hef, hts, rfl⟩)
      · exact Or.inl (hcl e he hes hef)
    by_cases hc : (nextOf E frontier seen).isEmpty = true
    · rw [if_pos hc]
      have hnil : nextOf E frontier seen = [] := List.isEmpty_iff.mp hc
      refine closed_complete h0 ?_ r
      intro e he hes
      rcases hstep e he hes with h | h
      · exact h
      · rw [hnil] at h; exact absurd h List.not_mem_nil
    · rw [if_neg hc]
      have hne : nextOf E frontier seen ≠ [] := fun h => hc (List.isEmpty_iff.mpr h)
      have hlen : 0 < (nextOf E frontier seen).length := List.length_pos_iff.mpr hne
      have hdisj : ∀ x ∈ nextOf E frontier seen, x ∉ seen := by
        intro x hx
        obtain ⟨e, _, _, hes, hex⟩ := mem_nextOf.mp hx
        rw [← hex]; exact hes
      have hnb : ∀ x ∈ nextOf E frontier seen, x < N := by
        intro x hx
        obtain ⟨e, he, _, _, hex⟩ := mem_nextOf.mp hx
        rw [← hex]; exact (hE e he).2
      refine ih _ _ ?_ ?_ ?_ ?_ ?_ ?_ b r
      · rw [List.nodup_append]
        refine ⟨hd, nodup_nextOf E frontier seen, ?_⟩
        intro a ha c hcn hac
        subst hac
        exact hdisj a hcn ha
      · intro x hx
        rcases List.mem_append.mp hx with h | h
        · exact hb x h
        · exact hnb x h
      · intro x hx
        exact List.mem_append.mpr (Or.inr hx)
      · intro e he hes hen
        have hes' : e.1 ∈ seen := by
          rcases List.mem_append.mp hes with h | h
          · exact h
          · exact absurd h hen
        exact List.mem_append.mpr (hstep e he hes')
      · exact List.mem_append.mpr (Or.inl h0)
      · rw [List.length_append]
        omega

theorem reachable_complete (st : St) (hn : 0 < st.next)
    (hb : ∀ e ∈ st.edges, e.1 < st.next ∧ e.2.1 < st.next) {b : Nat} (r : R st.edges b) :
    b ∈ reachable st := by
  unfold reachable
  refine reachFrom_complete st.edges st.next hb (st.next + 1) [0] [0] ?_ ?_ ?_ ?_ ?_ ?_ b r
  · simp
  · intro x hx
    rw [List.mem_singleton.mp hx]; exact hn
  · intro x hx; exact hx
  · intro e _ hes hen; exact absurd hes hen
  · simp
  · simp only [List.length_singleton]
    omega

end PV.CFGSound

#print axioms PV.CFGSound.reachable_complete
#print axioms PV.CFGSound.reachable_sound
