import PV.Proofs.CFGRangesRun
import PV.Proofs.CFGRangesInfo
import PV.Properties.C01
import PV.Proofs.CFGRangesDefs
import PV.Proofs.CFGSxLines
/-!
Reported ranges (C01): no line that can execute, the heads of `elif` clauses (`(sxL body).skipped`) excepted, lies inside a line
range that `findings` reports for an unreachable block.  `build_rq` collects the facts about the final record list and the final edge
list `E`: `GZ` (read off the record trace, `Tr.gc`), pairwise `Rel E` (the walk over the builder, `rq_run`: the one part that speaks
of `E`), and that a record which starts at line 0 ends at line 0 (the bounds `Bd`, from the trace as well: `Run.bd`).
`findings_sound` derives the range statement from them; `build_sound3` provides a reachable record for every line of the static
summary `sxL`, which covers every execution (`live_le_sx3`, `C01_live_sound`).
-/
/-!
Range-level soundness — the lines of the static summary `sxL` of well-formed code are not below its first line (`LB`, `sx_lines_pos`),
and well-formed spans of a whole definition (`WFDef`).
-/
namespace PV.CFGSound
open PV.CFG

structure LB (p : Nat) (r : SX) : Prop where
  lines : ∀ l ∈ r.lines, p ≤ l
  skipped : ∀ l ∈ r.skipped, p ≤ l

/-- the lines and `elif` heads of the summary are start lines of the list (`mx_sub_all`), hence of tagged lines (`proj_all`), which lie
inside the lines of the list (`tl_bounds`) -/
theorem sx_lines_pos {body : List Stmt} {p : Nat} (h : wfL p body = true) : LB p (sxL body) := by
  have key : ∀ l ∈ PV.SD.linesOfL body, p ≤ l := fun l hl => by
    obtain ⟨x, hx, rfl, -⟩ := (proj_all.2 body).of_line hl
    exact (tl_bounds body p h x hx).1
  exact ⟨fun l hl => key l (sxL_lines_sub body l hl), fun l hl => key l (sxL_skipped_sub body l hl)⟩

/-- well-formed spans of a definition: for a class the header line comes first -/
def WFDef (k : Kind) (s e : Nat) (body : List Stmt) : Prop :=
  match k with
  | .cls => 1 ≤ s ∧ s ≤ e ∧ wfL (s + 1) body = true
  | _ => wfL 1 body = true

theorem WFDef.wfl {k : Kind} {s e : Nat} {body : List Stmt} (h : WFDef k s e body) : wfL 1 body = true := by
  cases k
  · exact h
  · exact wfL_mono body (by omega) h.2.2
  · exact h

end PV.CFGSound

namespace PV.CFGSound
open PV.CFG PV.Py

theorem build_rq (k : Kind) (s e : Nat) (body : List Stmt)
    (hok : okLC false body = true) (hwf : WFDef k s e body) :
    GZ (build k s e body).stmts ∧ (build k s e body).stmts.Pairwise (Rel (build k s e body).edges) ∧
      (∀ r ∈ (build k s e body).stmts, r.s = 0 → r.e = 0) := by
  have ipre := preB_inv k s e
  have hS : (build k s e body).stmts = (procList (preB k s e) body).stmts := by
    rw [build_eq, finishB_stmts]
  have hinit : ∃ p, 1 ≤ p ∧ wfL p body = true ∧ SI (build k s e body).edges (preB k s e).stmts (preB k s e).cur p ∧
      GC (preB k s e).stmts (preB k s e).cur ∧ (∀ r ∈ (preB k s e).stmts, r.s = 0 → r.e = 0) := by
    cases k
    · exact ⟨1, Nat.le_refl _, hwf, ⟨Nat.le_refl _, List.Pairwise.nil, (fun _ h => by cases h), (fun _ h => by cases h)⟩,
        ⟨trivial, .inl (fun _ h => by cases h)⟩, (fun _ h => by cases h)⟩
    · obtain ⟨h1, h2, h3⟩ := hwf
      refine ⟨s + 1, by omega, h3, ⟨by omega, ?_, ?_, ?_⟩, ⟨⟨trivial, .inl (fun _ h => by cases h)⟩, .inr ⟨_, _, rfl, rfl, by simp only; omega⟩⟩, ?_⟩
      · exact List.pairwise_singleton _ _
      · intro r hr'
        obtain ⟨_, rfl⟩ := preB_stmts hr'
        simp only; omega
      · intro r hr' _ _
        obtain ⟨_, rfl⟩ := preB_stmts hr'
        exact cls_header_reach s e body
      · intro r hr' h0
        obtain ⟨_, rfl⟩ := preB_stmts hr'
        simp only at h0; omega
    · exact ⟨1, Nat.le_refl _, hwf, ⟨Nat.le_refl _, List.Pairwise.nil, (fun _ h => by cases h), (fun _ h => by cases h)⟩,
        ⟨trivial, .inl (fun _ h => by cases h)⟩, (fun _ h => by cases h)⟩
  obtain ⟨p, hp, hwp, hsi, hgc, hv0⟩ := hinit
  have post := rq_list _ body false (preB k s e) p ipre.wf hok (build_fut k s e body) hwp hsi hgc
  rw [hS]
  refine ⟨post.gc.gz, post.pw, ?_⟩
  obtain ⟨ns, h1, h2⟩ := post.ext
  intro r hr h0
  rw [h1] at hr
  rcases List.mem_append.mp hr with hr | hr
  · rcases h2 r hr with h | h
    · exact h.2
    · omega
  · exact hv0 r hr h0


/-- the fragment: that of the record-level soundness theorem (`mirror_sound3`) — every statement kind incl. `try/except/else/finally`,
`with`, `match`, loop `else`, comprehensions; `break`/`continue` only inside a loop of the same definition, `except`/`case` clauses only
as members of `try`/`match`, no `try … finally` inside a `finally` body -/
def okR (body : List Stmt) : Bool := okL3 false false body

theorem ranges_records (k : Kind) (s e : Nat) (body : List Stmt) (hok : okR body = true) (hwf : WFDef k s e body) :
    ∀ r ∈ (build k s e body).stmts, r.blk ∈ reachable (build k s e body) → 1 ≤ r.s →
      ∀ f ∈ findings (build k s e body), ¬ (f.s ≤ r.s ∧ r.s ≤ f.e) := by
  obtain ⟨hgz, hpw, hv⟩ := build_rq k s e body (okLC_of_okL3 body false false hok) hwf
  exact findings_sound _ (build_wf k s e body) hgz hpw hv

theorem mirror_ranges_static_def (k : Kind) (s e : Nat) (body : List Stmt) (hok : okR body = true) (hwf : WFDef k s e body) :
    ∀ l ∈ (sxL body).lines, ∀ f ∈ findings (build k s e body), ¬ (f.s ≤ l ∧ l ≤ f.e) := by
  intro l hl f hf
  obtain ⟨r, hr, hrs, hrb⟩ := build_sound3 k s e body hok l hl
  have h1 : 1 ≤ l := (sx_lines_pos hwf.wfl).lines l hl
  have := ranges_records k s e body hok hwf r hr hrb (by omega) f hf
  rwa [hrs] at this

theorem mirror_ranges_sound_def (k : Kind) (s e : Nat) (body : List Stmt) (hok : okR body = true) (hwf : WFDef k s e body)
    {o : Out} {tr : List Nat} (ex : Exec body o tr) :
    ∀ l ∈ tr, l ∈ (sxL body).skipped ∨ ∀ f ∈ findings (build k s e body), ¬ (f.s ≤ l ∧ l ≤ f.e) := by
  intro l hl
  have h1 := (PV.C01.C01_live_sound ex).2 l hl
  rcases (live_le_sx3 body false false hok).1 l h1 with h | h
  · exact .inr (mirror_ranges_static_def k s e body hok hwf l h)
  · exact .inl h

theorem WFDef.of_wfloc {k : Kind} (s e : Nat) {body : List Stmt} (hk : k ≠ .cls) (h : WFLoc body) : WFDef k s e body := by
  cases k
  · exact h
  · exact absurd rfl hk
  · exact h

theorem mirror_ranges_static (k : Kind) (hk : k ≠ .cls) (s e : Nat) (body : List Stmt) (hok : okR body = true) (hwf : WFLoc body) :
    ∀ l ∈ (sxL body).lines, ∀ f ∈ findings (build k s e body), ¬ (f.s ≤ l ∧ l ≤ f.e) :=
  mirror_ranges_static_def k s e body hok (WFDef.of_wfloc s e hk hwf)

theorem mirror_ranges_sound (k : Kind) (hk : k ≠ .cls) (s e : Nat) (body : List Stmt) (hok : okR body = true) (hwf : WFLoc body)
    {o : Out} {tr : List Nat} (ex : Exec body o tr) :
    ∀ l ∈ tr, l ∈ (sxL body).skipped ∨ ∀ f ∈ findings (build k s e body), ¬ (f.s ≤ l ∧ l ≤ f.e) :=
  mirror_ranges_sound_def k s e body hok (WFDef.of_wfloc s e hk hwf) ex

end PV.CFGSound

#print axioms PV.CFGSound.mirror_ranges_sound
#print axioms PV.CFGSound.mirror_ranges_static_def
