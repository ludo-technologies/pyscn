import PV.Proofs.CFGTrace
import PV.Proofs.CFGConv
/-!
The one induction over the builder about statement records: every call of a builder function runs the trace of the tagged lines of
its code (`Tr`, CFGTrace) when it is made within the convention (`Conv`: from a well-formed state, the blocks handed in exist) — by
induction over `Run`.  What each construct contributes: where its header
record goes (the current block, or a block that holds no record) and that the block that is current after each of its parts holds no
record — a block that the part does not own is not written to by it (the frame of the part, `NoRec.ext`).
-/
namespace PV.CFGSound
open PV.CFG

section basics
variable {z k : Bool} {st s1 : St} {A : List TLine} {L' : List SRec} {c' b s e : Nat} {ty : Ty}

/-- a block allocated before a nested call, other than the one current at its start, still holds no record after it -/
theorem Run.norec {s2 : St} {ss : List Stmt} (h : Run s1 (.list ss) s2) (w1 : WF s1) {x : Nat} (hx : x ≠ s1.cur) (hxl : x < s1.next)
    (hnr : NoRec s1.stmts x) : NoRec s2.stmts x :=
  NoRec.inv (Conv.own (st := s1) w1 h) hx hxl hnr
theorem Run.norecS {s2 : St} {y : Stmt} (h : Run s1 (.stmt y) s2) (w1 : WF s1) {x : Nat} (hx : x ≠ s1.cur) (hxl : x < s1.next)
    (hnr : NoRec s1.stmts x) : NoRec s2.stmts x :=
  NoRec.inv (h.frame s1.cur s1.next w1 (Nat.le_refl _) (.inl rfl)) hx hxl hnr

theorem norec_above (w : WF st) {x : Nat} (hx : st.next ≤ x) (hb : b ≠ x) :
    NoRec ({ blk := b, s := s, e := e, ty := ty } :: st.stmts) x :=
  NoRec.cons hb (NoRec.of_wf w hx)

/-- a header record in a block `b` without records; afterwards `b` or a block without records is current -/
theorem hdr_tr (hb : NoRec st.stmts b) (hs : s1.stmts = { blk := b, s := s, e := e, ty := ty } :: st.stmts)
    (hc : s1.cur = b ∨ NoRec s1.stmts s1.cur) (h : Tr z k s1.stmts s1.cur A L' c') : Tr z k st.stmts st.cur ((s, e, 1) :: A) L' c' := by
  refine .move hb (.one (ty := ty) ?_)
  rw [← hs]
  rcases hc with hc | hc
  · rw [← hc]; exact h
  · exact .move hc h

/-- a terminator: one record in the current block; the current block stays or the fresh block `st.next` becomes current -/
theorem term_tr (w : WF st) (hs : s1.stmts = { blk := st.cur, s := s, e := e, ty := ty } :: st.stmts)
    (hc : s1.cur = st.cur ∨ s1.cur = st.next) : Tr z k st.stmts st.cur [(s, e, 1)] s1.stmts s1.cur := by
  refine .one (ty := ty) ?_
  rw [← hs]
  rcases hc with hc | hc
  · rw [hc]; exact .nil _ _
  · exact .move (by rw [hs, hc]; exact norec_above w (Nat.le_refl _) (Nat.ne_of_lt w.cur)) (.nil _ _)

theorem Tr.skipAll (hk : k = false) {L : List SRec} {c : Nat} : ∀ A : List TLine, Tr z k L c A L c
  | [] => .nil _ _
  | _ :: A => .skip hk (Tr.skipAll hk A)
end basics

/-- what `procComp.go` stores, relative to its start state -/
def GoF (s e : Nat) (st r : St) : Prop :=
  ∃ ns, r.stmts = ns ++ st.stmts ∧ Fresh s e st.next ns ∧ (∀ x ∈ ns, x.blk < r.next) ∧ st.next ≤ r.next

theorem GoF.step {s e : Nat} {st s3 r : St} (h : GoF s e s3 r) (ns0 : List SRec) (hs : s3.stmts = ns0 ++ st.stmts)
    (h0 : Fresh s e st.next ns0) (hlt : ∀ x ∈ ns0, x.blk < s3.next) (hn : st.next ≤ s3.next) : GoF s e st r := by
  obtain ⟨ns, h1, h2, h3, h4⟩ := h
  refine ⟨ns ++ ns0, by rw [h1, hs, List.append_assoc], h2.append h0 hlt hn, ?_, Nat.le_trans hn h4⟩
  intro x hx
  rcases List.mem_append.mp hx with hx | hx
  · exact h3 x hx
  · exact Nat.lt_of_lt_of_le (hlt x hx) h4

theorem Fresh.nil (s e n : Nat) : Fresh s e n [] := ⟨.nil, fun _ h => (by cases h)⟩

theorem Fresh.cons {s e n b : Nat} {ns : List SRec} (h : Fresh s e n ns) (ty : Ty) (hlt : ∀ x ∈ ns, x.blk < b) (hn : n ≤ b) :
    Fresh s e n ({ blk := b, s := s, e := e, ty := ty } :: ns) := by
  refine ⟨List.pairwise_cons.mpr ⟨hlt, h.1⟩, fun x hx => ?_⟩
  rcases List.mem_cons.mp hx with rfl | hx
  · exact ⟨rfl, rfl, hn⟩
  · exact h.2 x hx

theorem go_fresh (s e : Nat) : ∀ (cs : List Bool) (st : St) (cp : Nat), GoF s e st (procComp.go s e cs st cp).1
  | [], st, cp => by
    rw [go_nil]
    exact ⟨[], rfl, Fresh.nil .., fun _ h => (by cases h), Nat.le_refl _⟩
  | hasTest :: rest, st, cp => by
    rw [go_cons]
    have lt : ∀ a b, a < b → st.next + a < st.next + b := fun _ _ h => Nat.add_lt_add_left h _
    have f1 : Fresh s e st.next [{ blk := st.next, s := s, e := e, ty := .other }] :=
      (Fresh.nil ..).cons _ (fun _ h => (by cases h)) (Nat.le_refl _)
    have l1 : ∀ j, 0 < j → ∀ x ∈ [({ blk := st.next, s := s, e := e, ty := .other } : SRec)], x.blk < st.next + j := fun j hj x hx => by
      rw [List.mem_singleton.mp hx]; exact Nat.lt_add_of_pos_right hj
    cases hasTest
    · simp only [Bool.false_eq_true, ↓reduceIte]
      refine (go_fresh s e rest _ st.next).step
        [{ blk := st.next + 1, s := s, e := e, ty := .other }, { blk := st.next, s := s, e := e, ty := .other }] rfl
        (f1.cons _ (l1 1 (by decide)) (Nat.le_succ _)) ?_ (Nat.le_add_right _ 3)
      intro x hx
      simp only [List.mem_cons, List.not_mem_nil, or_false] at hx
      rcases hx with rfl | rfl
      · exact lt 1 3 (by decide)
      · exact lt 0 3 (by decide)
    · simp only [↓reduceIte]
      refine (go_fresh s e rest _ st.next).step
        [{ blk := st.next + 3, s := s, e := e, ty := .other }, { blk := st.next + 2, s := s, e := e, ty := .other },
          { blk := st.next, s := s, e := e, ty := .other }] rfl ?_ ?_ (Nat.le_add_right _ 4)
      · refine (f1.cons _ (l1 2 (by decide)) (Nat.le_add_right _ 2)).cons _ ?_ (Nat.le_add_right _ 3)
        intro x hx
        simp only [List.mem_cons, List.not_mem_nil, or_false] at hx
        rcases hx with rfl | rfl
        · exact lt 2 3 (by decide)
        · exact lt 0 3 (by decide)
      · intro x hx
        simp only [List.mem_cons, List.not_mem_nil, or_false] at hx
        rcases hx with rfl | rfl | rfl
        · exact lt 3 4 (by decide)
        · exact lt 2 4 (by decide)
        · exact lt 0 4 (by decide)

/-- the comprehension blocks: records of the line in fresh blocks of their own; the exit block `st.next + 1`, current afterwards,
holds no record -/
theorem comp_fresh (st : St) (s e : Nat) (c : List Bool) (w : WF st) :
    ∃ ns, (procComp st s e c).stmts = ns ++ st.stmts ∧ Fresh s e st.next ns ∧ NoRec (ns ++ st.stmts) (st.next + 1) ∧
      (procComp st s e c).cur = st.next + 1 ∧ ∀ x ∈ ns, x.blk < (procComp st s e c).next := by
  obtain ⟨f1, f2, f3, -, -⟩ := comp_facts st s e c
  obtain ⟨ns, h1, h2, h3, h4⟩ := go_fresh s e c (bump (((bump st).edge st.cur st.next .normal).add st.next s e .other)) st.next
  have h2' : Fresh s e (st.next + 2) ns := h2
  refine ⟨ns ++ [{ blk := st.next, s := s, e := e, ty := .other }], by rw [f3, h1]; simp, ?_, ?_, f1, ?_⟩
  · exact h2'.append (n := st.next) ((Fresh.nil ..).cons _ (fun _ h => (by cases h)) (Nat.le_refl _))
      (fun x hx => by rw [List.mem_singleton.mp hx]; exact Nat.lt_add_of_pos_right (by decide)) (Nat.le_add_right _ 2)
  · intro x hx
    rcases List.mem_append.mp hx with hx | hx
    · rcases List.mem_append.mp hx with hx | hx
      · exact Nat.ne_of_gt (h2'.2 x hx).2.2
      · rw [List.mem_singleton.mp hx]; exact Nat.ne_of_lt (Nat.lt_succ_self _)
    · exact Nat.ne_of_lt (Nat.lt_succ_of_lt (w.stmts x hx))
  · intro x hx
    rw [f2]
    rcases List.mem_append.mp hx with hx | hx
    · exact h3 x hx
    · rw [List.mem_singleton.mp hx]; exact Nat.lt_of_lt_of_le (Nat.lt_add_of_pos_right (by decide : 0 < 2)) h4

/-- a comprehension in front of the statement's own record, which goes to the exit block -/
theorem comp_tr {z k : Bool} {st : St} {s e : Nat} {c : List Bool} {A : List TLine} {L' : List SRec} {c' : Nat} (w : WF st)
    (h : Tr z k (procComp st s e c).stmts (procComp st s e c).cur ((s, e, 1) :: A) L' c') :
    Tr z k st.stmts st.cur ((s, e, 1) :: A) L' c' := by
  obtain ⟨ns, h1, h2, h3, h4, -⟩ := comp_fresh st s e c w
  rw [h1, h4] at h
  exact Tr.batch w.stmts h2 (fun _ => .move h3 h)

/-- an else-part that continues the chain: its tagged lines begin with its test -/
theorem Chain.tl {l a b : List Stmt} {s' e' : Nat} (h : Chain l s' e' a b) : ∃ x, tlL l = x :: (tlL a ++ tlL b) ∧ TestOK x s' e' := by
  cases h
  · exact ⟨_, by rw [tlL_single, tlS_elifc, List.cons_append], .inr ⟨rfl, rfl, rfl⟩⟩
  · exact ⟨_, by rw [tlL_single, tlS_ite, List.cons_append], .inl rfl⟩

/-- the trace of a part that begins by making a block current (the clauses of `match` and `try`): it starts from any block -/
def TrA (z k : Bool) (L : List SRec) (A : List TLine) (L' : List SRec) : Prop := ∀ c₀, ∃ c₁, Tr z k L c₀ A L' c₁

section tra
variable {z k : Bool} {L L' L'' : List SRec} {A B : List TLine} {c c' x : Nat}
theorem TrA.nil (L : List SRec) : TrA z k L [] L := fun c₀ => ⟨c₀, .nil _ _⟩
theorem TrA.of_move (hn : NoRec L c) (h : Tr z k L c A L' c') : TrA z k L A L' := fun _ => ⟨c', .move hn h⟩
theorem TrA.append (h : TrA z k L A L') (h' : TrA z k L' B L'') : TrA z k L (A ++ B) L'' := fun c₀ => by
  obtain ⟨c₁, h1⟩ := h c₀
  obtain ⟨c₂, h2⟩ := h' c₁
  exact ⟨c₂, h1.append h2⟩
theorem TrA.to (h : TrA z k L A L') (hn : NoRec L' x) (c₀ : Nat) : Tr z k L c₀ A L' x := by
  obtain ⟨c₁, h1⟩ := h c₀
  exact h1.moveEnd hn
end tra

/-- `z`: `elif` tests open their block (needs `noSEL`), `k`: no tagged line is skipped (needs `okLC`).  A chain clause and the tail of
an `if` come with the tagged line `x` of their test; the sub-functions that are handed blocks allocated before say that those they make
current hold no record (which of the older blocks still hold none afterwards, the frame of the call tells) -/
abbrev Traced (z k : Bool) (st st' : St) : Call → Prop
  | .stmt x => ∀ il : Bool, (z = true → noSES x = true) → (k = true → okSC il x = true) → Tr z k st.stmts st.cur (tlS x) st'.stmts st'.cur
  | .list ss => ∀ il : Bool, (z = true → noSEL ss = true) → (k = true → okLC il ss = true) → Tr z k st.stmts st.cur (tlL ss) st'.stmts st'.cur
  | .if_ s e thn orelse => ∀ (il : Bool) (x : TLine), TestOK x s e → (z = true → x.2.2 = 2 → NoRec st.stmts st.cur) →
      (z = true → noSEL thn = true ∧ noSEO orelse = true) → (k = true → okLC il thn = true ∧ okLC il orelse = true) →
      Tr z k st.stmts st.cur (x :: (tlL thn ++ tlL orelse)) st'.stmts st'.cur
  | .elif s e thn orelse fm => ∀ (il : Bool) (x : TLine), TestOK x s e → (z = true → x.2.2 = 2 → NoRec st.stmts st.cur) →
      (z = true → noSEL thn = true ∧ noSEO orelse = true) → (k = true → okLC il thn = true ∧ okLC il orelse = true) →
      fm ≠ st.cur → NoRec st.stmts fm →
      Tr z k st.stmts st.cur (x :: (tlL thn ++ tlL orelse)) st'.stmts st'.cur
  | .elifTail _ _ merge s' e' a b => ∀ (il : Bool) (y : TLine), TestOK y s' e' →
      (z = true → noSEL a = true ∧ noSEO b = true) → (k = true → okLC il a = true ∧ okLC il b = true) → NoRec st.stmts merge →
      Tr z k st.stmts st.cur (y :: (tlL a ++ tlL b)) st'.stmts st'.cur
  | .cases cs _ _ => ∀ il : Bool, (z = true → noSEL cs = true) → (k = true → okCasesC il cs = true) →
      TrA z k st.stmts (tlL cs) st'.stmts
  | .handlers hs hbs _ => ∀ il : Bool, (∀ hb ∈ hbs, NoRec st.stmts hb) → hbs.Pairwise (· ≠ ·) →
      (z = true → noSEL hs = true) → (k = true → okHsC il hs = true) →
      TrA z k st.stmts (tlL hs) st'.stmts
  | .tryMid tryB _ _ _ _ body handlers => ∀ il : Bool, NoRec st.stmts tryB → (z = true → noSEL body = true ∧ noSEL handlers = true) →
      (k = true → okLC il body = true ∧ okHsC il handlers = true) →
      TrA z k st.stmts (tlL body ++ tlL handlers) st'.stmts
  | .tryElse hasElse elseB _ orelse => ∀ il : Bool, (hasElse = true → NoRec st.stmts elseB) →
      (hasElse = false → orelse = []) → (z = true → noSEL orelse = true) → (k = true → okLC il orelse = true) →
      TrA z k st.stmts (tlL orelse) st'.stmts
  | .tryFin hasFin finB _ _ _ fin => ∀ il : Bool, (hasFin = true → NoRec st.stmts finB) →
      (hasFin = false → fin = []) → (z = true → noSEL fin = true) → (k = true → okLC il fin = true) →
      TrA z k st.stmts (tlL fin) st'.stmts

theorem tr_run (z k : Bool) {st st' : St} {cl : Call} (h : Run st cl st') : Conv st cl → Traced z k st st' cl := by
  induction h with
  | simple st s e c hc =>
    intro w il _ _
    rw [tlS_simple]
    cases hc
    · exact .one (.nil _ _)
    · exact comp_tr w (.one (.nil _ _))
  | ret st s e c hc =>
    intro w il _ _
    rw [tlS_ret, procRet_tail]
    cases hc
    · exact term_tr w (retTail_facts st s e).1 (.inr (retTail_facts st s e).2.1)
    · exact comp_tr w (term_tr (comp_frame (c := st.cur) (n := st.next) st s e c w (.inl rfl) (Nat.le_refl _)).1.wf
        (retTail_facts (procComp st s e c) s e).1 (.inr (retTail_facts (procComp st s e c) s e).2.1))
  | brk st s e => intro w il _ _; rw [tlS_brk]; exact term_tr w (brk_facts st s e).1 (brk_facts st s e).2
  | cont st s e => intro w il _ _; rw [tlS_cont]; exact term_tr w (cont_facts st s e).1 (cont_facts st s e).2
  | raise st s e => intro w il _ _; rw [tlS_raise]; exact term_tr w (raise_facts st s e).1 (.inr (raise_facts st s e).2)
  | def_ st s e b => intro w il _ _; rw [tlS_def]; exact .one (.nil _ _)
  | handler st s e b =>
    -- a stray `except` clause (outside the fragment `okLC`): its header is recorded, its body is not processed
    intro w il _ hk
    rw [tlS_handler]
    refine .one (Tr.skipAll ?_ _)
    cases k
    · rfl
    · have := hk rfl; rw [okSC_handler] at this; cases this
  | case_ st s e b =>
    intro w il _ hk
    rw [tlS_case]
    refine .one (Tr.skipAll ?_ _)
    cases k
    · rfl
    · have := hk rfl; rw [okSC_case] at this; cases this
  | @class_ st s e body s1 _ ih =>
    intro w il hz hk
    rw [tlS_class]
    refine hdr_tr (s1 := classPre st s e) (NoRec.of_wf w (Nat.le_refl _)) rfl (.inl rfl) ?_
    exact ih (classPre_wf w s e) false (fun h => by have := hz h; rwa [noSES_class] at this) (fun h => by have := hk h; rwa [okSC_class] at this)
  | @ite st s e a b s1 _ ih =>
    intro w il hz hk
    rw [tlS_ite, List.cons_append]
    exact ih w il _ (.inl rfl) (fun _ h => absurd h tag0_ne) (fun h => by have := hz h; rwa [noSES_ite, Bool.and_eq_true] at this)
      (fun h => by have := hk h; rwa [okSC_ite, Bool.and_eq_true] at this)
  | @elifc st s e a b s1 _ ih =>
    -- a standalone `elif` clause (outside `noSEL`): processed as an `if` whose test carries `0..0`
    intro w il hz hk
    rw [tlS_elifc, List.cons_append]
    have hz' : z = true → False := fun h => by have := hz h; rw [noSES_elifc] at this; cases this
    exact ih w il _ (.inr ⟨rfl, rfl, rfl⟩) (fun h _ => (hz' h).elim) (fun h => (hz' h).elim)
      (fun h => by have := hk h; rwa [okSC_elifc, Bool.and_eq_true] at this)
  | @elsec st s e b s1 _ ih =>
    intro w il hz hk
    rw [tlS_elsec]
    exact ih w il (fun h => by have := hz h; rwa [noSES_elsec] at this) (fun h => by have := hk h; rwa [okSC_elsec] at this)
  | @loop_nil st s e body s5 h1 ih =>
    intro w il hz hk
    rw [tlS_loop, tlL_nil, List.append_nil]
    simp only [setLoops_stmts, setCur_stmts, edgeUnlessExit_stmts, setLoops_cur, setCur_cur]
    have w1 := loopPre_wf w s e false
    have nr : ∀ j, 1 ≤ j → NoRec (loopPre st s e false).stmts (st.next + j) := fun j hj => by
      rw [loopPre_stmts]; exact norec_above w (Nat.le_add_right _ _) (Nat.ne_of_lt (Nat.lt_add_of_pos_right hj))
    refine hdr_tr (s1 := loopPre st s e false) (NoRec.of_wf w (Nat.le_refl _)) (loopPre_stmts ..) (.inr (nr 1 (Nat.le_refl _))) ?_
    exact (ih w1 true (fun h => by have := hz h; rw [noSES_loop, Bool.and_eq_true] at this; exact this.1)
      (fun h => by have := hk h; rw [okSC_loop, Bool.and_eq_true] at this; exact this.1)).moveEnd
      (h1.norec w1 (Nat.ne_of_gt (Nat.add_lt_add_left (by decide : 1 < 2) _)) (Nat.add_lt_add_left (by decide : 2 < 3) _) (nr 2 (by decide)))
  | @loop_cons st s e body o os s5 s8 h1 h2 ih1 ih2 =>
    intro w il hz hk
    have hz' : z = true → noSEL body = true ∧ noSEL (o :: os) = true := fun h => by
      have := hz h; rwa [noSES_loop, Bool.and_eq_true] at this
    have hk' : k = true → okLC true body = true ∧ okLC il (o :: os) = true := fun h => by
      have := hk h; rwa [okSC_loop, Bool.and_eq_true] at this
    have lt : ∀ a b, a < b → st.next + a < st.next + b := fun _ _ h => Nat.add_lt_add_left h _
    rw [tlS_loop]
    simp only [setLoops_stmts, setCur_stmts, edgeUnlessExit_stmts, setLoops_cur, setCur_cur]
    have w1 : Conv (loopPre st s e true) (.list body) := loopPre_wf w s e true
    have nr : ∀ j, 1 ≤ j → NoRec (loopPre st s e true).stmts (st.next + j) := fun j hj => by
      rw [loopPre_stmts]; exact norec_above w (Nat.le_add_right _ _) (Nat.ne_of_lt (Nat.lt_add_of_pos_right hj))
    have hn5 : st.next + 4 ≤ s5.next := w1.next_le h1
    have w2 := Conv.loop_cons (o := o) (os := os) h1 w
    refine hdr_tr (s1 := loopPre st s e true) (NoRec.of_wf w (Nat.le_refl _)) (loopPre_stmts ..) (.inr (nr 1 (Nat.le_refl _)))
      (Tr.append (L' := s5.stmts) (c' := st.next + 3) ?_ ?_)
    · exact (ih1 w1 true (fun h => (hz' h).1) (fun h => (hk' h).1)).moveEnd
        (h1.norec w1 (Nat.ne_of_gt (lt 1 3 (by decide))) (lt 3 4 (by decide)) (nr 3 (by decide)))
    · have := (ih2 w2 il (fun h => (hz' h).2) (fun h => (hk' h).2)).moveEnd (c'' := st.next + 2)
        (h2.norec w2 (Nat.ne_of_lt (lt 2 3 (by decide))) (by rw [loopElsePre_next]; exact Nat.lt_of_lt_of_le (lt 2 4 (by decide)) hn5)
          (by rw [loopElsePre_stmts]; exact h1.norec w1 (Nat.ne_of_gt (lt 1 2 (by decide))) (lt 2 4 (by decide)) (nr 2 (by decide))))
      rwa [loopElsePre_stmts] at this
  | @with_ st s e body s2 h1 ih =>
    intro w il hz hk
    rw [tlS_with]
    simp only [setCur_stmts, edge_stmts, edgeUnlessExit_stmts, setCur_cur]
    have lt : ∀ a b, a < b → st.next + a < st.next + b := fun _ _ h => Nat.add_lt_add_left h _
    have w1 := withPre_wf w s e
    refine hdr_tr (s1 := withPre st s e) (NoRec.of_wf w (Nat.le_refl _)) rfl
      (.inr (norec_above w (Nat.le_succ _) (Nat.ne_of_lt (Nat.lt_succ_self _)))) ?_
    exact (ih w1 il (fun h => by have := hz h; rwa [noSES_with] at this) (fun h => by have := hk h; rwa [okSC_with] at this)).moveEnd
      (h1.norec w1 (Nat.ne_of_gt (lt 1 3 (by decide))) (lt 3 4 (by decide))
        (norec_above w (Nat.le_add_right _ 3) (Nat.ne_of_lt (lt 0 3 (by decide)))))
  | match_nil st s e =>
    intro w il _ _
    rw [tlS_match, tlL_nil]
    simp only [setCur_stmts, edge_stmts, setCur_cur]
    exact .move (NoRec.of_wf w (Nat.le_refl _)) (.one (ty := .other)
      (.move (norec_above w (Nat.le_succ _) (Nat.ne_of_lt (Nat.lt_succ_self _))) (.nil _ _)))
  | @match_cons st s e c cs s2 hr ih =>
    intro w il hz hk
    rw [tlS_match]
    simp only [setCur_stmts, edge_stmts, setCur_cur]
    have c1 := Conv.match_cons (s := s) (e := e) (c := c) (cs := cs) w
    have hm1 : NoRec (matchPre st s e).stmts (st.next + 1) := norec_above w (Nat.le_succ _) (Nat.ne_of_lt (Nat.lt_succ_self _))
    -- the clauses own the subject's block `st.next` and what they allocate: not the merge block `st.next + 1`
    have hm2 := NoRec.ext (c1.frame hr (Nat.le_refl _) (.inl rfl)) (Nat.succ_ne_self _) c1.cases_merge hm1
    exact .move (NoRec.of_wf w (Nat.le_refl _)) (.one (ty := .other) ((ih c1 il
      (fun h => by have := hz h; rwa [noSES_match] at this) (fun h => by have := hk h; rwa [okSC_match] at this)).to hm2 _))
  | @try_ st s e body handlers orelse fin s3 finB elseB cfin nat ah s7 s8 s9 ha h7 h8 h9 ih7 ih8 ih9 =>
    intro w il hz hk
    have hz' : z = true → ((noSEL body = true ∧ noSEL handlers = true) ∧ noSEL orelse = true) ∧ noSEL fin = true := fun h => by
      have := hz h; rwa [noSES_try, Bool.and_eq_true, Bool.and_eq_true, Bool.and_eq_true] at this
    have hk' : k = true → ((okLC il body = true ∧ okHsC il handlers = true) ∧ okLC il orelse = true) ∧ okLC il fin = true := fun h => by
      have := hk h; rwa [okSC_try, Bool.and_eq_true, Bool.and_eq_true, Bool.and_eq_true] at this
    obtain ⟨c7, c8, c9⟩ := Conv.try_ ha h7 h8 w
    have hb := ha.allocated
    rw [tlS_try]
    simp only [setExcs_stmts, setCur_stmts, setExcs_cur, setCur_cur]
    have hFe : (!fin.isEmpty) = false → fin = [] := fun h => List.isEmpty_iff.mp (by simpa using h)
    have hEe : (!orelse.isEmpty) = false → orelse = [] := fun h => List.isEmpty_iff.mp (by simpa using h)
    generalize (!fin.isEmpty) = hasFin at *
    generalize (!orelse.isEmpty) = hasElse at *
    -- a block from `next` on holds no record in the entry state
    have fresh : ∀ x, st.next ≤ x → NoRec s3.stmts x := fun x hx => by rw [hb.stmts]; exact NoRec.of_wf w hx
    -- each stage owns the block it makes current first (`st.next`, `elseB`, `finB`) and what it allocates
    have k7 := c7.frame h7 (Nat.le_refl _) (.inl rfl)
    have k8 := c8.frame h8 (Nat.le_refl _) fun _ => .inl rfl
    have k9 := c9.frame h9 (Nat.le_refl _) fun _ => .inl rfl
    have h37 : s3.next ≤ s7.next := c7.next_le h7
    have keep7 : ∀ x, st.next < x → x < s3.next → NoRec s7.stmts x := fun x h1 h2 =>
      NoRec.ext k7 (Nat.ne_of_gt h1) h2 (fresh x (Nat.le_of_lt h1))
    have keep8 : ∀ x, st.next < x → x < s3.next → x ≠ elseB → NoRec s8.stmts x := fun x h1 h2 h3 =>
      NoRec.ext k8 h3 (Nat.lt_of_lt_of_le h2 h37) (keep7 x h1 h2)
    have t7 := ih7 c7 il (fresh _ (Nat.le_refl _)) (fun h => (hz' h).1.1) (fun h => (hk' h).1.1)
    have t8 := ih8 c8 il (fun h => keep7 elseB (Nat.lt_of_succ_lt (hb.els h).1) (hb.els h).2) hEe (fun h => (hz' h).1.2) (fun h => (hk' h).1.2)
    have t9 := ih9 c9 il (fun h => keep8 finB (Nat.lt_of_succ_lt (hb.fin h).1) (hb.fin h).2.1 (hb.fin h).2.2) hFe (fun h => (hz' h).2) (fun h => (hk' h).2)
    have hx := NoRec.ext k9 hb.fin_ne.symm c9.tryFin_exit (keep8 (st.next + 1) (Nat.lt_succ_self _) hb.next_le hb.els_ne.symm)
    have := ((t7.append t8).append t9).to hx st.cur
    rwa [hb.stmts] at this
  | nil st => intro w il _ _; rw [tlL_nil]; exact .nil _ _
  | @cons st x xs s1 s2 h1 _ ih1 ih2 =>
    intro w il hz hk
    rw [tlL_cons]
    exact (ih1 w il (fun h => by have := hz h; rw [noSEL_cons, Bool.and_eq_true] at this; exact this.1)
      (fun h => by have := hk h; rw [okLC_cons, Bool.and_eq_true] at this; exact this.1)).append
      (ih2 (Conv.cons h1 w) il
        (fun h => by have := hz h; rw [noSEL_cons, Bool.and_eq_true] at this; exact this.2)
        (fun h => by have := hk h; rw [okLC_cons, Bool.and_eq_true] at this; exact this.2))
  | @if_nil st s e thn s3 h1 ih =>
    -- the test record goes to the current block, the then-branch starts in the fresh block `st.next`
    intro w il x ht hzc hz hk
    rw [tlL_nil, List.append_nil]
    simp only [setCur_stmts, edge_stmts, edgeUnlessExit_stmts, setCur_cur]
    have w1 := ifPre_wf w s e
    exact (Tr.test ht hzc (norec_above w (Nat.le_refl _) (Nat.ne_of_lt w.cur)) (ih w1 il (fun h => (hz h).1) (fun h => (hk h).1))).moveEnd
      (h1.norec w1 (Nat.succ_ne_self _) (Nat.lt_succ_self _) (norec_above w (Nat.le_succ _) (Nat.ne_of_lt (Nat.lt_succ_of_lt w.cur))))
  | @if_chain st s e thn l a b s' e' s3 s5 hc h1 _ ih1 ih2 =>
    intro w il x ht hzc hz hk
    have w1 := ifPre_wf w s e
    obtain ⟨y, hy, hty⟩ := hc.tl
    rw [hy, ← List.cons_append]
    refine (Tr.test ht hzc (norec_above w (Nat.le_refl _) (Nat.ne_of_lt w.cur)) (ih1 w1 il (fun h => (hz h).1) (fun h => (hk h).1))).append
      (ih2 (Conv.if_chain h1 w) il y hty (fun h => hc.noSEO (hz h).2) (fun h => hc.okLC (hk h).2) ?_)
    exact h1.norec w1 (Nat.succ_ne_self _) (Nat.lt_succ_self _) (norec_above w (Nat.le_succ _) (Nat.ne_of_lt (Nat.lt_succ_of_lt w.cur)))
  | @if_else st s e thn o os s3 s5 hne1 _ h1 h2 ih1 ih2 =>
    intro w il x ht hzc hz hk
    have w1 : Conv (ifPre st s e) (.list thn) := ifPre_wf w s e
    have hn3 : st.next + 2 ≤ s3.next := w1.next_le h1
    have w4 := Conv.if_else (os := o :: os) h1 w
    have hM : NoRec s3.stmts (st.next + 1) :=
      h1.norec w1 (Nat.succ_ne_self _) (Nat.lt_succ_self _) (norec_above w (Nat.le_succ _) (Nat.ne_of_lt (Nat.lt_succ_of_lt w.cur)))
    have hH := Tr.test ht hzc (norec_above w (Nat.le_refl _) (Nat.ne_of_lt w.cur)) (ih1 w1 il (fun h => (hz h).1) (fun h => (hk h).1))
    have h5 : Tr z k s3.stmts s3.cur (tlL (o :: os)) s5.stmts s5.cur := .move (NoRec.of_wf (w1.wf' h1) (Nat.le_refl _))
      (ih2 w4 il (fun h => by have := (hz h).2; rwa [noSEO_other _ hne1] at this) (fun h => (hk h).2))
    rw [← List.cons_append]
    unfold elseJoin
    split
    · simp only [setCur_stmts, bumpU_stmts, setCur_cur]
      exact (hH.append h5).moveEnd (NoRec.of_wf (w4.wf' h2) (Nat.le_refl _))
    · simp only [setCur_stmts, edgeUnlessExit_stmts, setCur_cur]
      exact (hH.append h5).moveEnd (h2.norec w4 (Nat.ne_of_lt hn3) (Nat.lt_succ_of_lt hn3) hM)
  | @elifTail st cond te merge s' e' a b s5 hr ih =>
    intro hc il y hty hz hk hm
    have hfr : NoRec st.stmts st.next := NoRec.of_wf hc.wf (Nat.le_refl _)
    have c4 := hc.elifTail
    have hml := hc.tail_merge
    -- the chain owns the block it starts in and what it allocates: not the merge block
    have hF5 : NoRec s5.stmts merge := NoRec.ext (c4.frame hr (Nat.le_refl _) (.inl rfl)) (Nat.ne_of_lt hml) c4.elif_fm hm
    have h5' : Tr z k st.stmts st.cur (y :: (tlL a ++ tlL b)) s5.stmts s5.cur :=
      .move hfr (ih c4 il y hty (fun _ _ => hfr) hz hk (Nat.ne_of_lt hml) hm)
    unfold tailJoin
    split
    · split
      · exact h5'
      · simp only [setCur_stmts, edgeUnlessExit_stmts, setCur_cur]; exact h5'.moveEnd hF5
    · simp only [setCur_stmts, edgeUnlessExit_stmts, setCur_cur]; exact h5'.moveEnd hF5
  | @elif_nil st s e thn fm s3 h1 ih =>
    intro hcv il x ht hzc hz hk hfc hfm
    have w := hcv.wf
    have hfl := hcv.elif_fm
    rw [tlL_nil, List.append_nil]
    simp only [finishElif, setCur_stmts, setCur_cur, edgeUnlessExit_stmts, edge_stmts]
    have w1 := elifPre_wf w s e
    have hF : NoRec s3.stmts fm := h1.norec w1 (Nat.ne_of_lt hfl) (Nat.lt_succ_of_lt hfl) (NoRec.cons (fun h => hfc h.symm) hfm)
    exact (Tr.test ht hzc (norec_above w (Nat.le_refl _) (Nat.ne_of_lt w.cur)) (ih w1 il (fun h => (hz h).1) (fun h => (hk h).1))).moveEnd hF
  | @elif_chain st s e thn l a b fm s' e' s3 s5 hc h1 h2 ih1 ih2 =>
    -- every further test of the chain is stored in the block allocated just before
    intro hcv il x ht hzc hz hk hfc hfm
    have c4 := hcv.elif_chain (s' := s') (e' := e') (a := a) (b := b) h1
    have w := hcv.wf
    have hfl := hcv.elif_fm
    have w1 : Conv (elifPre st s e) (.list thn) := elifPre_wf w s e
    have hf1 : fm < s3.next := Nat.lt_of_lt_of_le (Nat.lt_succ_of_lt hfl) (w1.next_le h1)
    have hF : NoRec s3.stmts fm := h1.norec w1 (Nat.ne_of_lt hfl) (Nat.lt_succ_of_lt hfl) (NoRec.cons (fun h => hfc h.symm) hfm)
    have hfr : NoRec s3.stmts s3.next := NoRec.of_wf (w1.wf' h1) (Nat.le_refl _)
    obtain ⟨y, hy, hty⟩ := hc.tl
    -- the rest of the chain owns the block it starts in and what it allocates: not the merge block
    have hF5 : NoRec s5.stmts fm := NoRec.ext (c4.frame h2 (Nat.le_refl _) (.inl rfl)) (Nat.ne_of_lt hf1) c4.elif_fm hF
    simp only [finishElif, setCur_stmts, setCur_cur, edgeUnlessExit_stmts]
    rw [hy, ← List.cons_append]
    exact ((Tr.test ht hzc (norec_above w (Nat.le_refl _) (Nat.ne_of_lt w.cur)) (ih1 w1 il (fun h => (hz h).1) (fun h => (hk h).1))).append
      (.move hfr (ih2 c4 il y hty (fun _ _ => hfr) (fun h => hc.noSEO (hz h).2) (fun h => hc.okLC (hk h).2) (Nat.ne_of_lt hf1) hF))).moveEnd hF5
  | @elif_else st s e thn fm o os s3 s5 hne1 _ h1 h2 ih1 ih2 =>
    intro hcv il x ht hzc hz hk hfc hfm
    have w := hcv.wf
    have hfl := hcv.elif_fm
    have w1 : Conv (elifPre st s e) (.list thn) := elifPre_wf w s e
    have hf1 : fm < s3.next := Nat.lt_of_lt_of_le (Nat.lt_succ_of_lt hfl) (w1.next_le h1)
    have w4 := Conv.elif_else (os := o :: os) h1 w
    have hF : NoRec s3.stmts fm := h1.norec w1 (Nat.ne_of_lt hfl) (Nat.lt_succ_of_lt hfl) (NoRec.cons (fun h => hfc h.symm) hfm)
    have hH := Tr.test ht hzc (norec_above w (Nat.le_refl _) (Nat.ne_of_lt w.cur)) (ih1 w1 il (fun h => (hz h).1) (fun h => (hk h).1))
    have h5 : Tr z k s3.stmts s3.cur (tlL (o :: os)) s5.stmts s5.cur := .move (NoRec.of_wf (w1.wf' h1) (Nat.le_refl _))
      (ih2 w4 il (fun h => by have := (hz h).2; rwa [noSEO_other _ hne1] at this) (fun h => (hk h).2))
    rw [← List.cons_append]
    unfold elseJoin
    split
    · simp only [setCur_stmts, bumpU_stmts, setCur_cur]
      exact (hH.append h5).moveEnd (NoRec.of_wf (w4.wf' h2) (Nat.le_refl _))
    · simp only [finishElif, setCur_stmts, setCur_cur, edgeUnlessExit_stmts]
      exact (hH.append h5).moveEnd (h2.norec w4 (Nat.ne_of_lt hf1) (Nat.lt_succ_of_lt hf1) hF)
  | cases_nil st mb merge => intro _ il _ _; rw [tlL_nil]; exact TrA.nil _
  | @cases_case st s e body cs mb merge s1 s2 h1 _ ih1 ih2 =>
    intro hc il hz hk
    have hz' : z = true → noSEL body = true ∧ noSEL cs = true := fun h => by
      have := hz h; rwa [noSEL_cons, noSES_case, Bool.and_eq_true] at this
    have hk' : k = true → okLC il body = true ∧ okCasesC il cs = true := fun h => by
      have := hk h; rwa [okCasesC_case, Bool.and_eq_true] at this
    obtain ⟨c1, c2⟩ := hc.cases_case h1
    have r1 := ih2 c2 il (fun h => (hz' h).2) (fun h => (hk' h).2)
    rw [edgeUnlessExit_stmts] at r1
    rw [tlL_cons, tlS_case]
    exact (TrA.of_move (NoRec.of_wf hc.wf (Nat.le_refl _)) (.one (ih1 c1 il (fun h => (hz' h).1) (fun h => (hk' h).1)))).append r1
  | @cases_other st x cs mb merge s1 s2 hne h1 _ ih1 ih2 =>
    -- not a `case` clause: outside the fragment `okLC`
    intro hc il hz hk
    have hz' : z = true → noSES x = true ∧ noSEL cs = true := fun h => by have := hz h; rwa [noSEL_cons, Bool.and_eq_true] at this
    have hkf : k = true → False := fun h => by
      obtain ⟨s, e, a, rfl, _⟩ := okCasesC_cons (hk h)
      exact hne _ _ _ rfl
    obtain ⟨c1, c2⟩ := hc.cases_other h1
    have r1 := ih2 c2 il (fun h => (hz' h).2) (fun h => (hkf h).elim)
    rw [edgeUnlessExit_stmts] at r1
    rw [tlL_cons]
    exact (TrA.of_move (NoRec.of_wf hc.wf (Nat.le_refl _)) (ih1 c1 il (fun h => (hz' h).1) (fun h => (hkf h).elim))).append r1
  | handlers_nil_l st hbs after => intro _ il _ _ _ _; rw [tlL_nil]; exact TrA.nil _
  | handlers_nil_r st hs after =>
    intro hc il _ _ _ _
    have : hs = [] := List.eq_nil_of_length_eq_zero (Nat.le_zero.mp hc.handlers_len)
    rw [this, tlL_nil]; exact TrA.nil _
  | @handlers_handler st s e body hs hb hbs after s1 s2 h1 _ ih1 ih2 =>
    -- each `except` clause is processed from its own block `hb`, which holds no record until then
    intro hc il hhb hpw hz hk
    have hz' : z = true → noSEL body = true ∧ noSEL hs = true := fun h => by
      have := hz h; rwa [noSEL_cons, noSES_handler, Bool.and_eq_true] at this
    have hk' : k = true → okLC il body = true ∧ okHsC il hs = true := fun h => by
      have := hk h; rwa [okHsC_handler, Bool.and_eq_true] at this
    obtain ⟨hp1, hp2⟩ := List.pairwise_cons.mp hpw
    obtain ⟨c1, c2⟩ := hc.handlers_handler h1
    have r1 := ih2 c2 il
      (fun y hy => by
        rw [edgeUnlessExit_stmts]
        exact h1.norec c1 (fun hh => hp1 y hy hh.symm) (hc.handlers_lt y (List.mem_cons_of_mem _ hy))
          (NoRec.cons (hp1 y hy) (hhb y (List.mem_cons_of_mem _ hy))))
      hp2 (fun h => (hz' h).2) (fun h => (hk' h).2)
    rw [edgeUnlessExit_stmts] at r1
    rw [tlL_cons, tlS_handler]
    exact (TrA.of_move (hhb hb (List.mem_cons_self ..)) (.one (ih1 c1 il (fun h => (hz' h).1) (fun h => (hk' h).1)))).append r1
  | @handlers_other st x hs hb hbs after s1 s2 hne h1 _ ih1 ih2 =>
    intro hc il hhb hpw hz hk
    have hz' : z = true → noSES x = true ∧ noSEL hs = true := fun h => by have := hz h; rwa [noSEL_cons, Bool.and_eq_true] at this
    have hkf : k = true → False := fun h => by
      obtain ⟨s, e, a, rfl, _⟩ := okHsC_cons (hk h)
      exact hne _ _ _ rfl
    obtain ⟨hp1, hp2⟩ := List.pairwise_cons.mp hpw
    obtain ⟨c1, c2⟩ := hc.handlers_other h1
    have r1 := ih2 c2 il
      (fun y hy => by
        rw [edgeUnlessExit_stmts]
        exact h1.norecS c1 (fun hh => hp1 y hy hh.symm) (hc.handlers_lt y (List.mem_cons_of_mem _ hy)) (hhb y (List.mem_cons_of_mem _ hy)))
      hp2 (fun h => (hz' h).2) (fun h => (hkf h).elim)
    rw [edgeUnlessExit_stmts] at r1
    rw [tlL_cons]
    exact (TrA.of_move (hhb hb (List.mem_cons_self ..)) (ih1 c1 il (fun h => (hz' h).1) (fun h => (hkf h).elim))).append r1
  | @tryMid s3 tryB cfin excs0 nat ah body handlers s5 s7 h1 _ ih1 ih2 =>
    -- the body from the block `tryB`, the handlers from their blocks, which the body does not own
    intro hc il htb hz hk
    obtain ⟨c1, c2⟩ := hc.tryMid h1
    have w3 := hc.wf
    have htl := hc.tryMid_tryB
    have hpw : ((List.range handlers.length).map (fun k => s3.next + k)).Pairwise (· ≠ ·) := by
      rw [List.pairwise_map]
      exact (List.nodup_range (n := handlers.length)).imp (fun hab hh => hab (by omega))
    have r1 := ih2 c2 il
      (fun h hh => by
        rw [foldl_edge_stmts, edgeUnlessExit_stmts]
        exact h1.norec c1 (Nat.ne_of_gt (Nat.lt_of_lt_of_le htl (handlerIds_mem hh).1)) (handlerIds_mem hh).2
          (NoRec.of_wf w3 (handlerIds_mem hh).1 : NoRec s3.stmts h))
      hpw (fun h => (hz h).2) (fun h => (hk h).2)
    rw [foldl_edge_stmts, edgeUnlessExit_stmts] at r1
    exact (TrA.of_move htb (ih1 c1 il (fun h => (hz h).1) (fun h => (hk h).1))).append r1
  | tryElse_none s7 elseB ah orelse => intro _ il _ hE _ _; rw [hE rfl, tlL_nil]; exact TrA.nil _
  | @tryElse_some s7 elseB ah orelse s h1 ih =>
    intro hc il he _ hz hk
    simp only [edgeUnlessExit_stmts]
    exact TrA.of_move (he rfl) (ih hc.tryElse_some il hz hk)
  | tryFin_none s8 finB exitBk ctx excs0 fin => intro _ il _ hF _ _; rw [hF rfl, tlL_nil]; exact TrA.nil _
  | @tryFin_some s8 finB exitBk ctx excs0 fin s h1 ih =>
    intro hc il hfb _ hz hk
    simp only [finallyPropagation_stmts, edgeUnlessExit_stmts, setExcs_stmts]
    exact TrA.of_move (hfb rfl) (ih hc.tryFin_some il hz hk)

theorem procList_tr (ss : List Stmt) (z k il : Bool) (st : St) (w : WF st) (hz : z = true → noSEL ss = true) (hk : k = true → okLC il ss = true) :
    Tr z k st.stmts st.cur (tlL ss) (procList st ss).stmts (procList st ss).cur :=
  tr_run z k ((run_all.2 ss).list st) w il hz hk

theorem procStmt_tr (x : Stmt) (z k il : Bool) (st : St) (w : WF st) (hz : z = true → noSES x = true) (hk : k = true → okSC il x = true) :
    Tr z k st.stmts st.cur (tlS x) (procStmt st x).stmts (procStmt st x).cur :=
  tr_run z k ((run_all.1 x).stmt st) w il hz hk

end PV.CFGSound
