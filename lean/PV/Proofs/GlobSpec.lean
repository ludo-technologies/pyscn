import PV.Model.Files
/-!
# What a glob pattern MEANS (declarative), and that the executable matcher of `PV.Model.Files` decides it

* `MatchSeg p s` — the segment `s` (no `/` inside) is described by the pattern segment `p`:
  a literal character stands for itself, `?` for exactly one character, `*` for any string. `*` and `?` are special in the
  PATTERN only (in the path they are ordinary characters), and the model has no escape (`\`, `[…]`, `{…}` of doublestar are
  ordinary characters here): a pattern cannot ask for a literal `*` / `?` other than through `?` / `*`.
* `MatchComps ps cs` — the component list `cs` is described by the pattern components `ps`: a component that is exactly `**`
  stands for zero or more components, any other component for exactly one component, by `MatchSeg` (so `*` never crosses a `/`).
* `globSeg_iff` / `globComps_iff` — the executable functions decide these relations.
* `SegPieces` / `CompPieces` — the "one piece per pattern element" reading; its theorems and the closed forms are in
  `PV/Properties/C18x.lean`.
-/
namespace PV.Files

inductive MatchSeg : List Char → List Char → Prop
  | nil : MatchSeg [] []
  | lit {a : Char} {p s : List Char} : a ≠ '*' → a ≠ '?' → MatchSeg p s → MatchSeg (a :: p) (a :: s)
  | one {p s : List Char} (c : Char) : MatchSeg p s → MatchSeg ('?' :: p) (c :: s)
  | star_zero {p s : List Char} : MatchSeg p s → MatchSeg ('*' :: p) s
  | star_more {p s : List Char} (c : Char) : MatchSeg ('*' :: p) s → MatchSeg ('*' :: p) (c :: s)

theorem globSeg_sound (p s : List Char) : globSeg p s = true → MatchSeg p s := by
  fun_induction globSeg p s
  case case1 => intro _; exact .nil
  case case2 => intro h; cases h
  case case3 p ih => intro h; exact .star_zero (ih h)
  case case4 p c s ih2 ih1 =>
    intro h
    rcases Bool.or_eq_true _ _ |>.mp h with h | h
    · exact .star_zero (ih2 h)
    · exact .star_more c (ih1 h)
  case case5 p c s ih => intro h; exact .one c (ih h)
  case case6 => intro h; cases h
  case case7 a p c s h1 h2 ih =>
    intro h
    rcases Bool.and_eq_true _ _ |>.mp h with ⟨hac, hps⟩
    have : a = c := by simpa using hac
    subst this
    exact .lit (fun e => h1 e) (fun e => h2 e) (ih hps)

theorem globSeg_star_nil (p : List Char) : globSeg ('*' :: p) [] = globSeg p [] := by rw [globSeg]

theorem globSeg_star_cons (p : List Char) (c : Char) (s : List Char) :
    globSeg ('*' :: p) (c :: s) = (globSeg p (c :: s) || globSeg ('*' :: p) s) := by rw [globSeg]

theorem globSeg_one_cons (p : List Char) (c : Char) (s : List Char) : globSeg ('?' :: p) (c :: s) = globSeg p s := by rw [globSeg]

theorem globSeg_lit_cons {a : Char} (h1 : a ≠ '*') (h2 : a ≠ '?') (p : List Char) (c : Char) (s : List Char) :
    globSeg (a :: p) (c :: s) = (a == c && globSeg p s) := by
  rw [globSeg]
  · exact fun e => h1 e
  · exact fun e => h2 e

theorem globSeg_complete {p s : List Char} (h : MatchSeg p s) : globSeg p s = true := by
  induction h with
  | nil => rw [globSeg]
  | lit h1 h2 _ ih => rw [globSeg_lit_cons h1 h2]; simp [ih]
  | one c _ ih => rw [globSeg_one_cons]; exact ih
  | @star_zero p s _ ih =>
    cases s with
    | nil => rw [globSeg_star_nil]; exact ih
    | cons c s => rw [globSeg_star_cons, ih]; rfl
  | star_more c _ ih => rw [globSeg_star_cons, ih]; simp

theorem globSeg_iff (p s : List Char) : globSeg p s = true ↔ MatchSeg p s := ⟨globSeg_sound p s, globSeg_complete⟩

instance (p s : List Char) : Decidable (MatchSeg p s) := decidable_of_iff _ (globSeg_iff p s)

/-! ### inversion: what the head of the pattern takes -/

/-- what one pattern element accepts -/
def Fits (a : Char) (w : List Char) : Prop :=
  if a = '*' then True else if a = '?' then ∃ c, w = [c] else w = [a]

theorem matchSeg_nil_iff (s : List Char) : MatchSeg [] s ↔ s = [] :=
  ⟨fun h => by cases h; rfl, fun h => h ▸ .nil⟩

/-- **the head of the pattern takes a piece it accepts, the rest of the pattern describes the rest of the segment** -/
theorem matchSeg_cons_iff (a : Char) (p s : List Char) :
    MatchSeg (a :: p) s ↔ ∃ w t, s = w ++ t ∧ Fits a w ∧ MatchSeg p t := by
  constructor
  · intro h
    generalize hq : a :: p = q at h
    induction h with
    | nil => cases hq
    | lit h1 h2 h _ => cases hq; exact ⟨[a], _, rfl, by simp [Fits, h1, h2], h⟩
    | one c h _ => cases hq; exact ⟨[c], _, rfl, by simp [Fits], h⟩
    | star_zero h _ => cases hq; exact ⟨[], _, rfl, by simp [Fits], h⟩
    | star_more c _ ih =>
      cases hq
      obtain ⟨w, t, rfl, _, h⟩ := ih rfl
      exact ⟨c :: w, t, rfl, by simp [Fits], h⟩
  · rintro ⟨w, t, rfl, hw, h⟩
    unfold Fits at hw
    split at hw
    · subst a
      induction w with
      | nil => exact .star_zero h
      | cons c w ih => exact .star_more c ih
    · split at hw
      · subst a; obtain ⟨c, rfl⟩ := hw; exact .one c h
      · subst hw; exact .lit ‹_› ‹_› h

def Literal (p : List Char) : Prop := ∀ c ∈ p, c ≠ '*' ∧ c ≠ '?'

instance (p : List Char) : Decidable (Literal p) := by unfold Literal; infer_instance

/-- `ws` has one piece for each pattern element, each accepted by its element -/
def SegPieces : List Char → List (List Char) → Prop
  | [], [] => True
  | a :: p, w :: ws => Fits a w ∧ SegPieces p ws
  | _, _ => False

inductive MatchComps : List String → List String → Prop
  | nil : MatchComps [] []
  | dstar_zero {ps cs : List String} : MatchComps ps cs → MatchComps ("**" :: ps) cs
  | dstar_more {ps cs : List String} (c : String) : MatchComps ("**" :: ps) cs → MatchComps ("**" :: ps) (c :: cs)
  | comp {p c : String} {ps cs : List String} : p ≠ "**" → MatchSeg p.toList c.toList → MatchComps ps cs →
      MatchComps (p :: ps) (c :: cs)

theorem globComps_nil_nil : globComps [] [] = true := by rw [globComps]

theorem globComps_nil_cons (c : String) (cs : List String) : globComps [] (c :: cs) = false := by rw [globComps]

theorem globComps_cons_nil (p : String) (ps : List String) : globComps (p :: ps) [] = (p == "**" && globComps ps []) := by
  rw [globComps]

theorem globComps_dstar_cons (ps : List String) (c : String) (cs : List String) :
    globComps ("**" :: ps) (c :: cs) = (globComps ps (c :: cs) || globComps ("**" :: ps) cs) := by
  rw [globComps]; simp

theorem globComps_comp_cons {p : String} (hp : p ≠ "**") (ps : List String) (c : String) (cs : List String) :
    globComps (p :: ps) (c :: cs) = (globSeg p.toList c.toList && globComps ps cs) := by
  rw [globComps]; simp [hp]

theorem globComps_sound (ps cs : List String) : globComps ps cs = true → MatchComps ps cs := by
  fun_induction globComps ps cs
  case case1 => intro _; exact .nil
  case case2 => intro h; cases h
  case case3 p ps ih =>
    intro h
    rcases Bool.and_eq_true _ _ |>.mp h with ⟨hp, h⟩
    have : p = "**" := by simpa using hp
    subst this
    exact .dstar_zero (ih h)
  case case4 p ps c cs hp ih2 ih1 =>
    intro h
    have : p = "**" := by simpa using hp
    subst this
    rcases Bool.or_eq_true _ _ |>.mp h with h | h
    · exact .dstar_zero (ih2 h)
    · exact .dstar_more c (ih1 h)
  case case5 p ps c cs hp ih =>
    intro h
    rcases Bool.and_eq_true _ _ |>.mp h with ⟨hseg, h⟩
    exact .comp (by simpa using hp) (globSeg_sound _ _ hseg) (ih h)

theorem globComps_complete {ps cs : List String} (h : MatchComps ps cs) : globComps ps cs = true := by
  induction h with
  | nil => exact globComps_nil_nil
  | @dstar_zero ps cs _ ih =>
    cases cs with
    | nil => rw [globComps_cons_nil, ih]; rfl
    | cons c cs => rw [globComps_dstar_cons, ih]; rfl
  | dstar_more c _ ih => rw [globComps_dstar_cons, ih]; simp
  | comp hp hseg _ ih => rw [globComps_comp_cons hp, ih, globSeg_complete hseg]; rfl

theorem globComps_iff (ps cs : List String) : globComps ps cs = true ↔ MatchComps ps cs :=
  ⟨globComps_sound ps cs, globComps_complete⟩

instance (ps cs : List String) : Decidable (MatchComps ps cs) := decidable_of_iff _ (globComps_iff ps cs)

/-- what one pattern component accepts: `**` any run of components, anything else one component it describes -/
def FitsComp (p : String) (w : List String) : Prop :=
  if p = "**" then True else ∃ c, w = [c] ∧ MatchSeg p.toList c.toList

theorem matchComps_nil_iff (cs : List String) : MatchComps [] cs ↔ cs = [] :=
  ⟨fun h => by cases h; rfl, fun h => h ▸ .nil⟩

/-- **the head of the pattern takes a run of components it accepts, the rest of the pattern describes the rest of the path** -/
theorem matchComps_cons_iff (p : String) (ps cs : List String) :
    MatchComps (p :: ps) cs ↔ ∃ w cs₂, cs = w ++ cs₂ ∧ FitsComp p w ∧ MatchComps ps cs₂ := by
  constructor
  · intro h
    generalize hq : p :: ps = q at h
    induction h with
    | nil => cases hq
    | dstar_zero h _ => cases hq; exact ⟨[], _, rfl, by simp [FitsComp], h⟩
    | dstar_more c _ ih =>
      cases hq
      obtain ⟨w, t, rfl, _, h⟩ := ih rfl
      exact ⟨c :: w, t, rfl, by simp [FitsComp], h⟩
    | comp hp hc h _ => cases hq; exact ⟨[_], _, rfl, by simp [FitsComp, hp, hc], h⟩
  · rintro ⟨w, t, rfl, hw, h⟩
    unfold FitsComp at hw
    split at hw
    · subst p
      induction w with
      | nil => exact .dstar_zero h
      | cons c w ih => exact .dstar_more c ih
    · obtain ⟨c, rfl, hc⟩ := hw; exact .comp ‹_› hc h

def CompPieces : List String → List (List String) → Prop
  | [], [] => True
  | p :: ps, w :: ws => FitsComp p w ∧ CompPieces ps ws
  | _, _ => False


/-- evaluates `"<literal>".splitOn "/"` (the function is defined by well-founded recursion on byte positions; neither `decide` nor
`rfl` reduce it, so it is unfolded step by step, every test on the literal being decided by the kernel) -/
macro "split_lit" : tactic =>
  `(tactic| (simp only [String.splitOn, show ("/" == "") = false by decide, Bool.false_eq_true, if_false]
             repeat (rw [String.splitOnAux]; simp (decide := true) only [↓reduceIte])))

theorem splitOn_py : "**/*.py".splitOn "/" = ["**", "*.py"] := by split_lit
theorem splitOn_pyi : "*.pyi".splitOn "/" = ["*.pyi"] := by split_lit
theorem splitOn_test_prefix : "test_*.py".splitOn "/" = ["test_*.py"] := by split_lit
theorem splitOn_test_suffix : "*_test.py".splitOn "/" = ["*_test.py"] := by split_lit

end PV.Files
