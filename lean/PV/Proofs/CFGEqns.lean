import PV.Proofs.CFGFrame
/-!
Unfolding equations of the CFG mirror's builder functions, written with the named state updates of `CFGFrame` (`bump`, `setCur`, …).
The well-founded mutual definitions are never unfolded elsewhere.  Each equation unfolds the definition once; where both sides
are not syntactically close, the `if`s are decided before `rfl`, because left to the unifier that comparison is what costs.
Compound statements are cut into named pieces: the stage functions of `try` (`tryPre`, `tryMid`, `tryElse`, `tryFin`), `finishElif`,
and the states in which nested bodies are processed (`classPre`, `withPre`, `loopPre`, `loopElsePre`, `matchPre`, `casePre`,
`handlerPre`, `finPre`, `ifPre`, `elifPre`); these are what `Run` (CFGRun) and the inductions over it work with.  `ifHead`, `elifHead`
and `elseTail` only shorten the equations of `procIf` / `procIfElif` in this file.  `Chain` names an else-part that continues an
`if`/`elif` chain.  `stmt_rs_ind` is the structural induction principle over programs.
-/
namespace PV.CFGSound
open PV.CFG

theorem Stmt.size_pos (x : Stmt) : 1 ≤ x.size := by
  cases x <;> simp only [Stmt.size] <;> omega

/-- structural induction on statements and statement lists (the recursor of the nested inductive type) -/
theorem stmt_rs_ind {PS : Stmt → Prop} {PL : List Stmt → Prop}
    (simple : ∀ s e c h, PS (.simple s e c h)) (ret : ∀ s e c h, PS (.ret s e c h))
    (brk : ∀ s e, PS (.brk s e)) (cont : ∀ s e, PS (.cont s e)) (raise : ∀ s e, PS (.raise s e))
    (ite : ∀ s e a b, PL a → PL b → PS (.ite s e a b))
    (elifc : ∀ s e a b, PL a → PL b → PS (.elifc s e a b))
    (elsec : ∀ s e a, PL a → PS (.elsec s e a))
    (loop : ∀ s e a b, PL a → PL b → PS (.loop s e a b))
    (try_ : ∀ s e a hs c d, PL a → PL hs → PL c → PL d → PS (.try_ s e a hs c d))
    (handler : ∀ s e a, PL a → PS (.handler s e a))
    (with_ : ∀ s e a, PL a → PS (.with_ s e a))
    (match_ : ∀ s e a, PL a → PS (.match_ s e a))
    (case_ : ∀ s e a, PL a → PS (.case_ s e a))
    (def_ : ∀ s e a, PS (.def_ s e a))
    (class_ : ∀ s e a, PL a → PS (.class_ s e a))
    (nil : PL []) (cons : ∀ x xs, PS x → PL xs → PL (x :: xs)) : (∀ x, PS x) ∧ (∀ ss, PL ss) :=
  ⟨fun x => Stmt.rec (motive_1 := PS) (motive_2 := PL) simple ret brk cont raise ite elifc elsec loop try_ handler with_ match_ case_
      (fun s e a _ => def_ s e a) class_ nil cons x,
   fun ss => Stmt.rec_1 (motive_1 := PS) (motive_2 := PL) simple ret brk cont raise ite elifc elsec loop try_ handler with_ match_ case_
      (fun s e a _ => def_ s e a) class_ nil cons ss⟩

/-- inversion of a predicate on lists of alternatives (`case` / `except` clauses, made by `k`) that holds of a clause if `q` holds of
its body, and of nothing else -/
theorem alts_cons {k : Nat → Nat → List Stmt → Stmt} {p q : List Stmt → Bool} (hk : ∀ s e a cs, p (k s e a :: cs) = (q a && p cs))
    (ho : ∀ x cs, (∀ s e a, x = k s e a → False) → p (x :: cs) = false) {x : Stmt} {cs : List Stmt} (h : p (x :: cs) = true) :
    ∃ s e a, x = k s e a ∧ q a = true ∧ p cs = true := by
  by_cases hx : ∃ s e a, x = k s e a
  · obtain ⟨s, e, a, rfl⟩ := hx
    rw [hk, Bool.and_eq_true] at h
    exact ⟨s, e, a, rfl, h⟩
  · rw [ho x cs (fun s e a hxe => hx ⟨s, e, a, hxe⟩)] at h
    cases h

theorem procList_nil (st : St) : procList st [] = st := procList.eq_1 ..
theorem procList_cons (st : St) (x : Stmt) (xs : List Stmt) : procList st (x :: xs) = procList (procStmt st x) xs :=
  procList.eq_2 ..

theorem go_nil (s e : Nat) (st : St) (cp : Nat) : procComp.go s e [] st cp = (st, cp) := procComp.go.eq_1 ..
theorem go_cons (s e : Nat) (hasTest : Bool) (rest : List Bool) (st : St) (cp : Nat) :
    procComp.go s e (hasTest :: rest) st cp =
      let hdr := st.next
      let s1 := ((bump st).edge cp hdr .normal).add hdr s e .other
      let body := st.next + 1
      let s2 := (bump s1).edge hdr body .condT
      let s3 :=
        if hasTest then
          let flt := st.next + 2
          let app := st.next + 3
          ((bump ((((bump s2).edge body flt .normal).add flt s e .other))).edge flt app .condT |>.edge flt hdr .condF
            |>.add app s e .other).edge app hdr .loop
        else
          let app := st.next + 2
          ((bump (s2.add body s e .other)).edge body app .normal).edge app hdr .loop
      procComp.go s e rest s3 hdr := by
  rw [procComp.go]; cases hasTest <;> rfl

theorem procComp_eq (st : St) (s e : Nat) (comp : List Bool) :
    procComp st s e comp =
      let initB := st.next
      let exitBk := st.next + 1
      let s1 := bump (((bump st).edge st.cur initB .normal).add initB s e .other)
      let r := procComp.go s e comp s1 initB
      setCur (if r.2 != initB then r.1.edge r.2 exitBk .condF else r.1.edge initB exitBk .normal) exitBk := by
  unfold procComp; rfl

theorem procRet_eq (st : St) (s e : Nat) (comp : List Bool) (hasComp : Bool) :
    procRet st s e comp hasComp =
      let st0 := if hasComp then procComp st s e comp else st
      let st1 := st0.add st0.cur s e .ret
      let st2 := match targetFinallyRet st1 with
        | some f => st1.edge st1.cur f .ret
        | none => st1.edge st1.cur exitB .ret
      setCur (bumpU st2) st2.next := by
  unfold procRet; rfl

theorem procBrk_eq (st : St) (s e : Nat) :
    procBrk st s e =
      let st1 := st.add st.cur s e .brk
      match st1.loops with
      | [] => st1
      | (_, ex, d) :: _ =>
        let st2 := match targetFinallyLoop st1 d with
          | some f => st1.edge st1.cur f .brk
          | none => st1.edge st1.cur ex .brk
        setCur (bumpU st2) st2.next := by
  unfold procBrk; rfl

theorem procCont_eq (st : St) (s e : Nat) :
    procCont st s e =
      let st1 := st.add st.cur s e .cont
      match st1.loops with
      | [] => st1
      | (hdr, _, d) :: _ =>
        let st2 := match targetFinallyLoop st1 d with
          | some f => st1.edge st1.cur f .cont
          | none => st1.edge st1.cur hdr .cont
        setCur (bumpU st2) st2.next := by
  unfold procCont; rfl

theorem procRaise_eq (st : St) (s e : Nat) :
    procRaise st s e =
      let st1 := st.add st.cur s e .raise
      let st2 := match targetFinally st1 with
        | some f => st1.edge st1.cur f .exc
        | none =>
          match fallbackExc st1 with
          | some c => if c.handlers.length > 0 then c.handlers.foldl (fun st h => st.edge st.cur h .exc) st1 else st1.edge st1.cur exitB .exc
          | none => st1.edge st1.cur exitB .exc
      setCur (bumpU st2) st2.next := by
  unfold procRaise; rfl

theorem procStmt_simple (st : St) (s e : Nat) (c : List Bool) (h : Bool) :
    procStmt st (.simple s e c h) =
      (if h then (procComp st s e c).add (procComp st s e c).cur s e .other else st.add st.cur s e .other) :=
  procStmt.eq_1 ..
theorem procStmt_ret (st : St) (s e : Nat) (c : List Bool) (h : Bool) : procStmt st (.ret s e c h) = procRet st s e c h :=
  procStmt.eq_2 ..
theorem procStmt_brk (st : St) (s e : Nat) : procStmt st (.brk s e) = procBrk st s e := procStmt.eq_3 ..
theorem procStmt_cont (st : St) (s e : Nat) : procStmt st (.cont s e) = procCont st s e := procStmt.eq_4 ..
theorem procStmt_raise (st : St) (s e : Nat) : procStmt st (.raise s e) = procRaise st s e := procStmt.eq_5 ..
theorem procStmt_def (st : St) (s e : Nat) (b : List Stmt) : procStmt st (.def_ s e b) = st.add st.cur s e .other := procStmt.eq_6 ..
theorem procStmt_class (st : St) (s e : Nat) (b : List Stmt) : procStmt st (.class_ s e b) = procClass st s e b := procStmt.eq_7 ..
theorem procStmt_ite (st : St) (s e : Nat) (a b : List Stmt) : procStmt st (.ite s e a b) = procIf st s e a b := procStmt.eq_8 ..
theorem procStmt_elifc (st : St) (s e : Nat) (a b : List Stmt) : procStmt st (.elifc s e a b) = procIf st 0 0 a b := procStmt.eq_9 ..
theorem procStmt_elsec (st : St) (s e : Nat) (b : List Stmt) : procStmt st (.elsec s e b) = procList st b := procStmt.eq_10 ..
theorem procStmt_loop (st : St) (s e : Nat) (a b : List Stmt) : procStmt st (.loop s e a b) = procLoop st s e a b := procStmt.eq_11 ..
theorem procStmt_try (st : St) (s e : Nat) (a b c d : List Stmt) : procStmt st (.try_ s e a b c d) = procTry st s e a b c d := procStmt.eq_12 ..
theorem procStmt_handler (st : St) (s e : Nat) (b : List Stmt) : procStmt st (.handler s e b) = st.add st.cur s e .other := procStmt.eq_13 ..
theorem procStmt_with (st : St) (s e : Nat) (b : List Stmt) : procStmt st (.with_ s e b) = procWith st s e b := procStmt.eq_14 ..
theorem procStmt_match (st : St) (s e : Nat) (b : List Stmt) : procStmt st (.match_ s e b) = procMatch st s e b := procStmt.eq_15 ..
theorem procStmt_case (st : St) (s e : Nat) (b : List Stmt) : procStmt st (.case_ s e b) = st.add st.cur s e .other := procStmt.eq_16 ..

theorem procElse_eq (st : St) (l : List Stmt) : procElse st l = procList st l := by
  induction l generalizing st with
  | nil => rw [procElse.eq_1, procList_nil]
  | cons x xs ih =>
    rw [procList_cons]
    by_cases hx : ∃ s e b, x = .elsec s e b
    · obtain ⟨s, e, b, rfl⟩ := hx
      rw [procElse.eq_2, ih, procStmt_elsec]
    · rw [procElse.eq_3 st x xs (fun s e b h => hx ⟨s, e, b, h⟩), ih]

theorem procClass_eq (st : St) (s e : Nat) (body : List Stmt) :
    procClass st s e body =
      procList ((setCur ((bump st).edge st.cur st.next .normal) st.next).add st.next s e .other) body := by
  rw [procClass]; rfl

def classPre (st : St) (s e : Nat) : St := (setCur ((bump st).edge st.cur st.next .normal) st.next).add st.next s e .other

theorem procClass_pre (st : St) (s e : Nat) (body : List Stmt) : procClass st s e body = procList (classPre st s e) body :=
  procClass_eq st s e body

/-- the part of `procIf` before the branch on `orelse` -/
def ifHead (st : St) (s e : Nat) (thn : List Stmt) : St :=
  procList (setCur ((bump (bump (st.add st.cur s e .other))).edge st.cur st.next .condT) st.next) thn

theorem procIf_nil (st : St) (s e : Nat) (thn : List Stmt) :
    procIf st s e thn [] =
      let s3 := ifHead st s e thn
      setCur ((s3.edge st.cur (st.next + 1) .condF).edgeUnlessExit s3.cur (st.next + 1) .normal) (st.next + 1) := by
  rw [procIf]
  simp only [St.newBlock, ifHead, setCur, bump]
  rfl

theorem procIf_elif (st : St) (s e : Nat) (thn : List Stmt) (s' e' : Nat) (thn' orelse' : List Stmt) :
    procIf st s e thn [.elifc s' e' thn' orelse'] =
      procIfElifTail (ifHead st s e thn) st.cur (ifHead st s e thn).cur (st.next + 1) 0 0 thn' orelse' := by
  rw [procIf]; rfl

theorem procIf_ite (st : St) (s e : Nat) (thn : List Stmt) (s' e' : Nat) (thn' orelse' : List Stmt) :
    procIf st s e thn [.ite s' e' thn' orelse'] =
      procIfElifTail (ifHead st s e thn) st.cur (ifHead st s e thn).cur (st.next + 1) s' e' thn' orelse' := by
  rw [procIf]; rfl

/-- the general `else` continuation shared by `procIf` and `procIfElif` -/
def elseTail (s3 : St) (cond _thenEnd : Nat) (orelse : List Stmt) : St :=
  procList (setCur ((bump s3).edge cond s3.next .condF) s3.next) orelse

theorem procIf_else (st : St) (s e : Nat) (thn : List Stmt) (o : Stmt) (os : List Stmt)
    (h1 : ∀ s' e' a b, o :: os ≠ [.elifc s' e' a b]) (h2 : ∀ s' e' a b, o :: os ≠ [.ite s' e' a b]) :
    procIf st s e thn (o :: os) =
      let s3 := ifHead st s e thn
      let s5 := elseTail s3 st.cur s3.cur (o :: os)
      if s5.blockTerminates s3.cur && s5.blockTerminates s5.cur then setCur (bumpU s5) s5.next
      else setCur ((s5.edgeUnlessExit s3.cur (st.next + 1) .normal).edgeUnlessExit
        (s5.edgeUnlessExit s3.cur (st.next + 1) .normal).cur (st.next + 1) .normal) (st.next + 1) := by
  rw [procIf]
  simp only [St.newBlock]
  rw [procIf.match_1.eq_4 _ o os _ _ _ _ (fun s' e' a b ho hos => h1 s' e' a b (by rw [ho, hos]))
    (fun s' e' a b ho hos => h2 s' e' a b (by rw [ho, hos]))]
  simp only [procElse_eq]
  rfl

theorem procIfElifTail_eq (st : St) (cond thenEnd merge s' e' : Nat) (thn' orelse' : List Stmt) :
    procIfElifTail st cond thenEnd merge s' e' thn' orelse' =
      let s5 := procIfElif (setCur ((bump st).edge cond st.next .condF) st.next) s' e' thn' orelse' merge
      if s5.unreach.contains s5.cur then
        if s5.blockTerminates thenEnd then s5
        else setCur ((setCur s5 merge).edgeUnlessExit thenEnd merge .normal) merge
      else setCur (s5.edgeUnlessExit thenEnd merge .normal) merge := by
  rw [procIfElifTail]; rfl

/-- the part of `procIfElif` before the branch on `orelse` -/
def elifHead (st : St) (s e : Nat) (thn : List Stmt) : St :=
  procList (setCur ((bump (st.add st.cur s e .other)).edge st.cur st.next .condT) st.next) thn

/-- the states in which the first branch of an `if` / of a clause of the chain is processed -/
def ifPre (st : St) (s e : Nat) : St := setCur ((bump (bump (st.add st.cur s e .other))).edge st.cur st.next .condT) st.next
def elifPre (st : St) (s e : Nat) : St := setCur ((bump (st.add st.cur s e .other)).edge st.cur st.next .condT) st.next

def finishElif (s : St) (thenEnd finalMerge : Nat) : St := setCur (s.edgeUnlessExit thenEnd finalMerge .normal) finalMerge

theorem procIfElif_nil (st : St) (s e : Nat) (thn : List Stmt) (fm : Nat) :
    procIfElif st s e thn [] fm =
      let s3 := elifHead st s e thn
      finishElif (s3.edge st.cur fm .condF) s3.cur fm := by
  rw [procIfElif]; rfl

theorem procIfElif_elif (st : St) (s e : Nat) (thn : List Stmt) (fm s' e' : Nat) (thn' orelse' : List Stmt) :
    procIfElif st s e thn [.elifc s' e' thn' orelse'] fm =
      let s3 := elifHead st s e thn
      finishElif (procIfElif (setCur ((bump s3).edge st.cur s3.next .condF) s3.next) 0 0 thn' orelse' fm) s3.cur fm := by
  rw [procIfElif]; rfl

theorem procIfElif_ite (st : St) (s e : Nat) (thn : List Stmt) (fm s' e' : Nat) (thn' orelse' : List Stmt) :
    procIfElif st s e thn [.ite s' e' thn' orelse'] fm =
      let s3 := elifHead st s e thn
      finishElif (procIfElif (setCur ((bump s3).edge st.cur s3.next .condF) s3.next) s' e' thn' orelse' fm) s3.cur fm := by
  rw [procIfElif]; rfl

theorem procIfElif_else (st : St) (s e : Nat) (thn : List Stmt) (fm : Nat) (o : Stmt) (os : List Stmt)
    (h1 : ∀ s' e' a b, o :: os ≠ [.elifc s' e' a b]) (h2 : ∀ s' e' a b, o :: os ≠ [.ite s' e' a b]) :
    procIfElif st s e thn (o :: os) fm =
      let s3 := elifHead st s e thn
      let s5 := elseTail s3 st.cur s3.cur (o :: os)
      if s5.blockTerminates s3.cur && s5.blockTerminates s5.cur then setCur (bumpU s5) s5.next
      else finishElif (s5.edgeUnlessExit s5.cur fm .normal) s3.cur fm := by
  rw [procIfElif]
  simp only [St.newBlock]
  -- `procIfElif` branches on `orelse` through the same generated matcher as `procIf`
  rw [procIf.match_1.eq_4 _ o os _ _ _ _ (fun s' e' a b ho hos => h1 s' e' a b (by rw [ho, hos]))
    (fun s' e' a b ho hos => h2 s' e' a b (by rw [ho, hos]))]
  simp only [procElse_eq]
  rfl

theorem orelse_cases (l : List Stmt) :
    l = [] ∨ (∃ s e a b, l = [.elifc s e a b]) ∨ (∃ s e a b, l = [.ite s e a b]) ∨
      (∃ o os, l = o :: os ∧ (∀ s e a b, o :: os ≠ [.elifc s e a b]) ∧ (∀ s e a b, o :: os ≠ [.ite s e a b])) := by
  rcases l with _ | ⟨o, os⟩
  · exact .inl rfl
  · rcases os with _ | ⟨o2, os2⟩
    · cases o
      case elifc s e a b => exact .inr (.inl ⟨s, e, a, b, rfl⟩)
      case ite s e a b => exact .inr (.inr (.inl ⟨s, e, a, b, rfl⟩))
      all_goals (refine .inr (.inr (.inr ⟨_, _, rfl, ?_, ?_⟩)) <;> (intro _ _ _ _ h; cases h))
    · refine .inr (.inr (.inr ⟨_, _, rfl, ?_, ?_⟩)) <;> (intro _ _ _ _ h; cases h)

/-- `l` is an else-part that `procIf` / `procIfElif` continue as a chain with branches `a`, `b`: a single `elif` clause (its
test is recorded at line 0) or a single nested `if` (its test is recorded at its own position `s' e'`) -/
inductive Chain : List Stmt → Nat → Nat → List Stmt → List Stmt → Prop
  | elifc (s e : Nat) (a b : List Stmt) : Chain [.elifc s e a b] 0 0 a b
  | ite (s e : Nat) (a b : List Stmt) : Chain [.ite s e a b] s e a b

theorem chain_cases (l : List Stmt) :
    l = [] ∨ (∃ s' e' a b, Chain l s' e' a b) ∨
      (∃ o os, l = o :: os ∧ (∀ s e a b, o :: os ≠ [.elifc s e a b]) ∧ (∀ s e a b, o :: os ≠ [.ite s e a b])) := by
  rcases orelse_cases l with h | ⟨s, e, a, b, rfl⟩ | ⟨s, e, a, b, rfl⟩ | h
  · exact .inl h
  · exact .inr (.inl ⟨0, 0, a, b, .elifc s e a b⟩)
  · exact .inr (.inl ⟨s, e, a, b, .ite s e a b⟩)
  · exact .inr (.inr h)

section chain
variable {l a b : List Stmt} {s' e' : Nat} (h : Chain l s' e' a b)
include h

theorem Chain.procIfElif (st : St) (s e : Nat) (thn : List Stmt) (fm : Nat) :
    procIfElif st s e thn l fm =
      finishElif (PV.CFG.procIfElif (setCur ((bump (elifHead st s e thn)).edge st.cur (elifHead st s e thn).next .condF)
        (elifHead st s e thn).next) s' e' a b fm) (elifHead st s e thn).cur fm := by
  cases h
  · exact procIfElif_elif ..
  · exact procIfElif_ite ..

theorem Chain.procIf (st : St) (s e : Nat) (thn : List Stmt) :
    procIf st s e thn l = procIfElifTail (ifHead st s e thn) st.cur (ifHead st s e thn).cur (st.next + 1) s' e' a b := by
  cases h
  · exact procIf_elif ..
  · exact procIf_ite ..

end chain

theorem procLoop_eq (st : St) (s e : Nat) (body orelse : List Stmt) :
    procLoop st s e body orelse =
      let hdr := st.next
      let bodyB := st.next + 1
      let exitBk := st.next + 2
      let hasElse := !orelse.isEmpty
      let elseB := if hasElse then st.next + 3 else 0
      let s1 := bump (bump (((bump st).edge st.cur hdr .normal).add hdr s e .other))
      let s2 := if hasElse then bump s1 else s1
      let s3 := (setLoops s2 ((hdr, exitBk, st.excs.length) :: st.loops)).edge hdr bodyB .condT
      let s4 := if hasElse then s3.edge hdr elseB .condF else s3.edge hdr exitBk .condF
      let s5 := procList (setCur s4 bodyB) body
      let s6 := setLoops (s5.edgeUnlessExit s5.cur hdr .loop) st.loops
      let s7 :=
        if hasElse then
          let s8 := procList (setCur s6 elseB) orelse
          s8.edgeUnlessExit s8.cur exitBk .normal
        else s6
      setLoops (setCur s7 exitBk) st.loops := by
  rw [procLoop]
  cases orelse <;>
    simp only [List.isEmpty_nil, List.isEmpty_cons, Bool.not_true, Bool.not_false, Bool.false_eq_true, ↓reduceIte,
      bump, setCur, setLoops, St.newBlock] <;> rfl

/-- the state in which the body of a loop is processed (`hasElse`: one more block is allocated, and the exit edge of the header goes
there) -/
def loopPre (st : St) (s e : Nat) (hasElse : Bool) : St :=
  let s1 := bump (bump (((bump st).edge st.cur st.next .normal).add st.next s e .other))
  let s3 := (setLoops (if hasElse then bump s1 else s1) ((st.next, st.next + 2, st.excs.length) :: st.loops)).edge st.next (st.next + 1) .condT
  setCur (if hasElse then s3.edge st.next (st.next + 3) .condF else s3.edge st.next (st.next + 2) .condF) (st.next + 1)

/-- the state in which the `else` clause of a loop is processed (`s5`: the state after the body) -/
def loopElsePre (st s5 : St) : St := setCur (setLoops (s5.edgeUnlessExit s5.cur st.next .loop) st.loops) (st.next + 3)

theorem loopPre_stmts (st : St) (s e : Nat) (hasElse : Bool) :
    (loopPre st s e hasElse).stmts = { blk := st.next, s := s, e := e, ty := .other } :: st.stmts := by
  cases hasElse <;> rfl

theorem loopElsePre_next (st s5 : St) : (loopElsePre st s5).next = s5.next := by simp [loopElsePre]
theorem loopElsePre_stmts (st s5 : St) : (loopElsePre st s5).stmts = s5.stmts := by simp [loopElsePre]
theorem loopElsePre_excs (st s5 : St) : (loopElsePre st s5).excs = s5.excs := by simp [loopElsePre]

theorem procLoop_nil (st : St) (s e : Nat) (body : List Stmt) :
    procLoop st s e body [] =
      let s5 := procList (loopPre st s e false) body
      setLoops (setCur (setLoops (s5.edgeUnlessExit s5.cur st.next .loop) st.loops) (st.next + 2)) st.loops := by
  rw [procLoop_eq]; rfl

theorem procLoop_cons (st : St) (s e : Nat) (body : List Stmt) (o : Stmt) (os : List Stmt) :
    procLoop st s e body (o :: os) =
      let s8 := procList (loopElsePre st (procList (loopPre st s e true) body)) (o :: os)
      setLoops (setCur (s8.edgeUnlessExit s8.cur (st.next + 2) .normal) (st.next + 2)) st.loops := by
  rw [procLoop_eq]; rfl

theorem procWith_eq (st : St) (s e : Nat) (body : List Stmt) :
    procWith st s e body =
      let setup := st.next
      let bodyB := st.next + 1
      let tear := st.next + 2
      let exitBk := st.next + 3
      let s1 := (bump (bump (bump (((bump st).edge st.cur setup .normal).add setup s e .other)))).edge setup bodyB .normal
      let s2 := procList (setCur s1 bodyB) body
      setCur (((s2.edgeUnlessExit s2.cur tear .normal).edge setup tear .exc).edge tear exitBk .normal) exitBk := by
  rw [procWith]; rfl

def withPre (st : St) (s e : Nat) : St :=
  setCur ((bump (bump (bump (((bump st).edge st.cur st.next .normal).add st.next s e .other)))).edge st.next (st.next + 1) .normal)
    (st.next + 1)

theorem procWith_pre (st : St) (s e : Nat) (body : List Stmt) :
    procWith st s e body =
      let s2 := procList (withPre st s e) body
      setCur (((s2.edgeUnlessExit s2.cur (st.next + 2) .normal).edge st.next (st.next + 2) .exc).edge (st.next + 2) (st.next + 3) .normal)
        (st.next + 3) :=
  procWith_eq st s e body

theorem procMatch_eq (st : St) (s e : Nat) (cases : List Stmt) :
    procMatch st s e cases =
      let mb := st.next
      let merge := st.next + 1
      let s1 := bump (((bump st).edge st.cur mb .normal).add mb s e .other)
      let s2 := if !cases.isEmpty then (procCases s1 cases mb merge).edge mb merge .condF else s1.edge mb merge .normal
      setCur s2 merge := by
  rw [procMatch]; rfl

theorem procCases_nil (st : St) (mb merge : Nat) : procCases st [] mb merge = st := procCases.eq_3 ..
theorem procCases_case (st : St) (s e : Nat) (body cs : List Stmt) (mb merge : Nat) :
    procCases st (.case_ s e body :: cs) mb merge =
      let cb := st.next
      let s1 := procList ((setCur ((bump st).edge mb cb .condT) cb).add cb s e .other) body
      procCases (s1.edgeUnlessExit s1.cur merge .normal) cs mb merge :=
  procCases.eq_1 ..
theorem procCases_other (st : St) (x : Stmt) (cs : List Stmt) (mb merge : Nat) (h : ∀ s e b, x ≠ .case_ s e b) :
    procCases st (x :: cs) mb merge =
      let cb := st.next
      let s1 := procStmt (setCur ((bump st).edge mb cb .condT) cb) x
      procCases (s1.edgeUnlessExit s1.cur merge .normal) cs mb merge :=
  procCases.eq_2 st mb merge x cs h

def matchPre (st : St) (s e : Nat) : St := bump (((bump st).edge st.cur st.next .normal).add st.next s e .other)

theorem procMatch_pre (st : St) (s e : Nat) (cases : List Stmt) :
    procMatch st s e cases =
      setCur (if !cases.isEmpty then (procCases (matchPre st s e) cases st.next (st.next + 1)).edge st.next (st.next + 1) .condF
        else (matchPre st s e).edge st.next (st.next + 1) .normal) (st.next + 1) :=
  procMatch_eq st s e cases

/-- the state in which the body of a `case` clause is processed (`mb`: the block of the subject) -/
def casePre (st : St) (mb s e : Nat) : St := (setCur ((bump st).edge mb st.next .condT) st.next).add st.next s e .other

theorem procCases_pre (st : St) (s e : Nat) (body cs : List Stmt) (mb merge : Nat) :
    procCases st (.case_ s e body :: cs) mb merge =
      let s1 := procList (casePre st mb s e) body
      procCases (s1.edgeUnlessExit s1.cur merge .normal) cs mb merge :=
  procCases_case st s e body cs mb merge

theorem procHandlers_handler (st : St) (s e : Nat) (body hs : List Stmt) (hb : Nat) (hbs : List Nat) (after : Nat) :
    procHandlers st (.handler s e body :: hs) (hb :: hbs) after =
      let s1 := procList ((setCur st hb).add hb s e .other) body
      procHandlers (s1.edgeUnlessExit s1.cur after .normal) hs hbs after :=
  procHandlers.eq_1 ..
theorem procHandlers_other (st : St) (x : Stmt) (hs : List Stmt) (hb : Nat) (hbs : List Nat) (after : Nat)
    (h : ∀ s e b, x ≠ .handler s e b) :
    procHandlers st (x :: hs) (hb :: hbs) after =
      let s1 := procStmt (setCur st hb) x
      procHandlers (s1.edgeUnlessExit s1.cur after .normal) hs hbs after :=
  procHandlers.eq_2 st after x hs hb hbs h
theorem procHandlers_nil_l (st : St) (hbs : List Nat) (after : Nat) : procHandlers st [] hbs after = st :=
  procHandlers.eq_3 st [] hbs after (fun _ _ _ _ _ _ h _ => nomatch h) (fun _ _ _ _ h _ => nomatch h)
theorem procHandlers_nil_r (st : St) (hs : List Stmt) (after : Nat) : procHandlers st hs [] after = st :=
  procHandlers.eq_3 st hs [] after (fun _ _ _ _ _ _ _ h => nomatch h) (fun _ _ _ _ _ h => nomatch h)

/-- the state in which the body of an `except` clause is processed (`hb`: its block) -/
def handlerPre (st : St) (hb s e : Nat) : St := (setCur st hb).add hb s e .other

theorem procHandlers_pre (st : St) (s e : Nat) (body hs : List Stmt) (hb : Nat) (hbs : List Nat) (after : Nat) :
    procHandlers st (.handler s e body :: hs) (hb :: hbs) after =
      let s1 := procList (handlerPre st hb s e) body
      procHandlers (s1.edgeUnlessExit s1.cur after .normal) hs hbs after :=
  procHandlers_handler st s e body hs hb hbs after

/-- block allocation at the start of `procTry`: (state, finally block, else block) -/
def tryPre (st : St) (hasFin hasElse : Bool) : St × Nat × Nat :=
  let s1 := bump ((bump st).edge st.cur st.next .normal)
  let finB := if hasFin then s1.next else 0
  let s2 := if hasFin then bump s1 else s1
  let elseB := if hasElse then s2.next else 0
  let s3 := if hasElse then bump s2 else s2
  (s3, finB, elseB)

/-- the stage of `procTry` from the try body to the handlers; `nat`, `ah`: the builder's `nextAfterTry` (else block, else finally block,
else exit block) and `nextAfterHandler` (finally block, else exit block) -/
def tryMid (s3 : St) (tryB : Nat) (cfin : Option Nat) (excs0 : List Exc) (nat ah : Nat) (body handlers : List Stmt) : St :=
  let hbs : List Nat := (List.range handlers.length).map (fun k => s3.next + k)
  let ctx : Exc := { fin := cfin, handlers := hbs, processingFinally := false }
  let s4 := setExcs (bumpN s3 handlers.length) (ctx :: excs0)
  let s5 := procList (setCur s4 tryB) body
  let s6 := hbs.foldl (fun st h => st.edge tryB h .exc) (s5.edgeUnlessExit s5.cur nat .normal)
  procHandlers s6 handlers hbs ah

def tryElse (s7 : St) (hasElse : Bool) (elseB ah : Nat) (orelse : List Stmt) : St :=
  if hasElse then
    let s := procList (setCur s7 elseB) orelse
    s.edgeUnlessExit s.cur ah .normal
  else s7

/-- the state in which a `finally` body is processed: its block is current and its context is marked as being processed
(`tryFin` below spells it out) -/
def finPre (s8 : St) (finB : Nat) (ctx : Exc) (excs0 : List Exc) : St :=
  setExcs (setCur s8 finB) ({ ctx with processingFinally := true } :: excs0)

def tryFin (s8 : St) (hasFin : Bool) (finB exitBk : Nat) (ctx : Exc) (excs0 : List Exc) (fin : List Stmt) : St :=
  if hasFin then
    let s := procList (setExcs (setCur s8 finB) ({ ctx with processingFinally := true } :: excs0)) fin
    let s := setExcs s (ctx :: excs0)
    finallyPropagation (s.edgeUnlessExit s.cur exitBk .normal) finB
  else s8

theorem procTry_eq (st : St) (s e : Nat) (body handlers orelse fin : List Stmt) :
    procTry st s e body handlers orelse fin =
      let hasFin := !fin.isEmpty
      let hasElse := !orelse.isEmpty
      let p := tryPre st hasFin hasElse
      let cfin : Option Nat := if hasFin then some p.2.1 else none
      let ctx : Exc := { fin := cfin, handlers := (List.range handlers.length).map (fun k => p.1.next + k), processingFinally := false }
      let nat := if hasElse then p.2.2 else if hasFin then p.2.1 else st.next + 1
      let ah := if hasFin then p.2.1 else st.next + 1
      let s7 := tryMid p.1 st.next cfin st.excs nat ah body handlers
      let s8 := tryElse s7 hasElse p.2.2 ah orelse
      let s9 := tryFin s8 hasFin p.2.1 (st.next + 1) ctx st.excs fin
      setExcs (setCur s9 (st.next + 1)) st.excs := by
  rw [procTry]
  cases fin <;> cases orelse <;>
    simp only [List.isEmpty_nil, List.isEmpty_cons, Bool.not_true, Bool.not_false, Bool.false_eq_true, ↓reduceIte,
      tryPre, tryMid, tryElse, tryFin, bump, bumpN, setCur, setExcs, St.newBlock] <;> rfl

end PV.CFGSound
