import PV.Proofs.CFGRangesDefs
/-!
Reported ranges — the final step: from the facts about the record list (`Rel` pairwise, `GZ`) to the statement about `findings`
(`findings_sound`): no located statement of a reachable block starts inside the line range of a finding.  The summary of block `b`
is a pure function `infoR b L` of the record list (`blockInfo_getD`); under `GZ` the records of `b` are one consecutive segment
`h :: t` of the list, and only `h` may have end line 0 (`GZ.decomp`).  The summary of such a segment ends with `h` and starts with one
of its records (`infoR_seg`), at or before every located one if they are in source order (`infoR_seg_start`); so a finding is made
of a first and a last record of an unreachable block (`findings_seg`, `findings_shape`).
-/
namespace PV.CFGSound
open PV.CFG

/-- the update of `blockInfo` on the summary of the block of `r` -/
def upd (i : BInfo) (r : SRec) : BInfo :=
  if i.nonEmpty then { i with stop := r.e, hasTerm := i.hasTerm || r.ty != .other }
  else { start := r.s, stop := r.e, hasTerm := r.ty != .other, nonEmpty := true }

/-- one step of `blockInfo` -/
def stepA (a : Array BInfo) (r : SRec) : Array BInfo := a.setIfInBounds r.blk (upd (a.getD r.blk {}) r)

/-- summary of block `b` from the record list (newest first) -/
def infoR (b : Nat) : List SRec → BInfo
  | [] => {}
  | r :: L => if r.blk = b then upd (infoR b L) r else infoR b L

theorem upd_stop (i : BInfo) (r : SRec) : (upd i r).stop = r.e := by
  unfold upd; split <;> rfl

theorem upd_nonEmpty (i : BInfo) (r : SRec) : (upd i r).nonEmpty = true := by
  unfold upd; split
  · assumption
  · rfl

theorem upd_start_of_nonEmpty {i : BInfo} (r : SRec) (h : i.nonEmpty = true) : (upd i r).start = i.start := by
  unfold upd; rw [if_pos h]

theorem upd_start_of_empty {i : BInfo} (r : SRec) (h : i.nonEmpty = false) : (upd i r).start = r.s := by
  unfold upd; rw [if_neg (by rw [h]; exact Bool.false_ne_true)]

theorem blockInfo_eq (st : St) :
    blockInfo st = st.stmts.foldr (fun r a => stepA a r) (Array.replicate st.next {}) := by
  unfold blockInfo
  rw [List.foldl_reverse]
  rfl

theorem foldr_stepA_size (a0 : Array BInfo) : ∀ L : List SRec, (L.foldr (fun r a => stepA a r) a0).size = a0.size
  | [] => rfl
  | r :: L => by
    rw [List.foldr_cons]
    show (stepA _ r).size = _
    unfold stepA
    rw [Array.size_setIfInBounds]
    exact foldr_stepA_size a0 L

theorem stepA_getD (a : Array BInfo) (r : SRec) {b : Nat} (hb : b < a.size) :
    (stepA a r).getD b {} = if r.blk = b then upd (a.getD b {}) r else a.getD b {} := by
  unfold stepA
  by_cases h : r.blk = b
  · subst h
    rw [if_pos rfl]
    simp [Array.getD, hb]
  · rw [if_neg h]
    simp [Array.getD, hb, h]

theorem foldr_stepA_getD {b : Nat} (a0 : Array BInfo) (hb : b < a0.size) (h0 : a0.getD b {} = {}) :
    ∀ L : List SRec, (L.foldr (fun r a => stepA a r) a0).getD b {} = infoR b L
  | [] => h0
  | r :: L => by
    rw [List.foldr_cons]
    show (stepA _ r).getD b {} = _
    rw [stepA_getD _ r (by rw [foldr_stepA_size]; exact hb), foldr_stepA_getD a0 hb h0 L]
    rfl

theorem blockInfo_getD (st : St) {b : Nat} (hb : b < st.next) : (blockInfo st).getD b {} = infoR b st.stmts := by
  rw [blockInfo_eq]
  apply foldr_stepA_getD
  · rw [Array.size_replicate]; exact hb
  · simp [Array.getD, hb]

theorem infoR_norec {b : Nat} : ∀ {L : List SRec}, NoRec L b → infoR b L = {}
  | [], _ => rfl
  | r :: L, h => by
    show (if r.blk = b then upd (infoR b L) r else infoR b L) = _
    rw [if_neg (h r (List.mem_cons_self ..))]
    exact infoR_norec (fun x hx => h x (List.mem_cons_of_mem _ hx))

theorem infoR_append_norec {b : Nat} (M : List SRec) : ∀ {a : List SRec}, NoRec a b → infoR b (a ++ M) = infoR b M
  | [], _ => rfl
  | r :: a, h => by
    show (if r.blk = b then upd (infoR b (a ++ M)) r else infoR b (a ++ M)) = _
    rw [if_neg (h r (List.mem_cons_self ..))]
    exact infoR_append_norec M (fun x hx => h x (List.mem_cons_of_mem _ hx))

theorem infoR_seg {b : Nat} {c : List SRec} (hc : NoRec c b) : ∀ (t : List SRec) (h : SRec), h.blk = b → (∀ x ∈ t, x.blk = b) →
    (infoR b (h :: (t ++ c))).stop = h.e ∧ (infoR b (h :: (t ++ c))).nonEmpty = true ∧
      ∃ first ∈ h :: t, (infoR b (h :: (t ++ c))).start = first.s
  | [], h, hh, _ => by
    have e : infoR b (h :: ([] ++ c)) = upd {} h := by
      show (if h.blk = b then upd (infoR b c) h else infoR b c) = _
      rw [if_pos hh, infoR_norec hc]
    rw [e]
    exact ⟨upd_stop _ _, upd_nonEmpty _ _, h, List.mem_cons_self .., upd_start_of_empty h rfl⟩
  | h' :: t, h, hh, ht => by
    obtain ⟨_, i2, f, hf, i3⟩ := infoR_seg hc t h' (ht h' (List.mem_cons_self ..)) (fun x hx => ht x (List.mem_cons_of_mem _ hx))
    have e : infoR b (h :: ((h' :: t) ++ c)) = upd (infoR b (h' :: (t ++ c))) h := by
      show (if h.blk = b then upd (infoR b (h' :: (t ++ c))) h else infoR b (h' :: (t ++ c))) = _
      rw [if_pos hh]
    rw [e]
    exact ⟨upd_stop _ _, upd_nonEmpty _ _, f, List.mem_cons_of_mem _ hf, by rw [upd_start_of_nonEmpty h i2, i3]⟩

/-- `Rel.ord` alone, which needs no edge list: what `infoR_seg_start` uses of `Rel` -/
def OrdR (newer older : SRec) : Prop := 1 ≤ older.s → 1 ≤ newer.s → older.s ≤ newer.s

theorem infoR_seg_start {b : Nat} {c : List SRec} (hc : NoRec c b) : ∀ (t : List SRec) (h : SRec), h.blk = b → (∀ x ∈ t, x.blk = b) →
    (h :: t).Pairwise OrdR → ∀ x ∈ h :: t, 1 ≤ x.s → (infoR b (h :: (t ++ c))).start ≤ x.s
  | [], h, hh, _, _, x, hx, _ => by
    have e : infoR b (h :: ([] ++ c)) = upd {} h := by
      show (if h.blk = b then upd (infoR b c) h else infoR b c) = _
      rw [if_pos hh, infoR_norec hc]
    rw [e, upd_start_of_empty h rfl, List.mem_singleton.mp hx]
    exact Nat.le_refl _
  | h' :: t, h, hh, ht, hpw, x, hx, h1 => by
    obtain ⟨_, i2, f, hf, i3⟩ := infoR_seg hc t h' (ht h' (List.mem_cons_self ..)) (fun x hx => ht x (List.mem_cons_of_mem _ hx))
    have e : infoR b (h :: ((h' :: t) ++ c)) = upd (infoR b (h' :: (t ++ c))) h := by
      show (if h.blk = b then upd (infoR b (h' :: (t ++ c))) h else infoR b (h' :: (t ++ c))) = _
      rw [if_pos hh]
    rw [e, upd_start_of_nonEmpty h i2]
    obtain ⟨p1, p2⟩ := List.pairwise_cons.mp hpw
    rcases List.mem_cons.mp hx with rfl | hx
    · rw [i3]
      by_cases hf0 : f.s = 0
      · omega
      · exact p1 f hf (by omega) h1
    · exact infoR_seg_start hc t h' (ht h' (List.mem_cons_self ..)) (fun x hx => ht x (List.mem_cons_of_mem _ hx)) p2 x hx h1

theorem GZ.decomp {b : Nat} : ∀ {L : List SRec}, GZ L → (∃ r ∈ L, r.blk = b) →
    ∃ a h t c, L = a ++ h :: (t ++ c) ∧ NoRec a b ∧ NoRec c b ∧ h.blk = b ∧ (∀ x ∈ t, x.blk = b) ∧ ∀ x ∈ t, x.e ≠ 0
  | [], _, ⟨_, hr, _⟩ => by cases hr
  | x :: L, g, _ => by
    obtain ⟨g1, g2⟩ := g
    by_cases hex : ∃ r ∈ L, r.blk = b
    · obtain ⟨a, h, t, c, hL, ha, hc, hh, ht, hz⟩ := GZ.decomp g1 hex
      by_cases hx : x.blk = b
      · have htop : Top L b := by
          rcases g2 with g2 | g2
          · obtain ⟨r, hr, hrb⟩ := hex
            exact absurd hrb (by rw [← hx]; exact g2 r hr)
          · rw [← hx]; exact g2
        obtain ⟨h', t', hL', hb', he'⟩ := htop
        cases a with
        | nil =>
          rw [List.nil_append] at hL
          have hhd : h' = h := by
            rw [hL'] at hL
            exact (List.cons.inj hL).1
          refine ⟨[], x, h :: t, c, by rw [hL]; rfl, (fun _ hr => by cases hr), hc, hx, ?_, ?_⟩
          · intro y hy
            rcases List.mem_cons.mp hy with rfl | hy
            · exact hh
            · exact ht y hy
          · intro y hy
            rcases List.mem_cons.mp hy with rfl | hy
            · rw [← hhd]; exact he'
            · exact hz y hy
        | cons a0 a =>
          have hhd : h' = a0 := by
            rw [hL'] at hL
            exact (List.cons.inj hL).1
          exact absurd (hhd ▸ hb') (ha a0 (List.mem_cons_self ..))
      · refine ⟨x :: a, h, t, c, by rw [hL]; rfl, ?_, hc, hh, ht, hz⟩
        intro y hy
        rcases List.mem_cons.mp hy with rfl | hy
        · exact hx
        · exact ha y hy
    · have hn : NoRec L b := fun r hr hrb => hex ⟨r, hr, hrb⟩
      have hx : x.blk = b := by
        rename_i hr
        obtain ⟨r, hr, hrb⟩ := hr
        rcases List.mem_cons.mp hr with rfl | hr
        · exact hrb
        · exact absurd hrb (hn r hr)
      exact ⟨[], x, [], L, rfl, (fun _ hr => by cases hr), hn, hx, (fun _ hr => by cases hr), (fun _ hr => by cases hr)⟩

theorem mem_reachable_iff {st : St} (w : WF st) {b : Nat} : b ∈ reachable st ↔ R st.edges b :=
  ⟨reachable_sound st, reachable_complete st (by have := w.two; omega) w.edges⟩

theorem findings_intro {st : St} {b : Nat} (hb : b < st.next) (hd : b ∉ reachable st) (hne : (infoR b st.stmts).nonEmpty = true) :
    ∃ f ∈ findings st, f.s = (infoR b st.stmts).start ∧ f.e = (infoR b st.stmts).stop := by
  unfold findings
  refine ⟨_, List.mem_map.mpr ⟨b, List.mem_filter.mpr ⟨List.mem_range.mpr hb, ?_⟩, rfl⟩, ?_⟩
  · rw [blockInfo_getD st hb, hne]
    simpa using hd
  · simp only []
    rw [blockInfo_getD st hb]
    exact ⟨rfl, rfl⟩

/-- with `GZ`: the records of the block of a finding are one segment `h :: t` of the record list; the finding starts with one of
them and ends with the newest -/
theorem findings_seg {st : St} (hgz : GZ st.stmts) {f : Finding} (hf : f ∈ findings st) :
    ∃ b a h t c first, st.stmts = a ++ h :: (t ++ c) ∧ b ∉ reachable st ∧ NoRec a b ∧ NoRec c b ∧ h.blk = b ∧ (∀ x ∈ t, x.blk = b) ∧
      (∀ x ∈ t, x.e ≠ 0) ∧ first ∈ h :: t ∧ f.s = first.s ∧ f.e = h.e := by
  unfold findings at hf
  simp only [List.mem_map, List.mem_filter, List.mem_range, Bool.and_eq_true, Bool.not_eq_true',
    List.contains_eq_mem, decide_eq_false_iff_not] at hf
  obtain ⟨b, ⟨hb, hnr, hne⟩, rfl⟩ := hf
  simp only []
  rw [blockInfo_getD st hb] at hne ⊢
  have hex : ∃ x ∈ st.stmts, x.blk = b := by
    apply Classical.byContradiction
    intro hno
    have hn : NoRec st.stmts b := fun x hx hxb => hno ⟨x, hx, hxb⟩
    rw [infoR_norec hn] at hne
    exact Bool.false_ne_true hne
  obtain ⟨a, h, t, c, hL, ha, hc, hh, ht, hz⟩ := GZ.decomp hgz hex
  rw [hL, infoR_append_norec _ ha]
  obtain ⟨i1, _, first, hfirst, i3⟩ := infoR_seg hc t h hh ht
  exact ⟨b, a, h, t, c, first, rfl, hnr, ha, hc, hh, ht, hz, hfirst, i3, i1⟩

/-- the shape of a finding: first and last record of an unreachable block; a first record with end line 0 is also the last -/
theorem findings_shape (st : St) (hgz : GZ st.stmts) :
    ∀ f ∈ findings st, ∃ first ∈ st.stmts, ∃ last ∈ st.stmts, first.blk ∉ reachable st ∧ last.blk ∉ reachable st ∧
      f.s = first.s ∧ f.e = last.e ∧ (first = last ∨ first.e ≠ 0) := by
  intro f hf
  obtain ⟨b, a, h, t, c, first, hL, hnr, ha, hc, hh, ht, hz, hfirst, fs, fe⟩ := findings_seg hgz hf
  rw [hL]
  have hfb : first.blk = b := by
    rcases List.mem_cons.mp hfirst with rfl | h1
    · exact hh
    · exact ht first h1
  have hmem : ∀ x ∈ h :: t, x ∈ a ++ h :: (t ++ c) := by
    intro x hx
    refine List.mem_append.mpr (.inr ?_)
    rcases List.mem_cons.mp hx with rfl | h1
    · exact List.mem_cons_self ..
    · exact List.mem_cons_of_mem _ (List.mem_append.mpr (.inl h1))
  refine ⟨first, hmem first hfirst, h, hmem h (List.mem_cons_self ..), by rw [hfb]; exact hnr, by rw [hh]; exact hnr, fs, fe, ?_⟩
  rcases List.mem_cons.mp hfirst with rfl | h1
  · exact .inl rfl
  · exact .inr (hz first h1)

theorem findings_sound (st : St) (w : WF st) (hgz : GZ st.stmts) (hpw : st.stmts.Pairwise (Rel st.edges))
    (hval : ∀ r ∈ st.stmts, r.s = 0 → r.e = 0) :
    ∀ r ∈ st.stmts, r.blk ∈ reachable st → 1 ≤ r.s → ∀ f ∈ findings st, ¬ (f.s ≤ r.s ∧ r.s ≤ f.e) := by
  intro r hr hreach hpos f hf hin
  obtain ⟨b, a, h, t, c, first, hL, hnr, ha, hc, hh, ht, hz, hfirst, fs, fe⟩ := findings_seg hgz hf
  rw [fs, fe] at hin
  have hRr : R st.edges r.blk := (mem_reachable_iff w).mp hreach
  have hnRb : ¬ R st.edges b := fun h => hnr ((mem_reachable_iff w).mpr h)
  rw [hL] at hr hpw hval
  have hfb : first.blk = b := by
    rcases List.mem_cons.mp hfirst with rfl | h1
    · exact hh
    · exact ht first h1
  have hrb : r.blk ≠ b := fun e => hnRb (e ▸ hRr)
  have hpw1 := (List.pairwise_append.mp hpw).2.2
  have hL2 : a ++ h :: (t ++ c) = (a ++ h :: t) ++ c := by simp
  have hpw2 := hpw
  rw [hL2] at hpw2
  have hpw2 := (List.pairwise_append.mp hpw2).2.2
  rcases List.mem_append.mp hr with hra | hr
  · -- newer than the newest record of `b`
    have rel := hpw1 r hra h (List.mem_cons_self ..)
    exact hnRb (hh ▸ rel.nest hpos hin.2 hRr)
  · rcases List.mem_cons.mp hr with rfl | hr
    · exact hrb hh
    · rcases List.mem_append.mp hr with hr | hrc
      · exact hrb (ht r hr)
      · -- older than the oldest record of `b`
        have rel := hpw2 first (List.mem_append.mpr (.inr hfirst)) r hrc
        by_cases hf0 : first.s = 0
        · have hfe : first.e = 0 :=
            hval first (List.mem_append.mpr (.inr (by
              rcases List.mem_cons.mp hfirst with rfl | h1
              · exact List.mem_cons_self ..
              · exact List.mem_cons_of_mem _ (List.mem_append.mpr (.inl h1))))) hf0
          rcases List.mem_cons.mp hfirst with rfl | h1
          · omega
          · exact hz first h1 hfe
        · have h1 := rel.ord hpos (by omega)
          have heq : r.s = first.s := by omega
          exact hnRb (hfb ▸ rel.same hpos heq hRr)

end PV.CFGSound

#print axioms PV.CFGSound.findings_sound
