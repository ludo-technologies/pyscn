import PV.Model.Clone
import PV.Proofs.ArithLemmas
import Mathlib.Data.List.Sort
import Mathlib.Data.List.Nodup
/-! Helper lemmas about `PV.Clone` (for C08, C09). -/
namespace PV.Clone
open PV PV.MA PV.Generated

variable {F : Type} [MonoArith F]

/-! ### the translated per-pair decisions, as specifications -/

theorem classify_spec (c : Cfg F) (sim dist : F) :
    (classify c sim dist = 1 ↔ c.t1 ≤ sim) ∧
    (classify c sim dist = 2 ↔ c.t2 ≤ sim ∧ sim < c.t1) ∧
    (classify c sim dist = 3 ↔ c.t3 ≤ sim ∧ sim < c.t2 ∧ sim < c.t1) ∧
    (classify c sim dist = 4 ↔ c.t4 ≤ sim ∧ sim < c.t3 ∧ sim < c.t2 ∧ sim < c.t1) ∧
    (classify c sim dist = 0 ↔ sim < c.t4 ∧ sim < c.t3 ∧ sim < c.t2 ∧ sim < c.t1) := by
  unfold classify CloneBands.classifyCloneType
  simp only [ge_iff_le]
  by_cases h1 : c.t1 ≤ sim
  · simp [h1, lt_iff]
  · by_cases h2 : c.t2 ≤ sim
    · simp [h1, h2, lt_iff]
    · by_cases h3 : c.t3 ≤ sim
      · simp [h1, h2, h3, lt_iff]
      · by_cases h4 : c.t4 ≤ sim
        · simp [h1, h2, h3, h4, lt_iff]
        · simp [h1, h2, h3, h4, lt_iff]

theorem classify_spec_desc {c : Cfg F} (h21 : c.t2 ≤ c.t1) (h32 : c.t3 ≤ c.t2) (h43 : c.t4 ≤ c.t3) (sim dist : F) :
    (classify c sim dist = 3 ↔ c.t3 ≤ sim ∧ sim < c.t2) ∧
    (classify c sim dist = 4 ↔ c.t4 ≤ sim ∧ sim < c.t3) ∧
    (classify c sim dist = 0 ↔ sim < c.t4) := by
  obtain ⟨_, _, h3, h4, h0⟩ := classify_spec c sim dist
  have up2 : sim < c.t2 → sim < c.t1 := fun h => MA.lt_of_lt_of_le h h21
  have up3 : sim < c.t3 → sim < c.t2 := fun h => MA.lt_of_lt_of_le h h32
  have up4 : sim < c.t4 → sim < c.t3 := fun h => MA.lt_of_lt_of_le h h43
  refine ⟨h3.trans ?_, h4.trans ?_, h0.trans ?_⟩
  · exact and_congr_right fun _ => ⟨And.left, fun h => ⟨h, up2 h⟩⟩
  · exact and_congr_right fun _ => ⟨And.left, fun h => ⟨h, up3 h, up2 (up3 h)⟩⟩
  · exact ⟨And.left, fun h => ⟨h, up4 h, up3 (up4 h), up2 (up3 (up4 h))⟩⟩

theorem overlap_spec {a b : Frag} :
    overlap (F := F) a b = true ↔ (a.file = b.file ∧ ¬ (a.e < b.s ∨ b.e < a.s)) := by
  unfold overlap CloneOverlap.isOverlappingLocation
  by_cases hf : a.file = b.file
  · simp [hf]
  · have : (a.file : Int) ≠ (b.file : Int) := by exact_mod_cast hf
    simp [hf, this]

theorem overlap_symm (a b : Frag) : overlap (F := F) a b = overlap (F := F) b a := by
  rw [Bool.eq_iff_iff, overlap_spec, overlap_spec]
  exact and_congr eq_comm (not_congr or_comm)

theorem included_spec {c : Cfg F} {a : Frag} :
    included c a = true ↔ (c.minNodes ≤ a.size ∧ c.minLines ≤ a.lines) := by
  unfold included CloneInclude.shouldIncludeFragment
  by_cases h1 : (a.size : Int) < c.minNodes
  · simp [h1]; omega
  · by_cases h2 : (a.lines : Int) < c.minLines
    · simp [h1, h2]; omega
    · simp [h1, h2]; omega

/-- the reporting threshold; the same function as `PV.C08.effThr` -/
def effThr' (c : Cfg F) : F := if c.simThr ≤ (Arith.lit 0 1 : F) then c.t4 else c.simThr

theorem significant_spec {c : Cfg F} {a b : Frag} {sim dist : F} :
    significant c a b sim dist = true ↔
      ((if c.simThr ≤ (Arith.lit 0 1 : F) then c.t4 else c.simThr) ≤ sim ∧
       ((Arith.lit 0 1 : F) < c.maxDist → dist ≤ c.maxDist) ∧
       (Arith.ofInt (c.minNodes : Int) : F) ≤ Arith.fmin (Arith.ofInt (a.size : Int) : F) (Arith.ofInt (b.size : Int))) := by
  unfold significant CloneSignificant.isSignificantClone
  simp only [ge_iff_le, gt_iff_lt]
  generalize (if c.simThr ≤ (Arith.lit 0 1 : F) then c.t4 else c.simThr) = thr
  by_cases hs : sim < thr
  · rw [if_pos hs]
    exact ⟨fun h => absurd h Bool.false_ne_true, fun h => absurd h.1 (MA.lt_iff.mp hs)⟩
  · rw [if_neg hs]
    by_cases hd : (Arith.lit 0 1 : F) < c.maxDist ∧ c.maxDist < dist
    · rw [if_pos hd]
      exact ⟨fun h => absurd h Bool.false_ne_true, fun h => absurd (h.2.1 hd.1) (MA.lt_iff.mp hd.2)⟩
    · rw [if_neg hd, decide_eq_true_eq]
      exact ⟨fun h => ⟨MA.not_lt.mp hs, fun hp => MA.not_lt.mp fun hl => hd ⟨hp, hl⟩, h⟩, fun h => h.2.2⟩

theorem le_fmin_iff (m a b : F) : m ≤ Arith.fmin a b ↔ m ≤ a ∧ m ≤ b :=
  ⟨fun h => ⟨le_tr h (MonoArith.fmin_le_l a b), le_tr h (MonoArith.fmin_le_r a b)⟩, fun h => MonoArith.le_fmin a b m h.1 h.2⟩

theorem significant_symm (c : Cfg F) (a b : Frag) (sim dist : F) :
    significant c a b sim dist = significant c b a sim dist := by
  rw [Bool.eq_iff_iff, significant_spec, significant_spec, le_fmin_iff, le_fmin_iff]
  exact and_congr_right fun _ => and_congr_right fun _ => and_comm

theorem svcKeep_spec {c : Cfg F} {p : Pair F} :
    svcKeep c p = true ↔ (c.minSim ≤ p.sim ∧ p.sim ≤ c.maxSim ∧ p.ty ∈ c.enabled) := by
  unfold svcKeep
  simp only [gt_iff_lt, Bool.and_eq_true, Bool.not_eq_true', Bool.or_eq_false_iff, decide_eq_false_iff_not, List.contains_iff_mem, MA.not_lt]
  tauto

/-! ### the pair loops -/

/-- the order-free core of `mkPair` -/
def core (c : Cfg F) (a b : Frag) (m : Option (F × F)) : Option (F × F × Int) :=
  if overlap (F := F) a b then none else
  match m with
  | none => none
  | some (sim, dist) =>
    if classify c sim dist = 0 then none else
    if significant c a b sim dist then some (sim, dist, classify c sim dist) else none

theorem core_symm (c : Cfg F) (a b : Frag) (m : Option (F × F)) : core c a b m = core c b a m := by
  unfold core
  rw [overlap_symm a b]
  cases m with
  | none => rfl
  | some sd => obtain ⟨s, d⟩ := sd; simp only [significant_symm c a b]

theorem mkPair_eq_core (c : Cfg F) (fr : Nat → Frag) (cmp : Cmp F) (i j : Nat) :
    mkPair c fr cmp i j = (core c (fr i) (fr j) (cmp i j)).map fun x => ⟨i, j, x.1, x.2.1, x.2.2⟩ := by
  unfold mkPair core
  by_cases ho : overlap (F := F) (fr i) (fr j) = true
  · simp [ho]
  · simp only [ho, Bool.false_eq_true, if_false]
    cases cmp i j with
    | none => rfl
    | some sd =>
      obtain ⟨s, d⟩ := sd
      simp only
      by_cases h0 : classify c s d = 0
      · simp [h0]
      · simp only [h0, if_false]
        by_cases hs : significant c (fr i) (fr j) s d = true
        · simp [hs]
        · simp [hs]

theorem core_some {c : Cfg F} {a b : Frag} {m : Option (F × F)} {s d : F} {t : Int} :
    core c a b m = some (s, d, t) ↔
      overlap (F := F) a b = false ∧ m = some (s, d) ∧ t = classify c s d ∧ t ≠ 0 ∧ significant c a b s d = true := by
  unfold core
  cases ho : overlap (F := F) a b
  case true => simp
  cases m with
  | none => simp
  | some sd =>
    obtain ⟨s', d'⟩ := sd
    simp only [Bool.false_eq_true, if_false, true_and, Option.some.injEq, Prod.mk.injEq]
    by_cases h0 : classify c s' d' = 0
    · rw [if_pos h0]
      constructor
      · intro h; cases h
      · rintro ⟨⟨rfl, rfl⟩, rfl, h4, _⟩; exact absurd h0 h4
    · rw [if_neg h0]
      by_cases hs : significant c a b s' d' = true
      · rw [if_pos hs, Option.some.injEq, Prod.mk.injEq, Prod.mk.injEq]
        constructor
        · rintro ⟨rfl, rfl, rfl⟩; exact ⟨⟨rfl, rfl⟩, rfl, h0, hs⟩
        · rintro ⟨⟨rfl, rfl⟩, rfl, _, _⟩; exact ⟨rfl, rfl, rfl⟩
      · rw [if_neg hs]
        constructor
        · intro h; cases h
        · rintro ⟨⟨rfl, rfl⟩, _, _, h5⟩; exact absurd h5 hs

theorem mkPair_some {c : Cfg F} {fr : Nat → Frag} {cmp : Cmp F} {i j : Nat} {p : Pair F} :
    mkPair c fr cmp i j = some p ↔
      (overlap (F := F) (fr p.i) (fr p.j) = false ∧ cmp p.i p.j = some (p.sim, p.dist) ∧ p.ty = classify c p.sim p.dist ∧ p.ty ≠ 0 ∧
       significant c (fr p.i) (fr p.j) p.sim p.dist = true) ∧ p.i = i ∧ p.j = j := by
  rw [mkPair_eq_core, Option.map_eq_some_iff]
  constructor
  · rintro ⟨⟨s, d, t⟩, hx, rfl⟩
    exact ⟨core_some.mp hx, rfl, rfl⟩
  · rintro ⟨h, rfl, rfl⟩
    exact ⟨(p.sim, p.dist, p.ty), core_some.mpr h, rfl⟩

theorem mem_stdPairs {n i j : Nat} : (i, j) ∈ stdPairs n ↔ i < j ∧ j < n := by
  unfold stdPairs
  simp only [List.mem_flatMap, List.mem_range, List.mem_map, List.mem_range'_1, Prod.mk.injEq]
  constructor
  · rintro ⟨a, _, b, ⟨hab, hbn⟩, rfl, rfl⟩
    exact ⟨hab, by omega⟩
  · rintro ⟨hij, hjn⟩
    exact ⟨i, Nat.lt_trans hij hjn, j, ⟨hij, by omega⟩, rfl, rfl⟩

theorem mem_standard {c : Cfg F} {fr : Nat → Frag} {cmp : Cmp F} {n : Nat} {p : Pair F} :
    p ∈ standard c fr cmp n ↔ p.i < p.j ∧ p.j < n ∧ mkPair c fr cmp p.i p.j = some p := by
  unfold standard
  simp only [List.mem_filterMap, Prod.exists]
  constructor
  · rintro ⟨i, j, hij, hmk⟩
    obtain ⟨_, hi, hj⟩ := mkPair_some.mp hmk
    subst hi hj
    obtain ⟨h1, h2⟩ := mem_stdPairs.mp hij
    exact ⟨h1, h2, hmk⟩
  · rintro ⟨h1, h2, hmk⟩
    exact ⟨p.i, p.j, mem_stdPairs.mpr ⟨h1, h2⟩, hmk⟩

theorem mem_sortDesc {l : List (Pair F)} {p : Pair F} : p ∈ sortDesc l ↔ p ∈ l :=
  (List.mergeSort_perm l _).mem_iff

theorem mem_report {c : Cfg F} {fr : Nat → Frag} {cmp : Cmp F} {n : Nat} {p : Pair F}
    (h : p ∈ report c fr cmp n) : p ∈ standard c fr cmp n ∧ svcKeep c p = true := by
  unfold report sortTrunc at h
  obtain ⟨h1, h2⟩ := List.mem_filter.mp h
  exact ⟨mem_sortDesc.mp (List.mem_of_mem_take h1), h2⟩

theorem mem_report_of_not_truncated {c : Cfg F} {fr : Nat → Frag} {cmp : Cmp F} {n : Nat} {p : Pair F}
    (ht : (standard c fr cmp n).length ≤ c.maxPairs) (h : p ∈ standard c fr cmp n) (hk : svcKeep c p = true) :
    p ∈ report c fr cmp n := by
  unfold report sortTrunc
  apply List.mem_filter.mpr
  refine ⟨?_, hk⟩
  rw [List.take_of_length_le (by rw [sortDesc, List.length_mergeSort]; exact ht)]
  exact mem_sortDesc.mpr h

/-- Any detector whose result is `mkPair` over a list of index pairs that visits the unordered pair `{u, v}` (in either
orientation) reports it with exactly the values of the order-free core. -/
theorem reportedIn_iff_core {c : Cfg F} {fr : Nat → Frag} {cmp : Cmp F} {u v : Nat} {s d : F} {t : Int}
    (hsym : ∀ a b, cmp a b = cmp b a) {L : List (Nat × Nat)} {R : List (Pair F)}
    (hR : ∀ p, p ∈ R ↔ p ∈ L.filterMap fun ij => mkPair c fr cmp ij.1 ij.2) (hcov : (u, v) ∈ L ∨ (v, u) ∈ L) :
    ReportedIn R u v s d t ↔ core c (fr u) (fr v) (cmp u v) = some (s, d, t) := by
  constructor
  · rintro ⟨p, hp, hloc, hs, hd, ht⟩
    obtain ⟨ij, _, hmk⟩ := List.mem_filterMap.mp ((hR p).mp hp)
    have hc := core_some.mpr (mkPair_some.mp hmk).1
    rw [hs, hd, ht] at hc
    rcases hloc with ⟨h1, h2⟩ | ⟨h1, h2⟩
    · rw [h1, h2] at hc; exact hc
    · rw [h1, h2, core_symm, hsym] at hc; exact hc
  · intro h
    rcases hcov with hin | hin
    · refine ⟨⟨u, v, s, d, t⟩, (hR _).mpr (List.mem_filterMap.mpr ⟨(u, v), hin, ?_⟩), Or.inl ⟨rfl, rfl⟩, rfl, rfl, rfl⟩
      rw [mkPair_eq_core]; simp only; rw [h]; rfl
    · refine ⟨⟨v, u, s, d, t⟩, (hR _).mpr (List.mem_filterMap.mpr ⟨(v, u), hin, ?_⟩), Or.inr ⟨rfl, rfl⟩, rfl, rfl, rfl⟩
      rw [mkPair_eq_core]; simp only; rw [core_symm, hsym, h]; rfl

theorem reported_iff {c : Cfg F} {fr : Nat → Frag} {cmp : Cmp F} {n u v : Nat} {s d : F} {t : Int}
    (hsym : ∀ a b, cmp a b = cmp b a) (hu : u < n) (hv : v < n) (huv : u ≠ v) :
    ReportedIn (standard c fr cmp n) u v s d t ↔ core c (fr u) (fr v) (cmp u v) = some (s, d, t) :=
  reportedIn_iff_core hsym (fun _ => Iff.rfl)
    ((Nat.lt_or_gt_of_ne huv).imp (fun h => mem_stdPairs.mpr ⟨h, hv⟩) (fun h => mem_stdPairs.mpr ⟨h, hu⟩))

theorem not_reportedIn_standard_self {c : Cfg F} {fr : Nat → Frag} {cmp : Cmp F} {n u : Nat} {s d : F} {t : Int} :
    ¬ ReportedIn (standard c fr cmp n) u u s d t := by
  rintro ⟨p, hp, hloc, _⟩
  have hij := (mem_standard.mp hp).1
  rcases hloc with ⟨hi, hj⟩ | ⟨hi, hj⟩
  · exact Nat.ne_of_lt hij (hi.trans hj.symm)
  · exact Nat.ne_of_lt hij (hi.trans hj.symm)

/-- the service filter looks at the similarity and the type only -/
theorem reportedIn_report {c : Cfg F} {fr : Nat → Frag} {cmp : Cmp F} {n u v : Nat} {s d : F} {t : Int}
    (ht : (standard c fr cmp n).length ≤ c.maxPairs) :
    ReportedIn (report c fr cmp n) u v s d t ↔
      ReportedIn (standard c fr cmp n) u v s d t ∧ c.minSim ≤ s ∧ s ≤ c.maxSim ∧ t ∈ c.enabled := by
  constructor
  · rintro ⟨p, hp, hloc, hs, hd, hty⟩
    obtain ⟨hstd, hk⟩ := mem_report hp
    have hk' := svcKeep_spec.mp hk
    rw [hs, hty] at hk'
    exact ⟨⟨p, hstd, hloc, hs, hd, hty⟩, hk'⟩
  · rintro ⟨⟨p, hp, hloc, hs, hd, hty⟩, hk⟩
    refine ⟨p, mem_report_of_not_truncated ht hp (svcKeep_spec.mpr ?_), hloc, hs, hd, hty⟩
    rw [hs, hty]
    exact hk

end PV.Clone
