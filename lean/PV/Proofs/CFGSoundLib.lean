import PV.Proofs.CFGConv
import PV.Proofs.CFGSoundDefs
/-!
Coverage of a state by a final edge / statement list (`Cov`, antitone along `Sub`), blocks no builder step has
touched (`Untouched`), "no EXIT edge and no terminator" (`NT`), their behaviour under the primitive state updates
and under framed calls (`Ext`, `Inv`); at the end, the four target functions on an empty exception stack.
-/
namespace PV.CFGSound
open PV.CFG PV.Py

/-- the final edge list `E` and statement list `S` contain those of `s` -/
def Cov (E : List Edge) (S : List SRec) (s : St) : Prop := (∀ e ∈ s.edges, e ∈ E) ∧ (∀ r ∈ s.stmts, r ∈ S)

section cov
variable {E : List Edge} {S : List SRec} (s : St) (a b c k p q : Nat) (t : ETy) (ty : Ty) (l : List (Nat × Nat × Nat)) (x : List Exc)

theorem Cov.of_sub {s s' : St} (h : Sub s s') (hc : Cov E S s') : Cov E S s :=
  ⟨fun e he => hc.1 e (h.1 e he), fun r hr => hc.2 r (h.2 r hr)⟩
theorem Cov.of_ext {c n : Nat} {s s' : St} (i : Ext c n s s') (hc : Cov E S s') : Cov E S s := Cov.of_sub i.sub hc
theorem Cov.of_inv {c n : Nat} {s s' : St} (i : Inv c n s s') (hc : Cov E S s') : Cov E S s := Cov.of_sub i.sub hc
theorem Conv.cov {st st' : St} {c : Call} (hc : Conv st c) (hr : Run st c st') (h : Cov E S st') : Cov E S st :=
  Cov.of_inv (hc.inv0 hr) h

@[simp] theorem cov_bump : Cov E S (bump s) ↔ Cov E S s := Iff.rfl
@[simp] theorem cov_bumpU : Cov E S (bumpU s) ↔ Cov E S s := Iff.rfl
@[simp] theorem cov_bumpN : Cov E S (bumpN s k) ↔ Cov E S s := Iff.rfl
@[simp] theorem cov_setCur : Cov E S (setCur s c) ↔ Cov E S s := Iff.rfl
@[simp] theorem cov_setLoops : Cov E S (setLoops s l) ↔ Cov E S s := Iff.rfl
@[simp] theorem cov_setExcs : Cov E S (setExcs s x) ↔ Cov E S s := Iff.rfl
@[simp] theorem cov_edge : Cov E S (s.edge a b t) ↔ (a, b, t) ∈ E ∧ Cov E S s := by
  unfold Cov
  simp only [edge_edges, edge_stmts, List.mem_cons, forall_eq_or_imp]
  exact ⟨fun ⟨⟨h1, h2⟩, h3⟩ => ⟨h1, h2, h3⟩, fun ⟨h1, h2, h3⟩ => ⟨⟨h1, h2⟩, h3⟩⟩
@[simp] theorem cov_add : Cov E S (s.add b p q ty) ↔ ({ blk := b, s := p, e := q, ty := ty } : SRec) ∈ S ∧ Cov E S s := by
  unfold Cov
  simp only [add_edges, add_stmts, List.mem_cons, forall_eq_or_imp]
  exact ⟨fun ⟨h1, h2, h3⟩ => ⟨h2, h1, h3⟩, fun ⟨h1, h2, h3⟩ => ⟨h2, h1, h3⟩⟩
@[simp] theorem cov_eue : Cov E S (s.edgeUnlessExit a b t) ↔ (s.hasSucc a exitB = false → (a, b, t) ∈ E) ∧ Cov E S s := by
  rcases edgeUnlessExit_cases s a b t with ⟨h1, h2⟩ | ⟨h1, h2⟩ <;> rw [h2]
  · simp [h1]
  · simp [h1]
end cov

section prims
variable (s : St) (a b c k p q m y : Nat) (t : ETy) (ty : Ty) (l : List (Nat × Nat × Nat)) (x : List Exc)

@[simp] theorem hasSucc_bump : (bump s).hasSucc m y = s.hasSucc m y := rfl
@[simp] theorem hasSucc_bumpU : (bumpU s).hasSucc m y = s.hasSucc m y := rfl
@[simp] theorem hasSucc_bumpN : (bumpN s k).hasSucc m y = s.hasSucc m y := rfl
@[simp] theorem hasSucc_setCur : (setCur s c).hasSucc m y = s.hasSucc m y := rfl
@[simp] theorem hasSucc_setLoops : (setLoops s l).hasSucc m y = s.hasSucc m y := rfl
@[simp] theorem hasSucc_setExcs : (setExcs s x).hasSucc m y = s.hasSucc m y := rfl
@[simp] theorem hasSucc_add : (s.add b p q ty).hasSucc m y = s.hasSucc m y := rfl
theorem hasSucc_edge : (s.edge a b t).hasSucc m y = ((a == m && b == y) || s.hasSucc m y) := by
  simp [St.hasSucc, St.edge]
theorem hasSucc_mem {st : St} {a b : Nat} (h : st.hasSucc a b = true) : ∃ t, (a, b, t) ∈ st.edges := by
  unfold St.hasSucc at h
  rw [List.any_eq_true] at h
  obtain ⟨⟨x, y, t⟩, hm, hxy⟩ := h
  simp only [Bool.and_eq_true, beq_iff_eq] at hxy
  obtain ⟨rfl, rfl⟩ := hxy
  exact ⟨t, hm⟩

@[simp] theorem lastTy_bump : (bump s).lastTy m = s.lastTy m := rfl
@[simp] theorem lastTy_bumpU : (bumpU s).lastTy m = s.lastTy m := rfl
@[simp] theorem lastTy_bumpN : (bumpN s k).lastTy m = s.lastTy m := rfl
@[simp] theorem lastTy_setCur : (setCur s c).lastTy m = s.lastTy m := rfl
@[simp] theorem lastTy_setLoops : (setLoops s l).lastTy m = s.lastTy m := rfl
@[simp] theorem lastTy_setExcs : (setExcs s x).lastTy m = s.lastTy m := rfl
@[simp] theorem lastTy_edge : (s.edge a b t).lastTy m = s.lastTy m := rfl
theorem lastTy_add : (s.add b p q ty).lastTy m = if b = m then some ty else s.lastTy m := by
  by_cases h : b = m <;> simp [St.lastTy, St.add, h]
end prims

def NT (s : St) (m : Nat) : Prop := s.hasSucc m exitB = false ∧ s.blockTerminates m = false

theorem NT.congr {s s' : St} {m : Nat} (he : s'.edges = s.edges) (hs : s'.stmts = s.stmts) : NT s' m ↔ NT s m := by
  unfold NT St.hasSucc St.blockTerminates St.lastTy
  rw [he, hs]

section nt
variable (s : St) (a b c k p q m : Nat) (t : ETy) (ty : Ty) (l : List (Nat × Nat × Nat)) (x : List Exc)
@[simp] theorem nt_bump : NT (bump s) m ↔ NT s m := Iff.rfl
@[simp] theorem nt_bumpU : NT (bumpU s) m ↔ NT s m := Iff.rfl
@[simp] theorem nt_bumpN : NT (bumpN s k) m ↔ NT s m := Iff.rfl
@[simp] theorem nt_setCur : NT (setCur s c) m ↔ NT s m := Iff.rfl
@[simp] theorem nt_setLoops : NT (setLoops s l) m ↔ NT s m := Iff.rfl
@[simp] theorem nt_setExcs : NT (setExcs s x) m ↔ NT s m := Iff.rfl
end nt

theorem NT.edge_tgt {s : St} {m a b : Nat} {t : ETy} (hb : b ≠ exitB) (h : NT s m) : NT (s.edge a b t) m := by
  refine ⟨?_, h.2⟩
  rw [hasSucc_edge, h.1]
  have : (b == exitB) = false := by simpa using hb
  simp [this]
theorem NT.edge_src {s : St} {m a b : Nat} {t : ETy} (ha : a ≠ m) (h : NT s m) : NT (s.edge a b t) m := by
  refine ⟨?_, h.2⟩
  rw [hasSucc_edge, h.1]
  have : (a == m) = false := by simpa using ha
  simp [this]
theorem NT.eue_tgt {s : St} {m a b : Nat} {t : ETy} (hb : b ≠ exitB) (h : NT s m) : NT (s.edgeUnlessExit a b t) m := by
  rcases edgeUnlessExit_cases s a b t with ⟨_, h2⟩ | ⟨_, h2⟩ <;> rw [h2]
  · exact h
  · exact h.edge_tgt hb
theorem NT.eue_src {s : St} {m a b : Nat} {t : ETy} (ha : a ≠ m) (h : NT s m) : NT (s.edgeUnlessExit a b t) m := by
  rcases edgeUnlessExit_cases s a b t with ⟨_, h2⟩ | ⟨_, h2⟩ <;> rw [h2]
  · exact h
  · exact h.edge_src ha
theorem NT.add_ne {s : St} {m b p q : Nat} {ty : Ty} (hb : b ≠ m) (h : NT s m) : NT (s.add b p q ty) m := by
  refine ⟨h.1, ?_⟩
  have := h.2
  unfold St.blockTerminates at this ⊢
  rw [lastTy_add, if_neg hb]; exact this
theorem NT.add_other {s : St} {m p q : Nat} (h : NT s m) : NT (s.add m p q .other) m := by
  refine ⟨h.1, ?_⟩
  unfold St.blockTerminates
  rw [lastTy_add, if_pos rfl]

def Untouched (s : St) (m : Nat) : Prop := (∀ e ∈ s.edges, e.1 ≠ m) ∧ (∀ r ∈ s.stmts, r.blk ≠ m)

theorem Untouched.nt {s : St} {m : Nat} (h : Untouched s m) : NT s m := by
  constructor
  · unfold St.hasSucc
    rw [List.any_eq_false]
    intro e he
    have := h.1 e he
    simp [this]
  · have : s.lastTy m = none := by
      unfold St.lastTy
      rw [Option.map_eq_none_iff, List.find?_eq_none]
      intro r hr
      have := h.2 r hr
      simp [this]
    unfold St.blockTerminates
    rw [this]

theorem WF.untouched {s : St} (w : WF s) {m : Nat} (h : s.next ≤ m) : Untouched s m :=
  ⟨fun e he => by have := (w.edges e he).1; omega, fun r hr => by have := w.stmts r hr; omega⟩

section unt
variable (s : St) (a b c k p q m : Nat) (t : ETy) (ty : Ty) (l : List (Nat × Nat × Nat)) (x : List Exc)
@[simp] theorem unt_bump : Untouched (bump s) m ↔ Untouched s m := Iff.rfl
@[simp] theorem unt_bumpU : Untouched (bumpU s) m ↔ Untouched s m := Iff.rfl
@[simp] theorem unt_bumpN : Untouched (bumpN s k) m ↔ Untouched s m := Iff.rfl
@[simp] theorem unt_setCur : Untouched (setCur s c) m ↔ Untouched s m := Iff.rfl
@[simp] theorem unt_setLoops : Untouched (setLoops s l) m ↔ Untouched s m := Iff.rfl
@[simp] theorem unt_setExcs : Untouched (setExcs s x) m ↔ Untouched s m := Iff.rfl
@[simp] theorem unt_edge : Untouched (s.edge a b t) m ↔ a ≠ m ∧ Untouched s m := by
  unfold Untouched
  simp only [edge_edges, edge_stmts, List.mem_cons, forall_eq_or_imp]
  exact ⟨fun ⟨⟨h1, h2⟩, h3⟩ => ⟨h1, h2, h3⟩, fun ⟨h1, h2, h3⟩ => ⟨⟨h1, h2⟩, h3⟩⟩
@[simp] theorem unt_add : Untouched (s.add b p q ty) m ↔ b ≠ m ∧ Untouched s m := by
  unfold Untouched
  simp only [add_edges, add_stmts, List.mem_cons, forall_eq_or_imp]
  exact ⟨fun ⟨h1, h2, h3⟩ => ⟨h2, h1, h3⟩, fun ⟨h1, h2, h3⟩ => ⟨h2, h1, h3⟩⟩
end unt

theorem Untouched.eue {s : St} {m a b : Nat} {t : ETy} (ha : a ≠ m) (h : Untouched s m) : Untouched (s.edgeUnlessExit a b t) m := by
  rcases edgeUnlessExit_cases s a b t with ⟨_, h2⟩ | ⟨_, h2⟩ <;> rw [h2]
  · exact h
  · exact (unt_edge ..).mpr ⟨ha, h⟩

theorem foldl_edge_untouched {src m : Nat} {t : ETy} (hm : src ≠ m) : ∀ (hs : List Nat) {s : St}, Untouched s m →
    Untouched (hs.foldl (fun st h => st.edge src h t) s) m
  | [], _, h => h
  | _ :: hs, _, h => foldl_edge_untouched hm hs ((unt_edge ..).mpr ⟨hm, h⟩)

/-- `Untouched (primitive updates of s) m` from `h : Untouched s m` and arithmetic -/
macro "untt" "[" h:term "]" : tactic =>
  `(tactic| (simp only [unt_setCur, unt_edge, unt_add, unt_bump, unt_bumpU, unt_bumpN, unt_setLoops, unt_setExcs, setCur_cur, $h:term, and_true] <;> omega))

theorem Untouched.congr {s s' : St} {m : Nat} (he : s'.edges = s.edges) (hs : s'.stmts = s.stmts) : Untouched s' m ↔ Untouched s m := by
  unfold Untouched
  rw [he, hs]

/-! the blocks a header allocates and does not write to are untouched when the first nested call starts -/
theorem TryBlocks.untouched {st s3 : St} {hasFin hasElse : Bool} {finB elseB : Nat} {cfin : Option Nat} {nat ah : Nat}
    (b : TryBlocks st hasFin hasElse s3 finB elseB cfin nat ah) (w : WF st) {m : Nat} (hm : st.next ≤ m) : Untouched s3 m :=
  (Untouched.congr (s := st.edge st.cur st.next .normal) b.edges b.stmts).mpr
    ((unt_edge ..).mpr ⟨Nat.ne_of_lt (Nat.lt_of_lt_of_le w.cur hm), w.untouched hm⟩)

theorem matchPre_unt {st : St} (w : WF st) (s e : Nat) : Untouched (matchPre st s e) (st.next + 1) :=
  (unt_bump ..).mpr <| (unt_add ..).mpr ⟨Nat.ne_of_lt (Nat.lt_succ_self _),
    (unt_edge ..).mpr ⟨Nat.ne_of_lt (Nat.lt_succ_of_lt w.cur), w.untouched (Nat.le_succ _)⟩⟩

theorem Ext.untouched {c n : Nat} {s s' : St} (i : Ext c n s s') {m : Nat} (hm : m ≠ c) (hlt : m < n) (h : Untouched s m) :
    Untouched s' m := by
  obtain ⟨ne, he, hne⟩ := i.edges
  obtain ⟨ns, hs, hns⟩ := i.stmts
  constructor
  · intro e hmem
    rw [he] at hmem
    rcases List.mem_append.mp hmem with h1 | h1
    · rcases hne e h1 with h2 | h2 <;> omega
    · exact h.1 e h1
  · intro r hmem
    rw [hs] at hmem
    rcases List.mem_append.mp hmem with h1 | h1
    · rcases hns r h1 with h2 | h2 <;> omega
    · exact h.2 r h1

theorem Inv.untouched {c n : Nat} {s s' : St} (i : Inv c n s s') {m : Nat} (hm : m ≠ c) (hlt : m < n) (h : Untouched s m) :
    Untouched s' m :=
  i.ext.untouched hm hlt h

theorem Inv.eue_untouched {c n : Nat} {s s' : St} (j : Inv c n s s') {m b : Nat} {t : ETy} (hm : m < n) (hc : m ≠ c)
    (h : Untouched s m) : Untouched (s'.edgeUnlessExit s'.cur b t) m :=
  Untouched.eue (j.own.ne_of_lt hc hm) (j.untouched hc hm h)

theorem Ext.nt {c n : Nat} {s s' : St} (i : Ext c n s s') {m : Nat} (hm : m ≠ c) (hlt : m < n) (h : NT s m) : NT s' m := by
  obtain ⟨ne, he, hne⟩ := i.edges
  obtain ⟨ns, hs, hns⟩ := i.stmts
  have h1 : s'.hasSucc m exitB = s.hasSucc m exitB := by
    unfold St.hasSucc
    rw [he, List.any_append]
    have : ne.any (fun x => x.1 == m && x.2.1 == exitB) = false := by
      rw [List.any_eq_false]
      intro e hmem
      have : e.1 ≠ m := by rcases hne e hmem with h2 | h2 <;> omega
      simp [this]
    rw [this, Bool.false_or]
  have h2 : s'.lastTy m = s.lastTy m := by
    unfold St.lastTy
    rw [hs, List.find?_append]
    have : ns.find? (fun r => r.blk == m) = none := by
      rw [List.find?_eq_none]
      intro r hmem
      have : r.blk ≠ m := by rcases hns r hmem with h2 | h2 <;> omega
      simp [this]
    rw [this, Option.none_or]
  refine ⟨h1 ▸ h.1, ?_⟩
  have := h.2
  unfold St.blockTerminates at this ⊢
  rw [h2]; exact this

theorem Inv.nt {c n : Nat} {s s' : St} (i : Inv c n s s') {m : Nat} (hm : m ≠ c) (hlt : m < n) (h : NT s m) : NT s' m :=
  i.ext.nt hm hlt h

theorem Entry.mk' {E : List Edge} {s : St} (hr : R E s.cur) (h : NT s s.cur) : Entry E s := ⟨hr, h.1, h.2⟩
theorem Entry.nt {E : List Edge} {s : St} (h : Entry E s) : NT s s.cur := ⟨h.noExit, h.noTerm⟩

theorem targetFinallyRet_nil {st : St} (h : st.excs = []) : targetFinallyRet st = none := by
  unfold targetFinallyRet; rw [h]; rfl
theorem targetFinally_nil {st : St} (h : st.excs = []) : targetFinally st = none := by
  unfold targetFinally; rw [h]; rfl
theorem targetFinallyLoop_nil {st : St} (d : Nat) (h : st.excs = []) : targetFinallyLoop st d = none := by
  unfold targetFinallyLoop; rw [h]; simp
theorem fallbackExc_nil {st : St} (h : st.excs = []) : fallbackExc st = none := by
  unfold fallbackExc; rw [h]; rfl

end PV.CFGSound
