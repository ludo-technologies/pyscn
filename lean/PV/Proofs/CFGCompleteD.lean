import PV.Proofs.CFGTraceWalk
import PV.Proofs.CFGSoundLib
/-!
Completeness of the CFG mirror for structurally dead code — D for DEAD zones.

`Fut E lo hi s`: the final edge list `E` is `s.edges` plus later edges none of which targets a block allocated in
`[lo, hi)`.  A block of such a zone whose in-edges (all in `s.edges`) have unreachable sources is unreachable
(`dead_of_DI`); if the block a framed call is entered through is unreachable, every block the call allocates is (`Ext.dead`,
`zone_dead`).
`Fut` and `StS` are known of the state a call ENDS in: the lemmas `back_…` carry them over a state update, over the join that ends an
`if` / `elif` (`back_finishElif`, `back_elseJoin`), or over a whole call (by its target frame), to the state before it; the lemmas of
`DI` go forward.
-/
/-!
Completeness of the CFG mirror for structurally dead code (property C02) — COVERAGE:
every line of `linesOfL ss` gets a located statement record in a block OWNED by the call
(the block current on entry or a block allocated during the call), except the heads of `elif`
clauses (the builder stores the test of a converted `elif` with line 0).
Read off the record trace (`procList_tr`): on the fragment every tagged line that is no `elif` clause has a new record, the lines are
the starts of the tagged lines (`proj_all`), and a new record is in an owned block (`Inv`).
-/
namespace PV.CFGSound
open PV.CFG PV.SD

/-- line `l` has a record in `s` whose block is owned -/
def Rec (c n : Nat) (s : St) (l : Nat) : Prop := ∃ r ∈ s.stmts, r.s = l ∧ Own c n r.blk

theorem tr_covers {c n : Nat} {st st' : St} {T : List TLine} {sp : List (Nat × Nat)} {ls el : List Nat}
    (h : Tr false true st.stmts st.cur T st'.stmts st'.cur) (i : Inv c n st st') (hp : Proj T sp ls el) :
    ∀ l ∈ ls, l ∈ el ∨ Rec c n st' l := by
  obtain ⟨ns, e1, _, h2⟩ := h.ext
  obtain ⟨ns', e2, ho⟩ := i.stmts
  have : ns = ns' := List.append_cancel_right (e1.symm.trans e2)
  subst this
  intro l hl
  obtain ⟨x, hx, rfl, hel⟩ := hp.of_line hl
  by_cases ht : x.2.2 = 2
  · exact .inl (hel ht)
  · obtain ⟨r, hr, hs, _⟩ := h2 rfl x hx ht
    exact .inr ⟨r, by rw [e1]; exact List.mem_append.mpr (.inl hr), hs, ho r hr⟩

theorem procList_covers (ss : List Stmt) (il : Bool) (hok : okLC il ss = true) (st : St) (w : WF st) (c n : Nat)
    (hc : Own c n st.cur) (hn : n ≤ st.next) :
    ∀ l ∈ linesOfL ss, l ∈ elifL ss ∨ Rec c n (procList st ss) l :=
  tr_covers (procList_tr ss false true il st w (fun h => nomatch h) (fun _ => hok)) (procList_frame ss st w c n hc hn).1 (proj_all.2 ss)

theorem procStmt_covers (x : Stmt) (il : Bool) (hok : okSC il x = true) (st : St) (w : WF st) (c n : Nat)
    (hc : Own c n st.cur) (hn : n ≤ st.next) :
    ∀ l ∈ linesOf x, l ∈ elifS x ∨ Rec c n (procStmt st x) l :=
  tr_covers (procStmt_tr x false true il st w (fun h => nomatch h) (fun _ => hok)) (procStmt_frame x st w c n hc hn).1 (proj_all.1 x)

end PV.CFGSound

#print axioms PV.CFGSound.procStmt_covers
#print axioms PV.CFGSound.procList_covers

namespace PV.CFGSound
open PV.CFG PV.SD

def NoTgt (lo hi : Nat) (L : List Edge) : Prop := ∀ e ∈ L, e.2.1 < lo ∨ hi ≤ e.2.1

/-- the final edge list: the edges of `s` plus later ones that do not target blocks allocated in `[lo, hi)` -/
def Fut (E : List Edge) (lo hi : Nat) (s : St) : Prop := ∃ later, E = later ++ s.edges ∧ NoTgt lo hi later

/-- the final statement list contains the records of `s` -/
def StS (S : List SRec) (s : St) : Prop := ∀ r ∈ s.stmts, r ∈ S

/-- line `l` has a located record in a block that is NOT reachable along `E` -/
def DeadRec (E : List Edge) (S : List SRec) (l : Nat) : Prop := ∃ r ∈ S, r.s = l ∧ ¬ R E r.blk

/-- all blocks named by the context stacks are below `m` -/
def CtxLt (s : St) (m : Nat) : Prop :=
  (∀ l ∈ s.loops, l.1 < m ∧ l.2.1 < m) ∧ (∀ c ∈ s.excs, (∀ f, c.fin = some f → f < m) ∧ ∀ h ∈ c.handlers, h < m)

/-- every edge of `s` into `m` starts in an unreachable block -/
def DI (E : List Edge) (s : St) (m : Nat) : Prop := ∀ e ∈ s.edges, e.2.1 = m → ¬ R E e.1

/-- every line of `L` is exempt (in `X`) or has a record in an unreachable block -/
abbrev DeadL (E : List Edge) (S : List SRec) (L X : List Nat) : Prop := ∀ l ∈ L, l ∈ X ∨ DeadRec E S l

def LoopOK (il : Bool) (s : St) : Prop := il = true → s.loops ≠ []

/-- after this statement the block that is current is unreachable: it stops, or it is an `else` clause whose body ends with a
terminator (what `elseEnds` asks of the last clause of a chain) -/
def stopsE (x : Stmt) : Bool :=
  stops x || match x with
    | .elsec _ _ body => endsTerm body
    | _ => false

def stopsL (ss : List Stmt) : Bool := ss.any stopsE

variable {E : List Edge} {S : List SRec}

theorem WF.ctxLt {s : St} (w : WF s) {m : Nat} (h : s.next ≤ m) : CtxLt s m := ⟨w.loops_le h, w.excs_le h⟩
theorem CtxLt.same {s s' : St} {m : Nat} (h : CtxLt s m) (sm : Same s s') : CtxLt s' m := by
  unfold CtxLt; rw [sm.loops, sm.excs]; exact h
theorem CtxLt.of_eq {s s' : St} {m : Nat} (h : CtxLt s m) (hl : s'.loops = s.loops) (hx : s'.excs = s.excs) : CtxLt s' m := by
  unfold CtxLt; rw [hl, hx]; exact h
theorem CtxLt.mono {s : St} {m m' : Nat} (h : CtxLt s m) (hm : m ≤ m') : CtxLt s m' :=
  ⟨fun l hl => by have := h.1 l hl; omega,
   fun c hc => ⟨fun f hf => by have := (h.2 c hc).1 f hf; omega, fun x hx => by have := (h.2 c hc).2 x hx; omega⟩⟩
theorem CtxLt.push {s s' : St} {m : Nat} (h : CtxLt s m) {c : Exc} (hl : s'.loops = s.loops) (hx : s'.excs = c :: s.excs)
    (hf : ∀ f, c.fin = some f → f < m) (hh : ∀ x ∈ c.handlers, x < m) : CtxLt s' m := by
  refine ⟨by rw [hl]; exact h.1, fun c' hc => ?_⟩
  rw [hx] at hc
  rcases List.mem_cons.mp hc with rfl | hc
  · exact ⟨hf, hh⟩
  · exact h.2 c' hc
theorem LoopOK.same {il : Bool} {s s' : St} (h : LoopOK il s) (sm : Same s s') : LoopOK il s' := by
  unfold LoopOK; rw [sm.loops]; exact h
theorem LoopOK.of_eq {il : Bool} {s s' : St} (h : LoopOK il s) (hl : s'.loops = s.loops) : LoopOK il s' := by
  unfold LoopOK; rw [hl]; exact h
theorem LoopOK.false (s : St) : LoopOK false s := fun h => by cases h

theorem TG.zone {s : St} {lo hi : Nat} (h : CtxLt s lo) (h2 : 2 ≤ lo) (hh : hi ≤ s.next) : TG (fun x => x < lo ∨ hi ≤ x) s :=
  ⟨fun x hx => .inr (by omega), .inl (by unfold exitB; omega), fun l hl => ⟨.inl (h.1 l hl).1, .inl (h.1 l hl).2⟩,
   fun c hc => ⟨fun f hf => .inl ((h.2 c hc).1 f hf), fun x hx => .inl ((h.2 c hc).2 x hx)⟩⟩

theorem TG.ne {s : St} {lo m : Nat} (h : CtxLt s lo) (h2 : 2 ≤ lo) (hm : lo ≤ m) (hlt : m < s.next) : TG (fun x => x ≠ m) s :=
  ⟨fun x hx => by omega, by unfold exitB; omega, fun l hl => ⟨by have := (h.1 l hl).1; omega, by have := (h.1 l hl).2; omega⟩,
   fun c hc => ⟨fun f hf => by have := (h.2 c hc).1 f hf; omega, fun x hx => by have := (h.2 c hc).2 x hx; omega⟩⟩

theorem Fut.mem {lo hi : Nat} {s : St} (f : Fut E lo hi s) {e : Edge} (h : e ∈ s.edges) : e ∈ E := by
  obtain ⟨later, rfl, _⟩ := f
  exact List.mem_append.mpr (.inr h)

theorem Fut.step {E : List Edge} {lo hi : Nat} {s : St} (f : Fut E lo hi s) {a b : Nat} {t : ETy} (h : (a, b, t) ∈ s.edges) (hr : R E a) : R E b :=
  R.step hr (f.mem h)

theorem Fut.mono {lo hi lo' hi' : Nat} {s : St} (f : Fut E lo hi s) (h1 : lo ≤ lo') (h2 : hi' ≤ hi) : Fut E lo' hi' s := by
  obtain ⟨later, he, hn⟩ := f
  exact ⟨later, he, fun e h => by have := hn e h; omega⟩

theorem Fut.of_edges_eq {lo hi : Nat} {s s' : St} (f : Fut E lo hi s') (he : s'.edges = s.edges) : Fut E lo hi s := by
  obtain ⟨later, h, hn⟩ := f
  exact ⟨later, by rw [h, he], hn⟩

theorem Fut.back_TI {lo hi : Nat} {s s' : St} (f : Fut E lo hi s') (t : TI (fun x => x < lo ∨ hi ≤ x) s s') : Fut E lo hi s := by
  obtain ⟨later, h, hn⟩ := f
  obtain ⟨ne, he, hne⟩ := t
  refine ⟨later ++ ne, by rw [h, he, List.append_assoc], ?_⟩
  intro e hm
  rcases List.mem_append.mp hm with h1 | h1
  · exact hn e h1
  · exact hne e h1

theorem Fut.back_edge {lo hi : Nat} {s : St} {a b : Nat} {t : ETy} (f : Fut E lo hi (s.edge a b t)) (hb : b < lo ∨ hi ≤ b) :
    Fut E lo hi s :=
  f.back_TI ((TI.refl _ s).edge hb)

theorem Fut.back_eue {lo hi : Nat} {s : St} {a b : Nat} {t : ETy} (f : Fut E lo hi (s.edgeUnlessExit a b t)) (hb : b < lo ∨ hi ≤ b) :
    Fut E lo hi s :=
  f.back_TI ((TI.refl _ s).edgeUnlessExit hb)

theorem Fut.back_stmt {lo hi : Nat} {s : St} {x : Stmt} (f : Fut E lo hi (procStmt s x)) (w : WF s) (h : CtxLt s lo)
    (h2 : 2 ≤ lo) (hh : hi ≤ s.next) : Fut E lo hi s :=
  f.back_TI (procStmt_target x s w _ (TG.zone h h2 hh))

theorem Fut.back_run {lo hi : Nat} {s s' : St} {ss : List Stmt} (f : Fut E lo hi s') (hr : Run s (.list ss) s') (h : CtxLt s lo)
    (h2 : 2 ≤ lo) (hh : hi ≤ s.next) : Fut E lo hi s :=
  f.back_TI (target_run hr _ (TG.zone h h2 hh)).ti

theorem StS.of_ext {c n : Nat} {s s' : St} (h : StS S s') (i : Ext c n s s') : StS S s := fun r hr => h r (i.sub.2 r hr)
theorem StS.of_inv {c n : Nat} {s s' : St} (h : StS S s') (i : Inv c n s s') : StS S s := h.of_ext i.ext
theorem StS.of_stmts_eq {s s' : St} (h : StS S s') (he : s'.stmts = s.stmts) : StS S s := fun r hr => h r (by rw [he]; exact hr)

section back
variable {lo hi : Nat} {s : St} (a b c k p q : Nat) (t : ETy) (ty : Ty)
  (l : List (Nat × Nat × Nat)) (x : List Exc)
theorem Fut.back_setCur (f : Fut E lo hi (setCur s c)) : Fut E lo hi s := f.of_edges_eq rfl
theorem Fut.back_bump (f : Fut E lo hi (bump s)) : Fut E lo hi s := f.of_edges_eq rfl
theorem Fut.back_bumpU (f : Fut E lo hi (bumpU s)) : Fut E lo hi s := f.of_edges_eq rfl
theorem Fut.back_bumpN (f : Fut E lo hi (bumpN s k)) : Fut E lo hi s := f.of_edges_eq rfl
theorem Fut.back_add (f : Fut E lo hi (s.add b p q ty)) : Fut E lo hi s := f.of_edges_eq rfl
theorem Fut.back_setLoops (f : Fut E lo hi (setLoops s l)) : Fut E lo hi s := f.of_edges_eq rfl
theorem Fut.back_setExcs (f : Fut E lo hi (setExcs s x)) : Fut E lo hi s := f.of_edges_eq rfl
theorem StS.back_setCur (f : StS S (setCur s c)) : StS S s := f
theorem StS.back_bump (f : StS S (bump s)) : StS S s := f
theorem StS.back_bumpU (f : StS S (bumpU s)) : StS S s := f
theorem StS.back_bumpN (f : StS S (bumpN s k)) : StS S s := f
theorem StS.back_edge (f : StS S (s.edge a b t)) : StS S s := f
theorem StS.back_setLoops (f : StS S (setLoops s l)) : StS S s := f
theorem StS.back_setExcs (f : StS S (setExcs s x)) : StS S s := f
theorem StS.back_eue (f : StS S (s.edgeUnlessExit a b t)) : StS S s := fun r hr => f r (by rw [edgeUnlessExit_stmts]; exact hr)
theorem StS.back_add (f : StS S (s.add b p q ty)) : StS S s := fun r hr => f r (List.mem_cons_of_mem _ hr)
theorem StS.back_stmt {y : Stmt} (f : StS S (procStmt s y)) (w : WF s) : StS S s :=
  f.of_inv (procStmt_frame y s w s.cur 0 (Or.inl rfl) (Nat.zero_le _)).1
end back

theorem Fut.back_foldl {lo hi : Nat} (src : Nat) (t : ETy) : ∀ (hs : List Nat) (s : St),
    Fut E lo hi (hs.foldl (fun st h => st.edge src h t) s) → (∀ h ∈ hs, h < lo ∨ hi ≤ h) → Fut E lo hi s
  | [], _, f, _ => f
  | h :: hs, s, f, hb => by
    simp only [List.foldl_cons] at f
    exact (Fut.back_foldl src t hs _ f (fun x hx => hb x (List.mem_cons_of_mem _ hx))).back_edge (hb h (List.mem_cons_self ..))

theorem Fut.back_branch {lo hi c : Nat} {t : ETy} {s : St} (f : Fut E lo hi (setCur ((bump s).edge c s.next t) s.next)) (h : hi ≤ s.next) :
    Fut E lo hi s :=
  (f.back_setCur.back_edge (.inr h)).back_bump

theorem Fut.back_finishElif {lo hi te fm : Nat} {s : St} (f : Fut E lo hi (finishElif s te fm)) (h : fm < lo ∨ hi ≤ fm) : Fut E lo hi s :=
  (show Fut E lo hi (setCur _ _) from f).back_setCur.back_eue h

section
variable {s5 : St}
/-- after a plain `else` part a fresh block becomes current, or the two branches are joined (`hj`) -/
theorem Fut.back_elseJoin {lo te : Nat} {join : St} (f : Fut E lo (elseJoin s5 te join).next (elseJoin s5 te join)) (hn : join.next = s5.next)
    (hj : Fut E lo s5.next join → Fut E lo s5.next s5) : Fut E lo s5.next s5 := by
  rcases elseJoin_cases s5 te join with h | h
  · rw [h] at f
    exact (f.mono (Nat.le_refl _) (Nat.le_succ s5.next)).back_setCur.back_bumpU
  · rw [h, hn] at f
    exact hj f
end

theorem dead_of_DI {lo hi : Nat} {s : St} (f : Fut E lo hi s) {m : Nat} (h1 : lo ≤ m) (h2 : m < hi) (hd : DI E s m) (h0 : m ≠ 0) :
    ¬ R E m := by
  intro r
  obtain ⟨later, he, hn⟩ := f
  cases r with
  | entry => exact h0 rfl
  | step ra hmem =>
    rcases List.mem_append.mp (he ▸ hmem) with h | h
    · exact (hn _ h).elim (Nat.not_lt.mpr h1) (Nat.not_le.mpr h2)
    · exact hd _ h rfl ra

theorem DI.of_wf {s : St} (w : WF s) {m : Nat} (h : s.next ≤ m) : DI E s m :=
  fun e he hm => by have := (w.edges e he).2; omega

theorem DI.of_edges_eq {s s' : St} {m : Nat} (h : DI E s m) (he : s'.edges = s.edges) : DI E s' m := by
  unfold DI; rw [he]; exact h

theorem DI.edge_ne {s : St} {m a b : Nat} {t : ETy} (h : DI E s m) (hb : b ≠ m) : DI E (s.edge a b t) m := by
  intro e he hm
  rcases List.mem_cons.mp he with rfl | he
  · exact absurd hm hb
  · exact h e he hm

theorem DI.edge_dead {s : St} {m a b : Nat} {t : ETy} (h : DI E s m) (ha : ¬ R E a) : DI E (s.edge a b t) m := by
  intro e he hm
  rcases List.mem_cons.mp he with rfl | he
  · exact ha
  · exact h e he hm

theorem DI.eue_ne {s : St} {m a b : Nat} {t : ETy} (h : DI E s m) (hb : b ≠ m) : DI E (s.edgeUnlessExit a b t) m := by
  rcases edgeUnlessExit_cases s a b t with ⟨_, h2⟩ | ⟨_, h2⟩ <;> rw [h2]
  · exact h
  · exact h.edge_ne hb

theorem DI.eue_dead {s : St} {m a b : Nat} {t : ETy} (h : DI E s m) (ha : ¬ R E a) : DI E (s.edgeUnlessExit a b t) m := by
  rcases edgeUnlessExit_cases s a b t with ⟨_, h2⟩ | ⟨_, h2⟩ <;> rw [h2]
  · exact h
  · exact h.edge_dead ha

section fwd
variable {s : St} {m : Nat} (a b c k p q : Nat) (t : ETy) (ty : Ty)
theorem DI.setCur (h : DI E s m) : DI E (setCur s c) m := h
theorem DI.bump (h : DI E s m) : DI E (bump s) m := h
theorem DI.bumpU (h : DI E s m) : DI E (bumpU s) m := h
theorem DI.add (h : DI E s m) : DI E (s.add b p q ty) m := h
end fwd

theorem DI.TI {s s' : St} {m : Nat} (h : DI E s m) (t : TI (fun x => x ≠ m) s s') : DI E s' m := by
  obtain ⟨ne, he, hne⟩ := t
  intro e hmem hm
  rw [he] at hmem
  rcases List.mem_append.mp hmem with h1 | h1
  · exact absurd hm (hne e h1)
  · exact h e h1 hm

/-- a nested statement list adds no edge into a block that exists already and is not named by the context stacks -/
theorem DI.run {s s' : St} {m lo : Nat} {ss : List Stmt} (h : DI E s m) (hr : Run s (.list ss) s') (hc : CtxLt s lo) (h2 : 2 ≤ lo)
    (hm : lo ≤ m) (hlt : m < s.next) : DI E s' m :=
  h.TI (target_run hr _ (TG.ne hc h2 hm hlt)).ti

/-- A call framed for "the block `c` and what it allocates" (`c` is the block it is entered through): if `c` is unreachable, so is every
block the call allocates. -/
theorem Ext.dead {c : Nat} {st s' : St} (i : Ext c st.next st s') (w : WF st) (f : Fut E st.next s'.next s') (hd : ¬ R E c) :
    ∀ x, Own c st.next x → x < s'.next → ¬ R E x := by
  intro x hx hlt r
  rcases hx with rfl | hx
  · exact hd r
  obtain ⟨later, he, hn⟩ := f
  obtain ⟨ne, hne, hown⟩ := i.edges
  -- the last edge of a path into the blocks the call allocates is none of the later ones nor one of `st`: it is one of the call, and
  -- starts in `c` or in these blocks
  induction r with
  | entry => exact Nat.not_succ_le_zero 1 (Nat.le_trans w.two hx)
  | step ra hm ih =>
    rw [he, hne] at hm
    rcases List.mem_append.mp hm with h | h
    · exact (hn _ h).elim (Nat.not_lt.mpr hx) (Nat.not_le.mpr hlt)
    · rcases List.mem_append.mp h with h | h
      · exact (hown _ h).elim (fun hs => hd (hs ▸ ra)) (fun hs => ih (i.wf.edges _ (hne ▸ List.mem_append.mpr (.inl h))).1 hs)
      · exact Nat.not_le.mpr (w.edges _ h).2 hx

theorem zone_dead {st s' : St} (w : WF st) (i : Inv st.cur st.next st s') (f : Fut E st.next s'.next s') (hd : ¬ R E st.cur) :
    ∀ x, Own st.cur st.next x → x < s'.next → ¬ R E x :=
  i.ext.dead w f hd

theorem dead_cur {st s' : St} (w : WF st) (i : Inv st.cur st.next st s') (f : Fut E st.next s'.next s') (hd : ¬ R E st.cur) :
    ¬ R E s'.cur :=
  zone_dead w i f hd _ i.own i.wf.cur

theorem dead_lines {ss : List Stmt} {il : Bool} (hok : okLC il ss = true) {st st' : St} (hr : Run st (.list ss) st') (w : WF st)
    (f : Fut E st.next st'.next st') (hS : StS S st') (hd : ¬ R E st.cur) : DeadL E S (linesOfL ss) (elifL ss) := by
  intro l hl
  have i := Conv.own (st := st) w hr
  rcases tr_covers (tr_run false true hr w il (fun h => nomatch h) (fun _ => hok)) i (proj_all.2 ss) l hl with h | ⟨r, hr, hs, ho⟩
  · exact .inl h
  · exact .inr ⟨r, hS r hr, hs, zone_dead w i f hd _ ho (i.wf.stmts r hr)⟩

/-! ### terminators: the block that is current afterwards is fresh and has no in-edge -/
/-- after a jump from the current block to `b` a fresh block is current, on top of a well-formed state -/
theorem jump_shape {c n : Nat} {s0 s : St} (i : Inv c n s0 s) {b : Nat} (hb : b < s.next) (t : ETy) :
    ∃ s2, setCur (bumpU (s.edge s.cur b t)) s.next = setCur (bumpU s2) s2.next ∧ WF s2 ∧ s0.next ≤ s2.next :=
  ⟨_, rfl, (i.edge (t := t) i.own i.wf.cur hb).wf, i.next_le⟩

theorem ret_shape (st : St) (s e : Nat) (comp : List Bool) (hasComp : Bool) (w : WF st) :
    ∃ s2, procRet st s e comp hasComp = setCur (bumpU s2) s2.next ∧ WF s2 ∧ st.next ≤ s2.next := by
  have hc : Own st.cur st.next st.cur := Or.inl rfl
  rw [procRet_eq]
  have hst0 : Inv st.cur st.next st (if hasComp then procComp st s e comp else st) := by
    cases hasComp
    · exact Inv.refl w hc
    · exact (comp_frame st s e comp w hc (Nat.le_refl _)).1
  generalize (if hasComp then procComp st s e comp else st) = st0 at hst0
  have i1 := hst0.add (b := st0.cur) (p := s) (q := e) (ty := .ret) hst0.own hst0.wf.cur
  simp only
  split
  · next f hf =>
    obtain ⟨cx, hcx, hfin⟩ := tfRet_mem hf
    exact jump_shape i1 ((i1.wf.excs cx hcx).1 f hfin) _
  · exact jump_shape i1 i1.wf.two _

theorem raise_shape (st : St) (s e : Nat) (w : WF st) :
    ∃ s2, procRaise st s e = setCur (bumpU s2) s2.next ∧ WF s2 ∧ st.next ≤ s2.next := by
  have hc : Own st.cur st.next st.cur := Or.inl rfl
  rw [procRaise_eq]
  have i1 := (Inv.refl w hc).add (b := st.cur) (p := s) (q := e) (ty := .raise) hc w.cur
  simp only
  split
  · next f hf =>
    obtain ⟨cx, hcx, hfin⟩ := tf_mem hf
    exact jump_shape i1 ((i1.wf.excs cx hcx).1 f hfin) _
  · split
    · next cx hcx =>
      have hmem := fallback_mem hcx
      split
      · rw [foldl_cur_edges_eq]
        obtain ⟨j, -, hnx, -⟩ := foldl_edges_frame (c := st.cur) (n := st.next) (st.add st.cur s e .raise).cur .exc cx.handlers _ i1 hc
          w.cur (fun h hh => (i1.wf.excs cx hmem).2 h hh)
        exact ⟨_, rfl, j.wf, Nat.le_of_eq hnx.symm⟩
      · exact jump_shape i1 i1.wf.two _
    · exact jump_shape i1 i1.wf.two _

/-- inside a loop `break` jumps (outside it keeps the current block) -/
theorem brk_shape (st : St) (s e : Nat) (w : WF st) (hl : st.loops ≠ []) :
    ∃ s2, procBrk st s e = setCur (bumpU s2) s2.next ∧ WF s2 ∧ st.next ≤ s2.next := by
  have hc : Own st.cur st.next st.cur := Or.inl rfl
  rw [procBrk_eq]
  have i1 := (Inv.refl w hc).add (b := st.cur) (p := s) (q := e) (ty := .brk) hc w.cur
  simp only
  split
  · next hnil => exact absurd hnil hl
  · next h x d rest hll =>
    have hx := i1.wf.loops (h, x, d) (by rw [hll]; exact List.mem_cons_self ..)
    split
    · next f hf =>
      obtain ⟨cx, hcx, hfin⟩ := tfLoop_mem hf
      exact jump_shape i1 ((i1.wf.excs cx hcx).1 f hfin) _
    · exact jump_shape i1 hx.2 _

theorem cont_shape (st : St) (s e : Nat) (w : WF st) (hl : st.loops ≠ []) :
    ∃ s2, procCont st s e = setCur (bumpU s2) s2.next ∧ WF s2 ∧ st.next ≤ s2.next := by
  have hc : Own st.cur st.next st.cur := Or.inl rfl
  rw [procCont_eq]
  have i1 := (Inv.refl w hc).add (b := st.cur) (p := s) (q := e) (ty := .cont) hc w.cur
  simp only
  split
  · next hnil => exact absurd hnil hl
  · next h x d rest hll =>
    have hx := i1.wf.loops (h, x, d) (by rw [hll]; exact List.mem_cons_self ..)
    split
    · next f hf =>
      obtain ⟨cx, hcx, hfin⟩ := tfLoop_mem hf
      exact jump_shape i1 ((i1.wf.excs cx hcx).1 f hfin) _
    · exact jump_shape i1 hx.1 _

theorem fresh_dead {lo : Nat} {s : St} (w : WF s) (hlo : lo ≤ s.next) (f : Fut E lo (s.next + 1) (setCur (bumpU s) s.next)) :
    ¬ R E s.next := by
  have h2 := w.two
  refine dead_of_DI f (m := s.next) hlo (by omega) ?_ (by omega)
  intro e he _
  have := (w.edges e he).2
  omega

theorem shape_dead {st st' : St} (h : ∃ s2, st' = setCur (bumpU s2) s2.next ∧ WF s2 ∧ st.next ≤ s2.next)
    (f : Fut E st.next st'.next st') : ¬ R E st'.cur := by
  obtain ⟨s2, rfl, w2, hn⟩ := h
  exact fresh_dead w2 hn f

theorem mem_app_l {l : Nat} {A B : List Nat} {P : Prop} (h : l ∈ A ∨ P) : l ∈ A ++ B ∨ P := h.imp_left (fun h => List.mem_append.mpr (.inl h))
theorem mem_app_r {l : Nat} {A B : List Nat} {P : Prop} (h : l ∈ B ∨ P) : l ∈ A ++ B ∨ P := h.imp_left (fun h => List.mem_append.mpr (.inr h))

theorem dead_nil {X : List Nat} : DeadL E S [] X := fun _ h => nomatch h

theorem dead_app {A B EA EB : List Nat} (hA : DeadL E S A EA) (hB : DeadL E S B EB) : DeadL E S (A ++ B) (EA ++ EB) := by
  intro l hl
  rcases List.mem_append.mp hl with hl | hl
  · exact mem_app_l (hA l hl)
  · exact mem_app_r (hB l hl)

theorem dead_none : DeadL E S (structDead []) (elifL []) := by
  rw [structDead_nil]; exact dead_nil

theorem no_stop {P : Prop} {x : Stmt} (h : stopsE x = false) : stopsE x = true → P := fun h' => by rw [h] at h'; cases h'

theorem stopsE_of_stops {x : Stmt} (h : stops x = true) : stopsE x = true := Bool.or_eq_true_iff.mpr (.inl h)

theorem endsTerm_stopsL {l : List Stmt} (h : endsTerm l = true) : stopsL l = true := by
  unfold endsTerm at h
  cases hl : l.getLast? with
  | none => rw [hl] at h; cases h
  | some x =>
    rw [hl] at h
    simp only at h
    have hm : x ∈ l := List.mem_of_getLast? hl
    unfold stopsL
    rw [List.any_eq_true]
    refine ⟨x, hm, stopsE_of_stops ?_⟩
    -- a terminator is no `if`, and on everything else `stops` is `isTerm`
    cases x <;> simp_all [isTerm, stops]

theorem elseEnds_cases {l : List Stmt} (h : elseEnds l = true) :
    (∃ s e a b, l = [.elifc s e a b] ∧ endsTerm a = true ∧ elseEnds b = true) ∨ (∃ s e body, l = [.elsec s e body] ∧ endsTerm body = true) := by
  rw [elseEnds.eq_def] at h
  split at h
  · rw [Bool.and_eq_true] at h
    exact .inl ⟨_, _, _, _, rfl, h.1, h.2⟩
  · exact .inr ⟨_, _, _, rfl, h⟩
  · cases h

theorem elseEnds_nil {P : Prop} (h : elseEnds [] = true) : P := by
  rcases elseEnds_cases h with ⟨_, _, _, _, h, _⟩ | ⟨_, _, _, h, _⟩ <;> cases h

/-- an exhaustive else-part that is not a chain is an `else` clause, which is a stopping statement of its one-element list -/
theorem elseEnds_stopsL {l : List Stmt} (hne : ∀ s e a b, l ≠ [.elifc s e a b]) (h : elseEnds l = true) : stopsL l = true := by
  rcases elseEnds_cases h with ⟨_, _, _, _, h', _⟩ | ⟨s, e, body, rfl, heb⟩
  · exact absurd h' (hne _ _ _ _)
  · exact (Bool.or_false _).trans heb

theorem Chain.elseEnds {l a b : List Stmt} {s' e' : Nat} (h : Chain l s' e' a b) (hee : elseEnds l = true) :
    endsTerm a = true ∧ elseEnds b = true := by
  rcases elseEnds_cases hee with ⟨_, _, _, _, hl, hea, heb⟩ | ⟨_, _, _, hl, _⟩
  · cases h
    · cases hl; exact ⟨hea, heb⟩
    · cases hl
  · cases h <;> cases hl

end PV.CFGSound
