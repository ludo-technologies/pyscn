import PV.Proofs.CFGRangesElifDefs
import PV.Proofs.CFGSxLines
/-!
Reported ranges for the heads of `elif` clauses — the static part (syntax trees only, no builder): every entered `elif` head of a
well-formed body that satisfies `okEL` is `ElifOK` (`elif_static`).  The located spans are a projection of the tagged lines
(`proj_all`), hence their bounds (`spans_bounds`, from `tl_bounds`); `firstLoc_spec` goes along the recursion of `firstLoc`, the
`elif` segments (`eseg_all`) by `wf_ind`.
-/
namespace PV.CFGSound
open PV.CFG

/-- all spans of `A` lie inside lines `p … q-1` -/
def SpB (p q : Nat) (A : List (Nat × Nat)) : Prop := ∀ sp ∈ A, p ≤ sp.1 ∧ sp.1 ≤ sp.2 ∧ sp.2 < q

section spb
variable {p q p' q' m s e : Nat} {A B : List (Nat × Nat)}

theorem SpB.nil : SpB p q [] := fun _ h => by cases h

theorem SpB.mono (h : SpB p q A) (hp : p' ≤ p) (hq : q ≤ q') : SpB p' q' A :=
  fun sp hs => by have := h sp hs; omega

theorem SpB.seq (h₁ : SpB p m A) (h₂ : SpB m q B) (h1 : p ≤ m) (h2 : m ≤ q) : SpB p q (A ++ B) := by
  intro sp hs
  rcases List.mem_append.mp hs with hs | hs
  · have := h₁ sp hs; omega
  · have := h₂ sp hs; omega

theorem SpB.hdr (h : SpB (s + 1) q A) (hse : s ≤ e) (hq : q ≤ e + 1) : SpB s (e + 1) ((s, e) :: A) := by
  intro sp hs
  rcases List.mem_cons.mp hs with rfl | hs
  · exact ⟨Nat.le_refl s, hse, Nat.lt_succ_self e⟩
  · have := h sp hs; omega
end spb

theorem spansS_bounds (x : Stmt) (hw : wfS x = true) :
    ∀ sp ∈ spansS x, x.span.1 ≤ sp.1 ∧ sp.1 ≤ sp.2 ∧ sp.2 ≤ x.span.2 := by
  intro sp hs
  obtain ⟨y, hy, _, rfl⟩ := (proj_all.1 x).of_span hs
  have := (tb_all.1 x hw).1 y hy
  exact ⟨this.1, this.2.1, Nat.le_of_lt_succ this.2.2⟩

theorem spans_bounds (ss : List Stmt) (p : Nat) (hw : wfL p ss = true) :
    ∀ sp ∈ spansL ss, p ≤ sp.1 ∧ sp.1 ≤ sp.2 ∧ sp.2 < posL p ss := by
  intro sp hs
  obtain ⟨x, hx, _, rfl⟩ := (proj_all.2 ss).of_span hs
  exact tl_bounds ss p hw x hx

/-- `f` is a line of the static summary inside the lines of the list, and no located span of the list starts before it -/
def FLoc (p : Nat) (ss : List Stmt) (f : Nat) : Prop :=
  f ∈ (sxL ss).lines ∧ p ≤ f ∧ f < posL p ss ∧ ∀ sp ∈ spansL ss, f ≤ sp.1

theorem floc_head (x : Stmt) (xs : List Stmt) (p : Nat) (hw : wfL p (x :: xs) = true) (hm : x.span.1 ∈ (sxS x).lines) :
    FLoc p (x :: xs) x.span.1 := by
  rw [wfL_cons] at hw
  simp only [Bool.and_eq_true, decide_eq_true_eq] at hw
  obtain ⟨⟨hp, wx⟩, wxs⟩ := hw
  have hle := wfS_le wx
  have hg := posL_ge xs _ wxs
  refine ⟨sxL_cons_lines x xs _ hm, hp, ?_, ?_⟩
  · rw [posL_cons]; omega
  · rw [spansL_cons]
    intro sp hs
    rcases List.mem_append.mp hs with hs | hs
    · exact (spansS_bounds x wx sp hs).1
    · have := (spans_bounds xs _ wxs sp hs).1; omega

/-- a located statement other than `try:` opens the lines of its static summary with its own line -/
theorem span_mem_sxS (x : Stmt) (h1 : ∀ s e a hs c d, x ≠ .try_ s e a hs c d) (h2 : ∀ s e a, x ≠ .elsec s e a)
    (h3 : ∀ s e a b, x ≠ .elifc s e a b) : x.span.1 ∈ (sxS x).lines := by
  cases x with
  | simple s e c h => rw [sxS_simple]; exact .head _
  | ret s e c h => rw [sxS_ret]; exact .head _
  | brk s e => rw [sxS_brk]; exact .head _
  | cont s e => rw [sxS_cont]; exact .head _
  | raise s e => rw [sxS_raise]; exact .head _
  | ite s e a b => rw [sxS_ite]; exact .head _
  | elifc s e a b => exact absurd rfl (h3 s e a b)
  | elsec s e a => exact absurd rfl (h2 s e a)
  | loop s e a b => rw [sxS_loop]; exact .head _
  | try_ s e a hs c d => exact absurd rfl (h1 s e a hs c d)
  | handler s e a => rw [sxS_handler]; exact .head _
  | with_ s e a => rw [sxS_with]; exact .head _
  | match_ s e a => rw [sxS_match]; exact .head _
  | case_ s e a => rw [sxS_case]; exact .head _
  | def_ s e a => rw [sxS_def]; exact .head _
  | class_ s e a => rw [sxS_class]; exact .head _

theorem firstLoc_spec (ss : List Stmt) (p f : Nat) (hw : wfL p ss = true) (hf : firstLoc ss = some f) :
    f ∈ (sxL ss).lines ∧ p ≤ f ∧ f < posL p ss ∧ ∀ sp ∈ spansL ss, f ≤ sp.1 := by
  induction ss using firstLoc.induct generalizing p f with
  | case1 => rw [firstLoc_nil] at hf; cases hf
  | case2 s e a hs c d xs iha =>
    rw [firstLoc_try] at hf
    rw [wfL_cons] at hw
    simp only [Bool.and_eq_true, decide_eq_true_eq] at hw
    obtain ⟨⟨hp, wx⟩, wxs⟩ := hw
    simp only [Stmt.span] at hp wxs
    rw [wfS_try] at wx
    simp only [Bool.and_eq_true, decide_eq_true_eq] at wx
    obtain ⟨⟨⟨⟨⟨hse, wa⟩, wh⟩, wc⟩, wd⟩, hq⟩ := wx
    have g2 := posL_ge hs _ wh
    have hac := Nat.le_trans g2 (posL_ge c _ wc)
    have hae := Nat.le_trans (Nat.le_trans hac (posL_ge d _ wd)) hq
    obtain ⟨f1, f2, f3, f4⟩ := iha (s + 1) f wa hf
    have hfa := Nat.le_of_lt f3
    refine ⟨sxL_cons_lines _ xs _ ?_, Nat.le_trans hp (Nat.le_of_succ_le f2), ?_, ?_⟩
    · rw [sxS_try]; simp only []
      cases d.isEmpty
      · exact List.mem_append_left _ (List.mem_append_left _ (List.mem_append_left _ f1))
      · exact List.mem_append_left _ (List.mem_append_left _ f1)
    · rw [posL_cons]
      exact Nat.lt_of_lt_of_le f3 (Nat.le_trans hae (posL_ge xs _ wxs))
    · rw [spansL_cons, spansS_try]
      intro sp hsp
      simp only [List.mem_append] at hsp
      rcases hsp with (((h | h) | h) | h) | h
      · exact f4 sp h
      · exact Nat.le_trans hfa (spans_bounds hs _ wh sp h).1
      · exact Nat.le_trans hfa (Nat.le_trans g2 (spans_bounds c _ wc sp h).1)
      · exact Nat.le_trans hfa (Nat.le_trans hac (spans_bounds d _ wd sp h).1)
      · exact Nat.le_trans hfa (Nat.le_trans hae (spans_bounds xs _ wxs sp h).1)
  | case3 => rw [firstLoc_elsec] at hf; cases hf
  | case4 => rw [firstLoc_elifc] at hf; cases hf
  | case5 x xs h1 h2 h3 =>
    rw [firstLoc_other x xs h1 h2 h3] at hf
    cases hf
    exact floc_head x xs p hw (span_mem_sxS x h1 h2 h3)

def ECond (l l₁ : Nat) (sp : Nat × Nat) : Prop :=
  sp.1 ≠ l ∧ (sp.1 < l → l ≤ sp.2 → l₁ ≤ sp.2) ∧ (l < sp.1 → l₁ ≤ sp.1)

theorem ECond.of_lt {l l₁ : Nat} {sp : Nat × Nat} (h1 : sp.1 ≤ sp.2) (h2 : sp.2 < l) : ECond l l₁ sp :=
  ⟨by omega, fun _ _ => by omega, fun _ => by omega⟩
theorem ECond.of_ge {l l₁ : Nat} {sp : Nat × Nat} (h1 : l < l₁) (h2 : l₁ ≤ sp.1) : ECond l l₁ sp :=
  ⟨by omega, fun _ _ => by omega, fun _ => by omega⟩
theorem ECond.of_hdr {l l₁ : Nat} {sp : Nat × Nat} (h1 : sp.1 < l) (h2 : l₁ ≤ sp.2) : ECond l l₁ sp :=
  ⟨by omega, fun _ _ => by omega, fun _ => by omega⟩

/-- code inside lines `p … q-1` with located spans `A`, live lines `L` and entered `elif` heads `S`: the spans lie inside the
lines, and every `elif` head has a witness line inside the segment (so that the statement can be lifted through siblings and
enclosing statements) -/
structure ESeg (p q : Nat) (A : List (Nat × Nat)) (L S : List Nat) : Prop where
  le : p ≤ q
  bnd : SpB p q A
  ek : ∀ l ∈ S, p ≤ l ∧ ∃ l₁ ∈ L, l < l₁ ∧ l₁ < q ∧ ∀ sp ∈ A, ECond l l₁ sp

abbrev ESegX (p q : Nat) (A : List (Nat × Nat)) (r : SX) : Prop := ESeg p q A r.lines r.skipped

section eseg
variable {p q p' q' m s e : Nat} {A B : List (Nat × Nat)} {L L' L₁ L₂ S S' S₁ S₂ : List Nat}

theorem ESeg.nil : ESeg p p [] L [] := ⟨Nat.le_refl _, SpB.nil, fun _ h => by cases h⟩

theorem ESeg.mono (h : ESeg p q A L S) (hp : p' ≤ p) (hq : q ≤ q') : ESeg p' q' A L S := by
  refine ⟨by have := h.le; omega, h.bnd.mono hp hq, ?_⟩
  intro l hl
  obtain ⟨h1, l₁, hm, h2, h3, h4⟩ := h.ek l hl
  exact ⟨by omega, l₁, hm, h2, by omega, h4⟩

theorem ESeg.lines (h : ESeg p q A L S) (hl : ∀ l ∈ L, l ∈ L') : ESeg p q A L' S := by
  refine ⟨h.le, h.bnd, ?_⟩
  intro l hl'
  obtain ⟨h1, l₁, hm, h2, h3, h4⟩ := h.ek l hl'
  exact ⟨h1, l₁, hl l₁ hm, h2, h3, h4⟩

theorem ESeg.drop (h : ESeg p q A L S) : ESeg p q A L' [] := ⟨h.le, h.bnd, fun _ h => by cases h⟩

/-- sequential composition of two adjacent segments: the spans of the one are earlier / later siblings for the other -/
theorem ESeg.comp (h₁ : ESeg p m A L₁ S₁) (h₂ : ESeg m q B L₂ S₂) : ESeg p q (A ++ B) (L₁ ++ L₂) (S₁ ++ S₂) := by
  have hpm := h₁.le
  have hmq := h₂.le
  refine ⟨by omega, h₁.bnd.seq h₂.bnd hpm hmq, ?_⟩
  intro l hl
  rcases List.mem_append.mp hl with hl | hl
  · obtain ⟨h1, l₁, hm, h2, h3, h4⟩ := h₁.ek l hl
    refine ⟨h1, l₁, List.mem_append.mpr (.inl hm), h2, by omega, ?_⟩
    intro sp hs
    rcases List.mem_append.mp hs with hs | hs
    · exact h4 sp hs
    · have := h₂.bnd sp hs
      exact ECond.of_ge h2 (by omega)
  · obtain ⟨h1, l₁, hm, h2, h3, h4⟩ := h₂.ek l hl
    refine ⟨by omega, l₁, List.mem_append.mpr (.inr hm), h2, h3, ?_⟩
    intro sp hs
    rcases List.mem_append.mp hs with hs | hs
    · have := h₁.bnd sp hs
      exact ECond.of_lt (by omega) (by omega)
    · exact h4 sp hs

/-- the second segment is not entered -/
theorem ESeg.comp_drop (h₁ : ESeg p m A L S) (h₂ : ESeg m q B L' S') : ESeg p q (A ++ B) L S := by
  have h := h₁.comp (h₂.drop (L' := []))
  rw [List.append_nil, List.append_nil] at h
  exact h

theorem ESeg.hdr (h : ESeg (s + 1) q A L S) (hq : q ≤ e + 1) : ESeg s (e + 1) ((s, e) :: A) (s :: L) S := by
  have hle := h.le
  refine ⟨by omega, SpB.hdr h.bnd (by omega) hq, ?_⟩
  intro l hl
  obtain ⟨h1, l₁, hm, h2, h3, h4⟩ := h.ek l hl
  refine ⟨by omega, l₁, List.mem_cons_of_mem _ hm, h2, by omega, ?_⟩
  intro sp hs
  rcases List.mem_cons.mp hs with rfl | hs
  · exact ECond.of_hdr (show s < l by omega) (show l₁ ≤ e by omega)
  · exact h4 sp hs

theorem ESeg.leaf (h : s ≤ e) : ESeg s (e + 1) [(s, e)] [s] [] :=
  ESeg.hdr (q := e + 1) (ESeg.nil.mono (p := e + 1) (by omega) (Nat.le_refl _)) (Nat.le_refl _)
end eseg

theorem eseg_all :
    (∀ x : Stmt, wfS x = true → okES x = true → ESegX x.span.1 (x.span.2 + 1) (spansS x) (sxS x)) ∧
    (∀ ss : List Stmt, ∀ p, wfL p ss = true → okEL ss = true →
      ESegX p (posL p ss) (spansL ss) (sxL ss) ∧ ESegX p (posL p ss) (spansL ss) (sxAlts ss)) := by
  -- a list is summarised as a sequence (`sxL`) or as alternatives (`sxAlts`: the handlers of `try`, the cases of `match`): both are carried
  refine wf_ind (PS := fun x => okES x = true → ESegX x.span.1 (x.span.2 + 1) (spansS x) (sxS x))
    (PL := fun p ss => okEL ss = true → ESegX p (posL p ss) (spansL ss) (sxL ss) ∧ ESegX p (posL p ss) (spansL ss) (sxAlts ss))
    ?_ ?_ ?_ ?_ ?_ ?_ ?_ ?_ ?_ ?_ ?_ ?_ ?_ ?_ ?_ ?_ ?_ ?_
  · intro s e c h hw _; rw [spansS_simple, sxS_simple]; exact ESeg.leaf hw
  · intro s e c h hw _; rw [spansS_ret, sxS_ret]; exact ESeg.leaf hw
  · intro s e hw _; rw [spansS_brk, sxS_brk]; exact ESeg.leaf hw
  · intro s e hw _; rw [spansS_cont, sxS_cont]; exact ESeg.leaf hw
  · intro s e hw _; rw [spansS_raise, sxS_raise]; exact ESeg.leaf hw
  · intro s e a b w iha ihb hok
    rw [okES_ite, Bool.and_eq_true] at hok
    rw [spansS_ite, sxS_ite]
    exact ((iha hok.1).1.comp (ihb hok.2).1).hdr w.q
  · intro s e a b w iha ihb hok
    rw [okES_elifc] at hok
    simp only [Bool.and_eq_true] at hok
    obtain ⟨⟨hf, oa⟩, ob⟩ := hok
    obtain ⟨f, hf⟩ := Option.isSome_iff_exists.mp hf
    obtain ⟨f1, f2, f3, f4⟩ := firstLoc_spec a (s + 1) f w.wa hf
    have sab := ((iha oa).1.comp (ihb ob).1).mono (Nat.le_succ s) w.q
    rw [spansS_elifc, sxS_elifc]
    refine ⟨sab.le, sab.bnd, ?_⟩
    intro l hl
    have hl' : l = s ∨ l ∈ (sxL a).skipped ++ (sxL b).skipped := List.mem_cons.mp hl
    rcases hl' with hl' | hl'
    · subst hl'
      refine ⟨Nat.le_refl _, f, List.mem_append.mpr (.inl f1), f2, Nat.lt_of_lt_of_le f3 (Nat.le_trans w.gb w.q), ?_⟩
      intro sp hs
      rcases List.mem_append.mp hs with hs | hs
      · exact ECond.of_ge f2 (f4 sp hs)
      · exact ECond.of_ge f2 (Nat.le_trans (Nat.le_of_lt f3) (spans_bounds b _ w.wb sp hs).1)
    · exact sab.ek l hl'
  · intro s e a w iha hok
    rw [okES_elsec] at hok
    rw [spansS_elsec, sxS_elsec]
    exact (iha hok).1.mono (Nat.le_succ s) w.q
  · intro s e a b w iha ihb hok
    rw [okES_loop, Bool.and_eq_true] at hok
    rw [spansS_loop, sxS_loop]
    exact ((iha hok.1).1.comp (ihb hok.2).1).hdr w.q
  · intro s e a hs c d w _ _ _ _ hq iha ihh ihc ihd hok
    rw [okES_try] at hok
    simp only [Bool.and_eq_true] at hok
    obtain ⟨⟨⟨oa, oh⟩, oc⟩, od⟩ := hok
    have sa := (iha oa).1
    have sh := (ihh oh).2
    have sc := (ihc oc).1
    have sd := (ihd od).1
    -- `sxS` enters the `else` part only if the body can end normally; otherwise the segment keeps its spans and has no lines
    have sel : ESegX (posL (posL (s + 1) a) hs) (posL (posL (posL (s + 1) a) hs) c) (spansL c)
        (if (sxL a).ex.normal then sxL c else {}) := by
      split
      · exact sc
      · exact sc.drop
    rw [spansS_try, sxS_try]; simp only [Stmt.span]
    cases d.isEmpty
    · exact (((sa.comp sh).comp sel).comp sd).mono (Nat.le_succ s) hq
    · exact (((sa.comp sh).comp sel).comp_drop sd).mono (Nat.le_succ s) hq
  · intro s e a w iha hok; rw [okES_handler] at hok; rw [spansS_handler, sxS_handler]; exact (iha hok).1.hdr w.q
  · intro s e a w iha hok; rw [okES_with] at hok; rw [spansS_with, sxS_with]; exact (iha hok).1.hdr w.q
  · intro s e a w iha hok; rw [okES_match] at hok; rw [spansS_match, sxS_match]; exact (iha hok).2.hdr w.q
  · intro s e a w iha hok; rw [okES_case] at hok; rw [spansS_case, sxS_case]; exact (iha hok).1.hdr w.q
  · intro s e a hw _; rw [spansS_def, sxS_def]; exact ESeg.leaf hw
  · intro s e a w iha hok; rw [okES_class] at hok; rw [spansS_class, sxS_class]; exact (iha hok).1.hdr w.q
  · intro p _
    rw [spansL_nil, sxL_nil, sxAlts_nil]
    exact ⟨ESeg.nil, ESeg.nil⟩
  · intro p x xs hp _ _ _ _ hx hxs hok
    rw [okEL_cons, Bool.and_eq_true] at hok
    have sx := (hx hok.1).mono hp (Nat.le_refl _)
    rw [spansL_cons, posL_cons, sxL_cons, sxAlts_cons]
    refine ⟨?_, sx.comp (hxs hok.2).2⟩
    split
    · exact sx.comp (hxs hok.2).1
    · exact sx.comp_drop (hxs hok.2).1

/-- the strengthened statement for a well-formed list: every entered `elif` head lies inside the lines of the list and has a
witness line inside the lines of the list -/
theorem elif_static_strong (body : List Stmt) (p : Nat) (hw : wfL p body = true) (hok : okEL body = true) :
    ∀ l ∈ (sxL body).skipped, p ≤ l ∧ ∃ l₁ ∈ (sxL body).lines, l < l₁ ∧ l₁ < posL p body ∧
      ∀ sp ∈ spansL body, sp.1 ≠ l ∧ (sp.1 < l → l ≤ sp.2 → l₁ ≤ sp.2) ∧ (l < sp.1 → l₁ ≤ sp.1) :=
  (eseg_all.2 body p hw hok).1.ek

theorem elif_static (body : List Stmt) (p : Nat) (hw : wfL p body = true) (hok : okEL body = true) :
    ∀ l ∈ (sxL body).skipped, ElifOK (spansL body) (sxL body).lines l := by
  intro l hl
  obtain ⟨_, l₁, h1, h2, _, h4⟩ := elif_static_strong body p hw hok l hl
  exact ⟨l₁, h1, h2, h4⟩

end PV.CFGSound
