import PV.Proofs.CFGConv
import PV.Proofs.CFGCompleteD
/-!
The calling convention relative to a final edge list.  `Called E st st' c`: the call is made within the convention (`Conv`) and `E` adds
no edge into the blocks the call allocates (`Fut`, known of the state `st'` the call ENDS in).  Every nested call of a construct is
`Called` again (`Called.loop_cons`, `Called.try_`, …; no lemma for `ite` / `elifc` / `elsec`, whose one nested call starts and ends
where they do, nor for `cases_other` / `handlers_other`, which the fragments of the walks exclude): `Fut` is carried back from the end
of the construct to the end of each nested call through the updates and the calls that follow it, by their target frames.  The walks that assume something of the final graph
(`complete_run`, `rq_run`, `cnt_run`) take the hypotheses of their nested calls from here.
-/
namespace PV.CFGSound
open PV.CFG

/-- `E` adds no edge into the blocks of the call; nor, for the chain behind a first branch, into the merge block, which is joined only
when the chain has ended; the body and each handler of `tryMid` need a window of their own above the handler blocks -/
abbrev FutOf (E : List Edge) (st st' : St) : Call → Prop
  | .elifTail _ _ merge .. => Fut E merge st'.next st'
  | .tryMid _ _ _ _ _ _ handlers => ∀ lo hi, st.next + handlers.length ≤ lo → hi ≤ st'.next → Fut E lo hi st'
  | _ => Fut E st.next st'.next st'

structure Called (E : List Edge) (st st' : St) (c : Call) : Prop where
  conv : Conv st c
  fut : FutOf E st st' c

section
variable {E : List Edge} {st st' : St}
theorem Called.wf {c : Call} (h : Called E st st' c) : WF st := h.conv.wf
theorem Called.next_le {c : Call} (h : Called E st st' c) (hr : Run st c st') : st.next ≤ st'.next := h.conv.next_le hr
theorem Called.mem_end {c : Call} (h : Called E st st' c) (hr : Run st c st') {e : Edge} (he : e ∈ st'.edges) : e ∈ E := by
  cases c with
  | tryMid => exact (h.fut _ _ (h.conv.tryMid_end hr).2 (Nat.le_refl _)).mem he
  | stmt | list | if_ | elif | elifTail | cases | handlers | tryElse | tryFin => exact Fut.mem h.fut he
theorem Called.mem_start {c : Call} (h : Called E st st' c) (hr : Run st c st') {e : Edge} (he : e ∈ st.edges) : e ∈ E :=
  h.mem_end hr ((h.conv.inv0 hr).sub.1 e he)
end

section stmts
variable {E : List Edge} {st : St} {s e : Nat}

theorem Called.class_ {body : List Stmt} {s1 : St} (h : Called E st s1 (.stmt (.class_ s e body))) :
    Called E (classPre st s e) s1 (.list body) :=
  ⟨classPre_wf h.wf s e, h.fut.mono (Nat.le_succ _) (Nat.le_refl _)⟩

theorem Called.loop_nil {body : List Stmt} {s5 : St}
    (h : Called E st (setLoops (setCur (setLoops (s5.edgeUnlessExit s5.cur st.next .loop) st.loops) (st.next + 2)) st.loops)
      (.stmt (.loop s e body []))) : Called E (loopPre st s e false) s5 (.list body) := by
  have hf : Fut E st.next _ _ := h.fut
  simp only [setLoops_next, setCur_next, edgeUnlessExit_next] at hf
  exact ⟨loopPre_wf h.wf s e false,
    (hf.mono (lo' := st.next + 3) (Nat.le_add_right _ 3) (Nat.le_refl _)).back_setLoops.back_setCur.back_setLoops.back_eue
      (.inl (Nat.lt_add_of_pos_right (by decide)))⟩

theorem Called.loop_cons {body os : List Stmt} {o : Stmt} {s5 s8 : St} (hr : Run (loopPre st s e true) (.list body) s5)
    (hr2 : Run (loopElsePre st s5) (.list (o :: os)) s8)
    (h : Called E st (setLoops (setCur (s8.edgeUnlessExit s8.cur (st.next + 2) .normal) (st.next + 2)) st.loops)
      (.stmt (.loop s e body (o :: os)))) :
    Called E (loopPre st s e true) s5 (.list body) ∧ Called E (loopElsePre st s5) s8 (.list (o :: os)) := by
  have w := h.wf
  have c1 : Conv (loopPre st s e true) (.list body) := loopPre_wf w s e true
  have c2 : Conv (loopElsePre st s5) (.list (o :: os)) := Conv.loop_cons hr w
  have hjn : st.next + 4 ≤ s5.next := c1.next_le hr
  have h53 := Nat.le_of_eq (loopElsePre_next st s5).symm
  have hf : Fut E st.next _ _ := h.fut
  simp only [setLoops_next, setCur_next, edgeUnlessExit_next] at hf
  -- `f8`: `Fut` at the end of the `else` part; it goes back over that part by its target frame (`back_run`) to the end of the body
  have f8 := (hf.mono (lo' := st.next + 4) (Nat.le_add_right _ 4) (Nat.le_refl _)).back_setLoops.back_setCur.back_eue
    (.inl (Nat.add_lt_add_left (by decide) _))
  have hctx : CtxLt (loopElsePre st s5) (st.next + 4) :=
    (w.ctxLt (m := st.next + 4) (Nat.le_add_right _ 4)).of_eq rfl ((loopElsePre_excs _ _).trans (hr.stacks).excs)
  exact ⟨⟨c1, ((f8.mono (Nat.le_refl _) (hi' := s5.next) (Nat.le_trans h53 (c2.next_le hr2))).back_run hr2 hctx (Nat.le_add_left 2 (st.next + 2))
      h53).back_setCur.back_setLoops.back_eue (.inl (Nat.lt_add_of_pos_right (by decide)))⟩,
    ⟨c2, f8.mono (Nat.le_trans hjn h53) (Nat.le_refl _)⟩⟩

theorem Called.with_ {body : List Stmt} {s2 : St}
    (h : Called E st (setCur (((s2.edgeUnlessExit s2.cur (st.next + 2) .normal).edge st.next (st.next + 2) .exc).edge (st.next + 2)
      (st.next + 3) .normal) (st.next + 3)) (.stmt (.with_ s e body))) : Called E (withPre st s e) s2 (.list body) := by
  have hf : Fut E st.next _ _ := h.fut
  simp only [setCur_next, edge_next, edgeUnlessExit_next] at hf
  exact ⟨withPre_wf h.wf s e, (((hf.mono (lo' := st.next + 4) (Nat.le_add_right _ 4) (Nat.le_refl _)).back_setCur.back_edge
    (.inl (Nat.lt_succ_self _))).back_edge (.inl (Nat.add_lt_add_left (by decide) _))).back_eue (.inl (Nat.add_lt_add_left (by decide) _))⟩

theorem Called.match_cons {c : Stmt} {cs : List Stmt} {s2 : St}
    (h : Called E st (setCur (s2.edge st.next (st.next + 1) .condF) (st.next + 1)) (.stmt (.match_ s e (c :: cs)))) :
    Called E (matchPre st s e) s2 (.cases (c :: cs) st.next (st.next + 1)) := by
  have hf : Fut E st.next _ _ := h.fut
  simp only [setCur_next, edge_next] at hf
  exact ⟨Conv.match_cons h.wf,
    (hf.mono (lo' := st.next + 2) (Nat.le_add_right _ 2) (Nat.le_refl _)).back_setCur.back_edge (.inl (Nat.lt_succ_self _))⟩

theorem Called.cons {x : Stmt} {xs : List Stmt} {s1 s2 : St} (h1 : Run st (.stmt x) s1) (h2 : Run s1 (.list xs) s2)
    (h : Called E st s2 (.list (x :: xs))) : Called E st s1 (.stmt x) ∧ Called E s1 s2 (.list xs) := by
  have w := h.wf
  have c1 : Conv st (.stmt x) := w
  have c2 : Conv s1 (.list xs) := Conv.cons h1 w
  exact ⟨⟨c1, (h.fut.mono (Nat.le_refl _) (c2.next_le h2)).back_run h2 ((w.ctxLt (Nat.le_refl _)).same h1.stacks) w.two (Nat.le_refl _)⟩,
    ⟨c2, h.fut.mono (c1.next_le h1) (Nat.le_refl _)⟩⟩
end stmts

section ifs
variable {E : List Edge} {st s3 s5 : St} {s e : Nat} {thn : List Stmt}

/-- a first branch `pre … s3` and a plain `else` part, processed in a fresh block (entered from the block `c` of the test) up to `s5` -/
theorem Called.thenElse {pre : St} {os : List Stmt} {c : Nat} (hr : Run pre (.list thn) s3)
    (hr2 : Run (setCur ((bump s3).edge c s3.next .condF) s3.next) (.list os) s5) (c1 : Conv pre (.list thn)) (hc : c < pre.next)
    (f5 : Fut E pre.next s5.next s5) :
    Called E pre s3 (.list thn) ∧ Called E (setCur ((bump s3).edge c s3.next .condF) s3.next) s5 (.list os) := by
  have c2 : Conv (setCur ((bump s3).edge c s3.next .condF) s3.next) (.list os) := Conv.afterThen hr c1 hc
  have sm := hr.stacks
  have hctx : CtxLt (setCur ((bump s3).edge c s3.next .condF) s3.next) pre.next := (c1.wf.ctxLt (Nat.le_refl _)).of_eq sm.loops sm.excs
  exact ⟨⟨c1, ((f5.mono (Nat.le_refl _) (hi' := s3.next) (Nat.le_trans (Nat.le_succ _) (c2.next_le hr2))).back_run hr2 hctx c1.wf.two
    (Nat.le_succ _)).back_branch (Nat.le_refl _)⟩, ⟨c2, f5.mono (Nat.le_succ_of_le (c1.next_le hr)) (Nat.le_refl _)⟩⟩

theorem Called.if_nil
    (h : Called E st (setCur ((s3.edge st.cur (st.next + 1) .condF).edgeUnlessExit s3.cur (st.next + 1) .normal) (st.next + 1)) (.if_ s e thn [])) :
    Called E (ifPre st s e) s3 (.list thn) := by
  have f : Fut E st.next _ _ := h.fut
  simp only [setCur_next, edgeUnlessExit_next, edge_next] at f
  exact ⟨ifPre_wf h.wf s e, (((f.mono (lo' := st.next + 2) (Nat.le_add_right _ 2) (Nat.le_refl _)).back_setCur.back_eue
    (.inl (Nat.lt_succ_self _))).back_edge (.inl (Nat.lt_succ_self _)))⟩

/-- the rest of the chain adds edges into the merge block `st.next + 1`, allocated before the first branch -/
theorem Called.if_chain {l a b : List Stmt} {s' e' : Nat} (hr : Run (ifPre st s e) (.list thn) s3)
    (hr2 : Run s3 (.elifTail st.cur s3.cur (st.next + 1) s' e' a b) s5) (h : Called E st s5 (.if_ s e thn l)) :
    Called E (ifPre st s e) s3 (.list thn) ∧ Called E s3 s5 (.elifTail st.cur s3.cur (st.next + 1) s' e' a b) := by
  have w := h.wf
  have c1 : Conv (ifPre st s e) (.list thn) := ifPre_wf w s e
  have c2 : Conv s3 (.elifTail st.cur s3.cur (st.next + 1) s' e' a b) := Conv.if_chain hr w
  have sm := hr.stacks
  have hctx : CtxLt s3 (st.next + 2) := (w.ctxLt (Nat.le_add_right _ 2)).of_eq sm.loops sm.excs
  have f : Fut E st.next s5.next s5 := h.fut
  exact ⟨⟨c1, (f.mono (Nat.le_add_right _ 2) (c2.next_le hr2)).back_TI
    (target_run hr2 _ (TG.zone hctx (Nat.le_add_left _ _) (Nat.le_refl _)) (.inl (Nat.lt_succ_self _))).ti⟩,
    ⟨c2, f.mono (Nat.le_succ _) (Nat.le_refl _)⟩⟩

theorem Called.if_else {o : Stmt} {os : List Stmt} (hr : Run (ifPre st s e) (.list thn) s3)
    (hr2 : Run (setCur ((bump s3).edge st.cur s3.next .condF) s3.next) (.list (o :: os)) s5)
    (h : Called E st (elseJoin s5 s3.cur (setCur ((s5.edgeUnlessExit s3.cur (st.next + 1) .normal).edgeUnlessExit
      (s5.edgeUnlessExit s3.cur (st.next + 1) .normal).cur (st.next + 1) .normal) (st.next + 1))) (.if_ s e thn (o :: os))) :
    Called E (ifPre st s e) s3 (.list thn) ∧ Called E (setCur ((bump s3).edge st.cur s3.next .condF) s3.next) s5 (.list (o :: os)) :=
  Called.thenElse hr hr2 (ifPre_wf h.wf s e) (Nat.lt_add_right 2 h.wf.cur)
    ((Fut.mono (show Fut E st.next _ _ from h.fut) (lo' := st.next + 2) (Nat.le_add_right _ 2) (Nat.le_refl _)).back_elseJoin
      (by rw [setCur_next, edgeUnlessExit_next, edgeUnlessExit_next])
      fun f => (f.back_setCur.back_eue (.inl (Nat.lt_succ_self _))).back_eue (.inl (Nat.lt_succ_self _)))

theorem Called.elifTail {cond te merge s' e' : Nat} {a b : List Stmt}
    (h : Called E st (tailJoin s5 te merge) (.elifTail cond te merge s' e' a b)) :
    Called E (setCur ((bump st).edge cond st.next .condF) st.next) s5 (.elif s' e' a b merge) := by
  have hml : merge < st.next + 1 := Nat.lt_succ_of_lt h.conv.tail_merge
  have f := Fut.mono (show Fut E merge _ _ from h.fut) (Nat.le_of_lt hml) (Nat.le_refl _)
  refine ⟨h.conv.elifTail, ?_⟩
  rcases tailJoin_cases s5 te merge with ht | ht | ht
  · rw [ht] at f
    exact f
  · rw [ht] at f
    simp only [setCur_next, edgeUnlessExit_next] at f
    exact (f.back_setCur.back_eue (.inl hml)).back_setCur
  · rw [ht] at f
    simp only [setCur_next, edgeUnlessExit_next] at f
    exact f.back_setCur.back_eue (.inl hml)

variable {fm : Nat}

theorem Called.elif_nil (h : Called E st (finishElif (s3.edge st.cur fm .condF) s3.cur fm) (.elif s e thn [] fm)) :
    Called E (elifPre st s e) s3 (.list thn) := by
  have hfl : fm < st.next + 1 := Nat.lt_succ_of_lt h.conv.elif_fm
  have f : Fut E st.next _ _ := h.fut
  rw [finishElif_next, edge_next] at f
  exact ⟨elifPre_wf h.wf s e, ((f.mono (Nat.le_succ _) (Nat.le_refl _)).back_finishElif (.inl hfl)).back_edge (.inl hfl)⟩

theorem Called.elif_chain {l a b : List Stmt} {s' e' : Nat} (hr : Run (elifPre st s e) (.list thn) s3)
    (hr2 : Run (setCur ((bump s3).edge st.cur s3.next .condF) s3.next) (.elif s' e' a b fm) s5)
    (h : Called E st (finishElif s5 s3.cur fm) (.elif s e thn l fm)) :
    Called E (elifPre st s e) s3 (.list thn) ∧ Called E (setCur ((bump s3).edge st.cur s3.next .condF) s3.next) s5 (.elif s' e' a b fm) := by
  have c2 : Conv _ (.elif s' e' a b fm) := h.conv.elif_chain hr
  obtain ⟨⟨w, hfl⟩, f⟩ := h
  have c1 : Conv (elifPre st s e) (.list thn) := elifPre_wf w s e
  have sm := hr.stacks
  have hctx : CtxLt (setCur ((bump s3).edge st.cur s3.next .condF) s3.next) (st.next + 1) := (w.ctxLt (Nat.le_succ _)).of_eq sm.loops sm.excs
  have f : Fut E st.next _ _ := f
  rw [finishElif_next] at f
  have f5 := f.back_finishElif (.inl hfl)
  exact ⟨⟨c1, ((f5.mono (Nat.le_succ _) (hi' := s3.next) (Nat.le_trans (Nat.le_succ _) (c2.next_le hr2))).back_TI
    (target_run hr2 _ (TG.zone hctx (Nat.le_succ_of_le w.two) (Nat.le_succ _)) (.inl (Nat.lt_succ_of_lt hfl))).ti).back_branch (Nat.le_refl _)⟩,
    ⟨c2, f5.mono (Nat.le_trans (Nat.le_succ _) (Nat.le_succ_of_le (c1.next_le hr))) (Nat.le_refl _)⟩⟩

theorem Called.elif_else {o : Stmt} {os : List Stmt} (hr : Run (elifPre st s e) (.list thn) s3)
    (hr2 : Run (setCur ((bump s3).edge st.cur s3.next .condF) s3.next) (.list (o :: os)) s5)
    (h : Called E st (elseJoin s5 s3.cur (finishElif (s5.edgeUnlessExit s5.cur fm .normal) s3.cur fm)) (.elif s e thn (o :: os) fm)) :
    Called E (elifPre st s e) s3 (.list thn) ∧ Called E (setCur ((bump s3).edge st.cur s3.next .condF) s3.next) s5 (.list (o :: os)) :=
  have hfl : fm < st.next + 1 := Nat.lt_succ_of_lt h.conv.elif_fm
  Called.thenElse hr hr2 (elifPre_wf h.wf s e) (Nat.lt_succ_of_lt h.wf.cur)
    ((Fut.mono (show Fut E st.next _ _ from h.fut) (lo' := st.next + 1) (Nat.le_succ _) (Nat.le_refl _)).back_elseJoin
      (by rw [finishElif_next, edgeUnlessExit_next]) fun f => (f.back_finishElif (.inl hfl)).back_eue (.inl hfl))
end ifs

section clauses
variable {E : List Edge} {st : St}

theorem Called.cases_case {s e mb merge : Nat} {body cs : List Stmt} {s1 s2 : St} (hr : Run (casePre st mb s e) (.list body) s1)
    (hr2 : Run (s1.edgeUnlessExit s1.cur merge .normal) (.cases cs mb merge) s2)
    (h : Called E st s2 (.cases (.case_ s e body :: cs) mb merge)) :
    Called E (casePre st mb s e) s1 (.list body) ∧ Called E (s1.edgeUnlessExit s1.cur merge .normal) s2 (.cases cs mb merge) := by
  obtain ⟨c1, c2⟩ := h.conv.cases_case hr
  obtain ⟨⟨w, -, hm⟩, hf⟩ := h
  have sm := hr.stacks
  have hn1 := edgeUnlessExit_next s1 s1.cur merge .normal
  have hctx : CtxLt (s1.edgeUnlessExit s1.cur merge .normal) (st.next + 1) :=
    (w.ctxLt (Nat.le_succ _)).of_eq ((edgeUnlessExit_loops ..).trans sm.loops) ((edgeUnlessExit_excs ..).trans sm.excs)
  exact ⟨⟨c1, ((hf.mono (lo' := st.next + 1) (hi' := s1.next) (Nat.le_succ _) (Nat.le_trans (Nat.le_of_eq hn1.symm) (c2.next_le hr2))).back_TI
      (target_run hr2 _ (TG.zone hctx (Nat.le_succ_of_le w.two) (Nat.le_of_eq hn1.symm)) (.inl (Nat.lt_succ_of_lt hm))).ti).back_eue
        (.inl (Nat.lt_succ_of_lt hm))⟩,
    ⟨c2, hf.mono (Nat.le_trans (Nat.le_of_succ_le (c1.next_le hr)) (Nat.le_of_eq hn1.symm)) (Nat.le_refl _)⟩⟩

theorem Called.handlers_handler {s e hb after : Nat} {body hs : List Stmt} {hbs : List Nat} {s1 s2 : St}
    (hr : Run (handlerPre st hb s e) (.list body) s1) (hr2 : Run (s1.edgeUnlessExit s1.cur after .normal) (.handlers hs hbs after) s2)
    (h : Called E st s2 (.handlers (.handler s e body :: hs) (hb :: hbs) after)) :
    Called E (handlerPre st hb s e) s1 (.list body) ∧ Called E (s1.edgeUnlessExit s1.cur after .normal) s2 (.handlers hs hbs after) := by
  obtain ⟨c1, c2⟩ := h.conv.handlers_handler hr
  obtain ⟨⟨w, -, -, hal⟩, hf⟩ := h
  have sm := hr.stacks
  have hn1 := edgeUnlessExit_next s1 s1.cur after .normal
  have hctx : CtxLt (s1.edgeUnlessExit s1.cur after .normal) st.next :=
    (w.ctxLt (Nat.le_refl _)).of_eq ((edgeUnlessExit_loops ..).trans sm.loops) ((edgeUnlessExit_excs ..).trans sm.excs)
  exact ⟨⟨c1, ((hf.mono (lo' := st.next) (hi' := s1.next) (Nat.le_refl _) (Nat.le_trans (Nat.le_of_eq hn1.symm) (c2.next_le hr2))).back_TI
      (target_run hr2 _ (TG.zone hctx w.two (Nat.le_of_eq hn1.symm)) (.inl hal)).ti).back_eue (.inl hal)⟩,
    ⟨c2, hf.mono (Nat.le_trans (c1.next_le hr) (Nat.le_of_eq hn1.symm)) (Nat.le_refl _)⟩⟩

theorem Called.tryElse_some {elseB ah : Nat} {orelse : List Stmt} {s : St}
    (h : Called E st (s.edgeUnlessExit s.cur ah .normal) (.tryElse true elseB ah orelse)) : Called E (setCur st elseB) s (.list orelse) := by
  have hf : Fut E st.next _ _ := h.fut
  rw [edgeUnlessExit_next] at hf
  exact ⟨h.conv.tryElse_some, hf.back_eue (.inl h.conv.tryElse_ah)⟩

theorem Called.tryFin_some {finB exitBk : Nat} {ctx : Exc} {excs0 : List Exc} {fin : List Stmt} {s : St}
    (hr : Run (finPre st finB ctx excs0) (.list fin) s)
    (h : Called E st (finallyPropagation ((setExcs s (ctx :: excs0)).edgeUnlessExit (setExcs s (ctx :: excs0)).cur exitBk .normal) finB)
      (.tryFin true finB exitBk ctx excs0 fin)) : Called E (finPre st finB ctx excs0) s (.list fin) := by
  have c1 := h.conv.tryFin_some
  obtain ⟨⟨w8, hex, hfb, hel⟩, f⟩ := h
  have j := c1.inv0 hr
  have hjn : st.next ≤ s.next := j.next_le
  have hb := w8.excs_le hjn
  rw [hex] at hb
  have k3a := j.setExcs (x := ctx :: excs0) hb
  have k3 := k3a.edgeUnlessExit (b := exitBk) (t := .normal) (own0 _) k3a.wf.cur (Nat.lt_of_lt_of_le hel hjn)
  obtain ⟨_, _, hn4, _⟩ := finallyPropagation_frame k3 (fin := finB) (own0 _)
    (by rw [edgeUnlessExit_next]; exact Nat.lt_of_lt_of_le (hfb rfl) hjn)
  have hctx3 : CtxLt ((setExcs s (ctx :: excs0)).edgeUnlessExit (setExcs s (ctx :: excs0)).cur exitBk .normal) st.next :=
    (w8.ctxLt (Nat.le_refl _)).of_eq (by simp [(hr.stacks).loops, finPre]) (by simp [hex])
  have f : Fut E st.next _ _ := f
  rw [hn4, edgeUnlessExit_next] at f
  exact ⟨c1, ((f.back_TI (finallyPropagation_target _ finB _ (TG.zone hctx3 w8.two
    (by rw [edgeUnlessExit_next]; exact Nat.le_refl _)))).back_eue (.inl hel)).back_setExcs⟩

theorem Called.tryMid {tryB : Nat} {cfin : Option Nat} {excs0 : List Exc} {nat ah : Nat} {body handlers : List Stmt} {s5 s7 : St}
    (hr1 : Run (setCur (setExcs (bumpN st handlers.length)
      ({ fin := cfin, handlers := (List.range handlers.length).map (fun k => st.next + k), processingFinally := false } :: excs0)) tryB)
      (.list body) s5)
    (hr2 : Run (((List.range handlers.length).map (fun k => st.next + k)).foldl (fun s h => s.edge tryB h .exc)
      (s5.edgeUnlessExit s5.cur nat .normal)) (.handlers handlers ((List.range handlers.length).map (fun k => st.next + k)) ah) s7)
    (h : Called E st s7 (.tryMid tryB cfin excs0 nat ah body handlers)) :
    Called E (setCur (setExcs (bumpN st handlers.length)
      ({ fin := cfin, handlers := (List.range handlers.length).map (fun k => st.next + k), processingFinally := false } :: excs0)) tryB)
      s5 (.list body) ∧
    Called E (((List.range handlers.length).map (fun k => st.next + k)).foldl (fun s h => s.edge tryB h .exc)
      (s5.edgeUnlessExit s5.cur nat .normal)) s7 (.handlers handlers ((List.range handlers.length).map (fun k => st.next + k)) ah) := by
  obtain ⟨c1, c2⟩ := h.conv.tryMid hr1
  obtain ⟨⟨w3, -, -, -, hnat, hah⟩, hf⟩ := h
  have sm := hr1.stacks
  have hjn : st.next + handlers.length ≤ s5.next := c1.next_le hr1
  have hn6 : (((List.range handlers.length).map (fun k => st.next + k)).foldl (fun s h => s.edge tryB h .exc)
      (s5.edgeUnlessExit s5.cur nat .normal)).next = s5.next := (foldl_edge_next ..).trans (edgeUnlessExit_next ..)
  have hctx6 : CtxLt (((List.range handlers.length).map (fun k => st.next + k)).foldl (fun s h => s.edge tryB h .exc)
      (s5.edgeUnlessExit s5.cur nat .normal)) (st.next + handlers.length) :=
    (c1.wf.ctxLt (Nat.le_refl _)).of_eq ((foldl_edge_loops ..).trans ((edgeUnlessExit_loops ..).trans sm.loops))
      ((foldl_edge_excs ..).trans ((edgeUnlessExit_excs ..).trans sm.excs))
  refine ⟨⟨c1, ?_⟩, c2, hf _ _ (Nat.le_trans hjn (Nat.le_of_eq hn6.symm)) (Nat.le_refl _)⟩
  exact (((hf _ s5.next (Nat.le_refl _) (Nat.le_trans (Nat.le_of_eq hn6.symm) (c2.next_le hr2))).back_TI
    (target_run hr2 _ (TG.zone hctx6 (Nat.le_trans w3.two (Nat.le_add_right _ _)) (Nat.le_of_eq hn6.symm))
      (.inl (Nat.lt_of_lt_of_le hah (Nat.le_add_right _ _)))).ti).back_foldl tryB .exc _ _
      (fun h hh => .inl (handlerIds_mem hh).2)).back_eue (.inl (Nat.lt_of_lt_of_le hnat (Nat.le_add_right _ _)))

theorem Called.try_ {s e : Nat} {body handlers orelse fin : List Stmt} {s3 : St} {finB elseB : Nat} {cfin : Option Nat} {nat ah : Nat}
    {s7 s8 s9 : St} (ha : TryAlloc st (!fin.isEmpty) (!orelse.isEmpty) s3 finB elseB cfin nat ah)
    (h7 : Run s3 (.tryMid st.next cfin st.excs nat ah body handlers) s7) (h8 : Run s7 (.tryElse (!orelse.isEmpty) elseB ah orelse) s8)
    (h9 : Run s8 (.tryFin (!fin.isEmpty) finB (st.next + 1)
      { fin := cfin, handlers := (List.range handlers.length).map (fun k => s3.next + k), processingFinally := false } st.excs fin) s9)
    (h : Called E st (setExcs (setCur s9 (st.next + 1)) st.excs) (.stmt (.try_ s e body handlers orelse fin))) :
    Called E s3 s7 (.tryMid st.next cfin st.excs nat ah body handlers) ∧ Called E s7 s8 (.tryElse (!orelse.isEmpty) elseB ah orelse) ∧
    Called E s8 s9 (.tryFin (!fin.isEmpty) finB (st.next + 1)
      { fin := cfin, handlers := (List.range handlers.length).map (fun k => s3.next + k), processingFinally := false } st.excs fin) := by
  obtain ⟨w, hf⟩ := h
  obtain ⟨c7, c8, c9⟩ := Conv.try_ ha h7 h8 w
  have hb := ha.allocated
  have h03 : st.next ≤ s3.next := Nat.le_of_lt (Nat.lt_of_succ_lt hb.next_le)
  have h3L : s3.next ≤ s3.next + handlers.length := Nat.le_add_right _ _
  have h2L : 2 ≤ s3.next + handlers.length := Nat.le_trans w.two (Nat.le_trans h03 h3L)
  obtain ⟨x7, hn7⟩ := c7.tryMid_end h7
  have l7 := c7.loops_eq h7
  have sm8 : Same s7 s8 := h8.stacks
  have hn8 : s7.next ≤ s8.next := c8.next_le h8
  have hn9 : s8.next ≤ s9.next := c9.next_le h9
  have hctx7 : ∀ lo, s3.next + handlers.length ≤ lo → CtxLt s7 lo :=
    fun lo hlo => (w.ctxLt (Nat.le_trans h03 (Nat.le_trans h3L hlo))).push (l7.trans hb.loops) x7
      (fun f hf => Nat.lt_of_lt_of_le (c7.tryMid_cfin f hf) (Nat.le_trans h3L hlo))
      (fun h hh => Nat.lt_of_lt_of_le (handlerIds_mem hh).2 hlo)
  -- `Fut` goes back stage by stage: `f9`, from it `f8` for every window above the handler blocks, from that the same for `s7`; each step by
  -- the target frame of the later stage, with the context the `try` has pushed among the blocks below the window (`hctx7`)
  have f9 : Fut E st.next s9.next s9 := (show Fut E st.next _ _ from hf).back_setExcs.back_setCur
  have f8 : ∀ lo hi, s3.next + handlers.length ≤ lo → hi ≤ s8.next → Fut E lo hi s8 := fun lo hi hlo hhi =>
    ((f9.mono (Nat.le_trans h03 (Nat.le_trans h3L hlo)) (Nat.le_trans hhi hn9)).back_TI
      (target_run h9 _ (TG.zone ((hctx7 lo hlo).same sm8) (Nat.le_trans h2L hlo) hhi) c9.tryFin_excs
        (.inl (Nat.lt_of_lt_of_le hb.next_le (Nat.le_trans h3L hlo)))).ti)
  refine ⟨⟨c7, fun lo hi hlo hhi => ?_⟩, ⟨c8, f8 s7.next s8.next hn7 (Nat.le_refl _)⟩, c9,
    f9.mono (Nat.le_trans h03 (Nat.le_trans (Nat.le_trans h3L hn7) hn8)) (Nat.le_refl _)⟩
  exact (f8 lo hi hlo (Nat.le_trans hhi hn8)).back_TI
    (target_run h8 _ (TG.zone (hctx7 lo hlo) (Nat.le_trans h2L hlo) hhi) (.inl (Nat.lt_of_lt_of_le c7.tryMid_ah (Nat.le_trans h3L hlo)))).ti
end clauses

end PV.CFGSound
