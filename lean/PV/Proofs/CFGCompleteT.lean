import PV.Proofs.CFGFramePre
/-!
T for the TARGET frame of the CFG mirror: every edge added by a builder call has a target that is allocated during the call, or EXIT,
or a block named by the context stacks at the start of the call, or one of the call's explicit block parameters (`TI G st (F st)` for
every `G` with `TG G st`).  Sibling of `CFGFrameA` (which is about edge SOURCES); like it an induction over `Run`, and before it: the
walk carries the context stacks of every state it passes (`TS`), so what a call leaves of them (`Run.stacks`) is read off here, once,
for all later walks.
-/
namespace PV.CFGSound
open PV.CFG

/-- `s` extends `s0` by edges whose TARGET satisfies `G` -/
def TI (G : Nat → Prop) (s0 s : St) : Prop := ∃ ne, s.edges = ne ++ s0.edges ∧ ∀ e ∈ ne, G e.2.1

/-- `G` holds for EXIT, for every block that is not allocated yet, and for every block named by the context stacks -/
structure TG (G : Nat → Prop) (st : St) : Prop where
  up : ∀ x, st.next ≤ x → G x
  exit : G exitB
  loops : ∀ l ∈ st.loops, G l.1 ∧ G l.2.1
  excs : ∀ c ∈ st.excs, (∀ f, c.fin = some f → G f) ∧ ∀ h ∈ c.handlers, G h

theorem TI.refl (G : Nat → Prop) (s : St) : TI G s s := NewE.refl _ s

theorem TI.trans {G : Nat → Prop} {a b c : St} (h₁ : TI G a b) (h₂ : TI G b c) : TI G a c := NewE.trans h₁ h₂

theorem TI.of_edges_eq {G : Nat → Prop} {s0 s s' : St} (h : TI G s0 s) (he : s'.edges = s.edges) : TI G s0 s' := NewE.of_edges_eq h he

theorem TI.edge {G : Nat → Prop} {s0 s : St} (h : TI G s0 s) {a b : Nat} {t : ETy} (hb : G b) : TI G s0 (s.edge a b t) :=
  NewE.edge h hb

theorem TI.edgeUnlessExit {G : Nat → Prop} {s0 s : St} (h : TI G s0 s) {a b : Nat} {t : ETy} (hb : G b) :
    TI G s0 (s.edgeUnlessExit a b t) := NewE.eue h hb

theorem TI.mono {G G' : Nat → Prop} {s0 s : St} (h : TI G s0 s) (hg : ∀ x, G x → G' x) : TI G' s0 s := NewE.mono h fun _ => hg _

theorem TG.later {G : Nat → Prop} {s s' : St} (g : TG G s) (hn : s.next ≤ s'.next) (sm : Same s s') : TG G s' :=
  ⟨fun x hx => g.up x (Nat.le_trans hn hx), g.exit, by rw [sm.loops]; exact g.loops, by rw [sm.excs]; exact g.excs⟩

/-- `TG` with the bound and the context stacks given as such, not read off a state: inside a call the stacks are pushed and popped,
and the proofs below speak of the stacks `L`, `X` that `TS` fixes -/
structure TGc (G : Nat → Prop) (n : Nat) (L : List (Nat × Nat × Nat)) (X : List Exc) : Prop where
  up : ∀ x, n ≤ x → G x
  exit : G exitB
  loops : ∀ l ∈ L, G l.1 ∧ G l.2.1
  excs : ∀ c ∈ X, (∀ f, c.fin = some f → G f) ∧ ∀ h ∈ c.handlers, G h

theorem TG.toc {G : Nat → Prop} {st : St} (g : TG G st) : TGc G st.next st.loops st.excs := ⟨g.up, g.exit, g.loops, g.excs⟩

/-- the working invariant of the walk: `TI`, `next` has not fallen, and the context stacks of `s` are the given lists -/
structure TS (G : Nat → Prop) (s0 : St) (L : List (Nat × Nat × Nat)) (X : List Exc) (s : St) : Prop where
  ti : TI G s0 s
  le : s0.next ≤ s.next
  loops : s.loops = L
  excs : s.excs = X

section rules
variable {G : Nat → Prop} {s0 s : St} {L L' : List (Nat × Nat × Nat)} {X X' : List Exc}

theorem TS.refl' (G : Nat → Prop) (s : St) : TS G s s.loops s.excs s := ⟨TI.refl G s, Nat.le_refl _, rfl, rfl⟩

theorem TS.rBump (t : TS G s0 L X s) : TS G s0 L X (PV.CFGSound.bump s) :=
  ⟨t.ti.of_edges_eq rfl, by have := t.le; simp only [bump_next]; omega, t.loops, t.excs⟩
theorem TS.rBumpU (t : TS G s0 L X s) : TS G s0 L X (PV.CFGSound.bumpU s) :=
  ⟨t.ti.of_edges_eq rfl, by have := t.le; simp only [bumpU_next]; omega, t.loops, t.excs⟩
theorem TS.rBumpN (t : TS G s0 L X s) {k : Nat} : TS G s0 L X (PV.CFGSound.bumpN s k) :=
  ⟨t.ti.of_edges_eq rfl, by have := t.le; simp only [bumpN_next]; omega, t.loops, t.excs⟩
theorem TS.rSetCur (t : TS G s0 L X s) {c : Nat} : TS G s0 L X (PV.CFGSound.setCur s c) :=
  ⟨t.ti.of_edges_eq rfl, t.le, t.loops, t.excs⟩
theorem TS.rAdd (t : TS G s0 L X s) {b p q : Nat} {ty : Ty} : TS G s0 L X (s.add b p q ty) :=
  ⟨t.ti.of_edges_eq rfl, t.le, t.loops, t.excs⟩
theorem TS.rEdge (t : TS G s0 L X s) {a b : Nat} {ty : ETy} (hb : G b) : TS G s0 L X (s.edge a b ty) :=
  ⟨t.ti.edge hb, t.le, t.loops, t.excs⟩
theorem TS.rEdgeUE (t : TS G s0 L X s) {a b : Nat} {ty : ETy} (hb : G b) : TS G s0 L X (s.edgeUnlessExit a b ty) :=
  ⟨t.ti.edgeUnlessExit hb, by rw [edgeUnlessExit_next]; exact t.le, by rw [edgeUnlessExit_loops]; exact t.loops,
    by rw [edgeUnlessExit_excs]; exact t.excs⟩
theorem TS.rSetLoops {l : List (Nat × Nat × Nat)} (hl : l = L) (t : TS G s0 L' X s) : TS G s0 L X (PV.CFGSound.setLoops s l) :=
  ⟨t.ti.of_edges_eq rfl, t.le, hl, t.excs⟩
theorem TS.rSetExcs {x : List Exc} (hx : x = X) (t : TS G s0 L X' s) : TS G s0 L X (PV.CFGSound.setExcs s x) :=
  ⟨t.ti.of_edges_eq rfl, t.le, t.loops, hx⟩

theorem TS.rFoldl (src : Nat) (ty : ETy) : ∀ (hs : List Nat) (s : St), TS G s0 L X s → (∀ h ∈ hs, G h) →
    TS G s0 L X (hs.foldl (fun st h => st.edge src h ty) s)
  | [], _, t, _ => t
  | h :: hs, s, t, hg => by
    simp only [List.foldl_cons]
    exact TS.rFoldl src ty hs _ (t.rEdge (hg h (List.mem_cons_self ..))) (fun x hx => hg x (List.mem_cons_of_mem _ hx))

theorem TS.nest {S S2 : St} (t : TS G s0 L X S) (h : TS G S S.loops S.excs S2) : TS G s0 L X S2 :=
  ⟨t.ti.trans h.ti, Nat.le_trans t.le h.le, h.loops.trans t.loops, h.excs.trans t.excs⟩

/-- `nest` for a second part that ends with other stacks -/
theorem TS.nestTo {S S2 : St} (t : TS G s0 L X S) (h : TS G S L' X' S2) : TS G s0 L' X' S2 :=
  ⟨t.ti.trans h.ti, Nat.le_trans t.le h.le, h.loops, h.excs⟩

theorem TS.tg {S : St} (gc : TGc G s0.next L X) (t : TS G s0 L X S) : TG G S :=
  ⟨fun x hx => gc.up x (Nat.le_trans t.le hx), gc.exit, by rw [t.loops]; exact gc.loops, by rw [t.excs]; exact gc.excs⟩

theorem TS.ite {c : Prop} [Decidable c] {a b : St} (ha : TS G s0 L X a) (hb : TS G s0 L X b) : TS G s0 L X (if c then a else b) := by
  split
  · exact ha
  · exact hb

/-- the jump of a terminator: an edge to the `finally` block `o`, which is taken from the stack of contexts, or else the state `s'` -/
theorem TS.rFinOr (gc : TGc G s0.next L X) (t : TS G s0 L X s) {o : Option Nat} (ho : ∀ f, o = some f → ∃ c ∈ s.excs, c.fin = some f)
    {a : Nat} {ty : ETy} {s' : St} (t' : TS G s0 L X s') :
    TS G s0 L X (match (generalizing := false) o with
      | some f => s.edge a f ty
      | none => s') := by
  cases o with
  | none => exact t'
  | some f =>
    obtain ⟨c, hc, hf⟩ := ho f rfl
    exact t.rEdge ((gc.excs c (by rw [← t.excs]; exact hc)).1 f hf)

theorem TS.loopHead (gc : TGc G s0.next L X) (t : TS G s0 L X s) {l : Nat × Nat × Nat} {rest : List (Nat × Nat × Nat)}
    (hl : s.loops = l :: rest) : G l.1 ∧ G l.2.1 :=
  gc.loops l (by rw [← t.loops, hl]; exact List.mem_cons_self ..)

theorem TS.freshBranch (gc : TGc G s0.next L X) (t : TS G s0 L X s) (a : Nat) (ty : ETy) :
    TS G s0 L X (setCur ((bump s).edge a s.next ty) s.next) :=
  (t.rBump.rEdge (gc.up _ t.le)).rSetCur

theorem TS.stmtBlock (up : ∀ x, s0.next ≤ x → G x) (t : TS G s0 L X s) (p q : Nat) :
    TS G s0 L X (((bump s).edge s.cur s.next .normal).add s.next p q .other) :=
  (t.rBump.rEdge (up _ t.le)).rAdd
end rules

section constructs
variable {G : Nat → Prop} {s0 S : St} {L : List (Nat × Nat × Nat)} {X : List Exc}

theorem go_T (s e : Nat) (up : ∀ x, s0.next ≤ x → G x) :
    ∀ (cs : List Bool) (S : St) (cp : Nat), TS G s0 L X S → TS G s0 L X (procComp.go s e cs S cp).1
  | [], S, cp, t => by rw [go_nil]; exact t
  | hasTest :: rest, S, cp, t => by
    rw [go_cons]
    have u : ∀ k, G (S.next + k) := fun k => up _ (Nat.le_add_right_of_le t.le)
    have t2 := (t.rBump.rEdge (a := cp) (ty := .normal) (u 0)).rAdd (b := S.next) (p := s) (q := e) (ty := .other) |>.rBump.rEdge
      (a := S.next) (ty := .condT) (u 1)
    exact go_T s e up rest _ _ (TS.ite
      ((((((t2.rBump.rEdge (u 2)).rAdd).rBump.rEdge (u 3)).rEdge (u 0)).rAdd).rEdge (u 0))
      ((t2.rAdd.rBump.rEdge (u 2)).rEdge (u 0)))

/-- a comprehension has edges into fresh blocks only -/
theorem comp_T (up : ∀ x, s0.next ≤ x → G x) (t : TS G s0 L X S) (s e : Nat) (comp : List Bool) :
    TS G s0 L X (procComp S s e comp) := by
  rw [procComp_eq]
  have hx : G (S.next + 1) := up _ (Nat.le_add_right_of_le t.le)
  have r := go_T s e up comp _ S.next (t.stmtBlock up s e).rBump
  exact (TS.ite (r.rEdge hx) (r.rEdge hx)).rSetCur

theorem ret_T (gc : TGc G s0.next L X) (t : TS G s0 L X S) (s e : Nat) (comp : List Bool) (hasComp : Bool) :
    TS G s0 L X (procRet S s e comp hasComp) := by
  rw [procRet_eq]
  have t0 : TS G s0 L X (if hasComp then procComp S s e comp else S) := by
    cases hasComp
    · exact t
    · exact comp_T gc.up t s e comp
  generalize (if hasComp then procComp S s e comp else S) = S0 at t0 ⊢
  simp only
  apply TS.rSetCur; apply TS.rBumpU
  exact t0.rAdd.rFinOr gc (fun _ => tfRet_mem) (t0.rAdd.rEdge gc.exit)

/-- `break` and `continue` inside a loop, the statement recorded: the jump goes to the pending `finally` block inside the loop or
to the block `b` of the loop -/
theorem loopJump_T (gc : TGc G s0.next L X) (t : TS G s0 L X S) (d : Nat) (ty : ETy) {b : Nat} (hb : G b) :
    TS G s0 L X (
      let st2 := match targetFinallyLoop S d with
        | some f => S.edge S.cur f ty
        | none => S.edge S.cur b ty
      setCur (bumpU st2) st2.next) := by
  apply TS.rSetCur; apply TS.rBumpU
  exact t.rFinOr gc (fun _ => tfLoop_mem) (t.rEdge hb)

theorem brk_T (gc : TGc G s0.next L X) (t : TS G s0 L X S) (s e : Nat) : TS G s0 L X (procBrk S s e) := by
  rw [procBrk_eq]
  simp only
  split
  · exact t.rAdd
  · next h x d rest hl => exact loopJump_T gc t.rAdd d .brk (t.rAdd.loopHead gc hl).2

theorem cont_T (gc : TGc G s0.next L X) (t : TS G s0 L X S) (s e : Nat) : TS G s0 L X (procCont S s e) := by
  rw [procCont_eq]
  simp only
  split
  · exact t.rAdd
  · next h x d rest hl => exact loopJump_T gc t.rAdd d .cont (t.rAdd.loopHead gc hl).1

theorem raise_T (gc : TGc G s0.next L X) (t : TS G s0 L X S) (s e : Nat) : TS G s0 L X (procRaise S s e) := by
  rw [procRaise_eq]
  simp only
  apply TS.rSetCur; apply TS.rBumpU
  refine t.rAdd.rFinOr gc (fun _ => tf_mem) ?_
  split
  · next cx hcx =>
    split
    · rw [foldl_cur_edges_eq]
      exact TS.rFoldl _ _ _ _ t.rAdd (gc.excs cx (by rw [← t.excs]; exact fallback_mem hcx)).2
    · exact t.rAdd.rEdge gc.exit
  · exact t.rAdd.rEdge gc.exit

theorem loopPre_T (gc : TGc G s0.next L X) (t : TS G s0 L X S) (s e : Nat) (hasElse : Bool) :
    TS G s0 ((S.next, S.next + 2, S.excs.length) :: L) X (loopPre S s e hasElse) := by
  have hle := t.le
  have t1 := (t.stmtBlock gc.up s e).rBump.rBump
  have hLeq : (S.next, S.next + 2, S.excs.length) :: S.loops = (S.next, S.next + 2, S.excs.length) :: L := by rw [t.loops]
  have t3 := (TS.rSetLoops hLeq (TS.ite (c := hasElse = true) t1.rBump t1)).rEdge (a := S.next) (ty := .condT)
    (gc.up (S.next + 1) (by omega))
  exact (TS.ite (t3.rEdge (gc.up _ (Nat.le_add_right_of_le hle))) (t3.rEdge (gc.up _ (Nat.le_add_right_of_le hle)))).rSetCur

theorem TS.rConn (t : TS G s0 L X S) {fin b : Nat} {ty : ETy} (hb : G b) : TS G s0 L X (conn fin S b ty) := by
  unfold conn
  split
  · exact t
  · exact t.rEdge hb

theorem fp_T (gc : TGc G s0.next L X) (t : TS G s0 L X S) (fin : Nat) : TS G s0 L X (finallyPropagation S fin) :=
  fp_ind (P := fun s' => TS G s0 L X s') t fun _ _ _ hm a => a.rConn (fpT_sat gc.exit (t.loops ▸ gc.loops) (t.excs ▸ gc.excs) hm)

/-- what the target frame says of each kind of call: the blocks handed to a sub-function must satisfy `G`; the stages of `try` change
the exception stack as stated -/
abbrev Targeted (st st' : St) : Call → Prop
  | .stmt _ | .list _ | .if_ .. => ∀ G, TG G st → TS G st st.loops st.excs st'
  | .elif _ _ _ _ fm => ∀ G, TG G st → G fm → TS G st st.loops st.excs st'
  | .elifTail _ _ merge .. => ∀ G, TG G st → G merge → TS G st st.loops st.excs st'
  | .cases _ _ merge => ∀ G, TG G st → G merge → TS G st st.loops st.excs st'
  | .handlers _ _ after => ∀ G, TG G st → G after → TS G st st.loops st.excs st'
  | .tryMid _ cfin excs0 nat ah _ handlers => ∀ G, TG G st →
      (∀ c ∈ excs0, (∀ f, c.fin = some f → G f) ∧ ∀ h ∈ c.handlers, G h) → (∀ f, cfin = some f → G f) → G nat → G ah →
      TS G st st.loops
        ({ fin := cfin, handlers := (List.range handlers.length).map (fun k => st.next + k), processingFinally := false } :: excs0) st'
  | .tryElse _ _ ah _ => ∀ G, TG G st → G ah → TS G st st.loops st.excs st'
  | .tryFin _ _ exitBk ctx excs0 _ => ∀ G, TG G st → st.excs = ctx :: excs0 → G exitBk → TS G st st.loops st.excs st'

theorem TGc.pushLoop {n : Nat} (gc : TGc G n L X) {h x d : Nat} (hh : n ≤ h) (hx : n ≤ x) : TGc G n ((h, x, d) :: L) X :=
  ⟨gc.up, gc.exit, fun l hl => (List.mem_cons.mp hl).elim (fun e => e ▸ ⟨gc.up h hh, gc.up x hx⟩) (gc.loops l), gc.excs⟩

theorem tryPre_T (gc : TGc G s0.next L X) (t : TS G s0 L X S) (hasFin hasElse : Bool) :
    TS G s0 L X (tryPre S hasFin hasElse).1 ∧ (hasFin = true → G (tryPre S hasFin hasElse).2.1) ∧
      (hasElse = true → G (tryPre S hasFin hasElse).2.2) := by
  have t1 := (t.rBump.rEdge (a := S.cur) (ty := .normal) (gc.up _ t.le)).rBump
  have t2 := TS.ite (c := hasFin = true) t1.rBump t1
  exact ⟨TS.ite t2.rBump t2, fun h => by simp only [tryPre, h, ↓reduceIte]; exact gc.up _ t1.le,
    fun h => by simp only [tryPre, h, ↓reduceIte]; exact gc.up _ t2.le⟩

/-- the blocks a `try` statement routes to (the entry of `finally`, the target after a handler, the target after the body)
satisfy `P` as soon as the blocks allocated for `finally` / `else` and the block `x` after the statement do -/
theorem try_targets {P : Nat → Prop} {hasFin hasElse : Bool} {finB elseB x : Nat} (hF : hasFin = true → P finB)
    (hE : hasElse = true → P elseB) (hx : P x) :
    (∀ f, (if hasFin = true then some finB else none) = some f → P f) ∧ P (if hasFin = true then finB else x) ∧
      P (if hasElse = true then elseB else if hasFin = true then finB else x) := by
  have hah : P (if hasFin = true then finB else x) := by
    cases hasFin
    · exact hx
    · exact hF rfl
  refine ⟨fun f hf => ?_, hah, ?_⟩
  · cases hasFin
    · cases hf
    · cases hf; exact hF rfl
  · cases hasElse
    · exact hah
    · exact hE rfl

theorem TS.call {S S2 : St} (gc : TGc G s0.next L X) (t : TS G s0 L X S) (ih : ∀ G, TG G S → TS G S S.loops S.excs S2) :
    TS G s0 L X S2 := t.nest (ih G (t.tg gc))

theorem target_run {st st' : St} {cl : Call} (h : Run st cl st') : Targeted st st' cl := by
  induction h with
  | simple st s e cm hcm =>
    intro G g
    cases hcm
    · exact (TS.refl' G st).rAdd
    · exact (comp_T g.up (TS.refl' G st) s e cm).rAdd
  | ret st s e cm hcm => exact fun G g => ret_T g.toc (TS.refl' G st) s e cm hcm
  | brk st s e => exact fun G g => brk_T g.toc (TS.refl' G st) s e
  | cont st s e => exact fun G g => cont_T g.toc (TS.refl' G st) s e
  | raise st s e => exact fun G g => raise_T g.toc (TS.refl' G st) s e
  | def_ st s e b => exact fun G _ => (TS.refl' G st).rAdd
  | handler st s e b => exact fun G _ => (TS.refl' G st).rAdd
  | case_ st s e b => exact fun G _ => (TS.refl' G st).rAdd
  | @class_ st s e body s1 _ ih => exact fun G g => (((TS.refl' G st).freshBranch g.toc _ _).rAdd).call g.toc ih
  | ite _ ih => exact ih
  | elifc _ ih => exact ih
  | elsec _ ih => exact ih
  | @loop_nil st s e body s5 _ ih =>
    intro G g
    have t5 := (loopPre_T g.toc (TS.refl' G st) s e false).call (g.toc.pushLoop (Nat.le_refl _) (Nat.le_add_right _ _)) ih
    exact TS.rSetLoops rfl (TS.rSetLoops rfl (t5.rEdgeUE (g.up _ (Nat.le_refl _)))).rSetCur
  | @loop_cons st s e body o os s5 s8 _ _ ih1 ih2 =>
    intro G g
    have t5 := (loopPre_T g.toc (TS.refl' G st) s e true).call (g.toc.pushLoop (Nat.le_refl _) (Nat.le_add_right _ _)) ih1
    have t6 : TS G st st.loops st.excs (loopElsePre st s5) := (TS.rSetLoops rfl (t5.rEdgeUE (g.up _ (Nat.le_refl _)))).rSetCur
    exact TS.rSetLoops rfl ((t6.call g.toc ih2).rEdgeUE (g.up _ (Nat.le_add_right _ _))).rSetCur
  | @with_ st s e body s2 _ ih =>
    intro G g
    have u : ∀ k, G (st.next + k) := fun k => g.up _ (Nat.le_add_right _ _)
    have t1 : TS G st st.loops st.excs (withPre st s e) :=
      (((TS.refl' G st).stmtBlock g.up s e).rBump.rBump.rBump.rEdge (u 1)).rSetCur
    exact ((((t1.call g.toc ih).rEdgeUE (u 2)).rEdge (u 2)).rEdge (u 3)).rSetCur
  | match_nil st s e =>
    exact fun G g => ((((TS.refl' G st).stmtBlock g.up s e).rBump).rEdge (g.up _ (Nat.le_add_right _ _))).rSetCur
  | @match_cons st s e c cs s2 _ ih =>
    intro G g
    have hm : G (st.next + 1) := g.up _ (Nat.le_add_right _ _)
    have t1 : TS G st st.loops st.excs (matchPre st s e) := ((TS.refl' G st).stmtBlock g.up s e).rBump
    exact ((t1.nest (ih G (t1.tg g.toc) hm)).rEdge hm).rSetCur
  | @try_ st s e body handlers orelse fin s3 finB elseB cfin nat ah s7 s8 s9 ha _ _ _ ih7 ih8 ih9 =>
    intro G g
    obtain ⟨hp, hcfin, hahe, hnate⟩ := ha
    obtain ⟨t3, hF, hE⟩ := tryPre_T g.toc (TS.refl' G st) (!fin.isEmpty) (!orelse.isEmpty)
    rw [hp] at t3 hF hE
    simp only at t3 hF hE
    have gex : G (st.next + 1) := g.up _ (Nat.le_add_right _ _)
    obtain ⟨hcf, hah, hnat⟩ := try_targets (P := G) hF hE gex
    rw [← hahe] at hah hnat
    rw [← hcfin] at hcf
    rw [← hnate] at hnat
    have t7 := t3.nestTo (ih7 G (t3.tg g.toc) g.excs hcf hnat hah)
    rw [t3.loops] at t7
    -- from here on the context of the `try` is on the stack: `G` holds of its `finally` block (`hcf`) and of its handler blocks, which are fresh
    have gX : TGc G st.next st.loops
        ({ fin := cfin, handlers := (List.range handlers.length).map (fun k => s3.next + k), processingFinally := false } :: st.excs) :=
      ⟨g.up, g.exit, g.loops, fun cx hcx => (List.mem_cons.mp hcx).elim
        (fun e => e ▸ ⟨hcf, fun h hh => by
          obtain ⟨k, _, rfl⟩ := List.mem_map.mp hh
          exact g.up _ (Nat.le_add_right_of_le t3.le)⟩) (g.excs cx)⟩
    have t8 := t7.nest (ih8 G (t7.tg gX) hah)
    have t9 := t8.nest (ih9 G (t8.tg gX) t8.excs gex)
    exact TS.rSetExcs rfl t9.rSetCur
  | nil st => exact fun G _ => TS.refl' G st
  | cons _ _ ih1 ih2 => exact fun G g => (ih1 G g).call g.toc ih2
  | @if_nil st s e thn s3 _ ih =>
    intro G g
    have t1 : TS G st st.loops st.excs (ifPre st s e) := ((TS.refl' G st).rAdd.rBump.rBump.rEdge (g.up _ (Nat.le_refl _))).rSetCur
    have hm : G (st.next + 1) := g.up _ (Nat.le_add_right _ _)
    exact (((t1.call g.toc ih).rEdge hm).rEdgeUE hm).rSetCur
  | @if_chain st s e thn l a b s' e' s3 s5 _ _ _ ih1 ih2 =>
    intro G g
    have t1 : TS G st st.loops st.excs (ifPre st s e) := ((TS.refl' G st).rAdd.rBump.rBump.rEdge (g.up _ (Nat.le_refl _))).rSetCur
    have t3 := t1.call g.toc ih1
    exact t3.nest (ih2 G (t3.tg g.toc) (g.up _ (Nat.le_add_right _ _)))
  | @if_else st s e thn o os s3 s5 _ _ _ _ ih1 ih2 =>
    intro G g
    have t1 : TS G st st.loops st.excs (ifPre st s e) := ((TS.refl' G st).rAdd.rBump.rBump.rEdge (g.up _ (Nat.le_refl _))).rSetCur
    have hm : G (st.next + 1) := g.up _ (Nat.le_add_right _ _)
    have t5 := ((t1.call g.toc ih1).freshBranch g.toc st.cur .condF).call g.toc ih2
    exact TS.ite t5.rBumpU.rSetCur ((t5.rEdgeUE hm).rEdgeUE hm).rSetCur
  | @elifTail st cond te merge s' e' thn' orelse' s5 _ ih =>
    intro G g gm
    have t1 := (TS.refl' G st).freshBranch g.toc cond .condF
    have t5 := t1.nest (ih G (t1.tg g.toc) gm)
    exact TS.ite (TS.ite t5 ((t5.rSetCur.rEdgeUE gm).rSetCur)) (t5.rEdgeUE gm).rSetCur
  | @elif_nil st s e thn fm s3 _ ih =>
    intro G g gfm
    have t1 : TS G st st.loops st.excs (elifPre st s e) := (TS.refl' G st).rAdd.freshBranch g.toc st.cur .condT
    exact (((t1.call g.toc ih).rEdge gfm).rEdgeUE gfm).rSetCur
  | @elif_chain st s e thn l a b fm s' e' s3 s5 _ _ _ ih1 ih2 =>
    intro G g gfm
    have t1 : TS G st st.loops st.excs (elifPre st s e) := (TS.refl' G st).rAdd.freshBranch g.toc st.cur .condT
    have t4 := (t1.call g.toc ih1).freshBranch g.toc st.cur .condF
    exact ((t4.nest (ih2 G (t4.tg g.toc) gfm)).rEdgeUE gfm).rSetCur
  | @elif_else st s e thn fm o os s3 s5 _ _ _ _ ih1 ih2 =>
    intro G g gfm
    have t1 : TS G st st.loops st.excs (elifPre st s e) := (TS.refl' G st).rAdd.freshBranch g.toc st.cur .condT
    have t5 := ((t1.call g.toc ih1).freshBranch g.toc st.cur .condF).call g.toc ih2
    exact TS.ite t5.rBumpU.rSetCur ((t5.rEdgeUE gfm).rEdgeUE gfm).rSetCur
  | cases_nil st mb merge => exact fun G _ _ => TS.refl' G st
  | @cases_case st s e body cs mb merge s1 s2 _ _ ih1 ih2 =>
    intro G g gm
    have t1 := ((((TS.refl' G st).freshBranch g.toc mb .condT).rAdd).call g.toc ih1).rEdgeUE (a := s1.cur) (ty := .normal) gm
    exact t1.nest (ih2 G (t1.tg g.toc) gm)
  | @cases_other st x cs mb merge s1 s2 _ _ _ ih1 ih2 =>
    intro G g gm
    have t1 := (((TS.refl' G st).freshBranch g.toc mb .condT).call g.toc ih1).rEdgeUE (a := s1.cur) (ty := .normal) gm
    exact t1.nest (ih2 G (t1.tg g.toc) gm)
  | handlers_nil_l st hbs after => exact fun G _ _ => TS.refl' G st
  | handlers_nil_r st hs after => exact fun G _ _ => TS.refl' G st
  | @handlers_handler st s e body hs hb hbs after s1 s2 _ _ ih1 ih2 =>
    intro G g ga
    have t1 := (((TS.refl' G st).rSetCur.rAdd).call g.toc ih1).rEdgeUE (a := s1.cur) (ty := .normal) ga
    exact t1.nest (ih2 G (t1.tg g.toc) ga)
  | @handlers_other st x hs hb hbs after s1 s2 _ _ _ ih1 ih2 =>
    intro G g ga
    have t1 := (((TS.refl' G st).rSetCur).call g.toc ih1).rEdgeUE (a := s1.cur) (ty := .normal) ga
    exact t1.nest (ih2 G (t1.tg g.toc) ga)
  | @tryMid s3 tryB cfin excs0 nat ah body handlers s5 s7 _ _ ih1 ih2 =>
    intro G g hx hcf hnat hah
    have hmem : ∀ h ∈ (List.range handlers.length).map (fun k => s3.next + k), G h := by
      intro h hh
      obtain ⟨k, _, rfl⟩ := List.mem_map.mp hh
      exact g.up _ (Nat.le_add_right _ _)
    generalize (List.range handlers.length).map (fun k => s3.next + k) = hbs at *
    have gX : TGc G s3.next s3.loops ({ fin := cfin, handlers := hbs, processingFinally := false } :: excs0) :=
      ⟨g.up, g.exit, g.loops, by
        intro cx hcx
        rcases List.mem_cons.mp hcx with rfl | hcx
        · exact ⟨hcf, hmem⟩
        · exact hx cx hcx⟩
    have t4 : TS G s3 s3.loops ({ fin := cfin, handlers := hbs, processingFinally := false } :: excs0)
        (setCur (setExcs (bumpN s3 handlers.length) ({ fin := cfin, handlers := hbs, processingFinally := false } :: excs0)) tryB) :=
      (TS.rSetExcs rfl (TS.refl' G s3).rBumpN).rSetCur
    have t6 := TS.rFoldl tryB .exc hbs _ ((t4.call gX ih1).rEdgeUE (a := s5.cur) (ty := .normal) hnat) hmem
    exact t6.nest (ih2 G (t6.tg gX) hah)
  | tryElse_none s7 elseB ah orelse => exact fun G _ _ => TS.refl' G s7
  | @tryElse_some s7 elseB ah orelse s _ ih => exact fun G g hah => (((TS.refl' G s7).rSetCur).call g.toc ih).rEdgeUE hah
  | tryFin_none s8 finB exitBk ctx excs0 fin => exact fun G _ _ _ => TS.refl' G s8
  | @tryFin_some s8 finB exitBk ctx excs0 fin s _ ih =>
    intro G g hex gex
    have gc : TGc G s8.next s8.loops (ctx :: excs0) := hex ▸ g.toc
    have gP : TGc G s8.next s8.loops ({ ctx with processingFinally := true } :: excs0) := ⟨gc.up, gc.exit, gc.loops, by
      intro cx hcx
      rcases List.mem_cons.mp hcx with rfl | hcx
      · exact gc.excs ctx (List.mem_cons_self ..)
      · exact gc.excs cx (List.mem_cons_of_mem _ hcx)⟩
    have t1 : TS G s8 s8.loops ({ ctx with processingFinally := true } :: excs0) (finPre s8 finB ctx excs0) :=
      TS.rSetExcs rfl (TS.refl' G s8).rSetCur
    rw [hex]
    exact fp_T gc ((TS.rSetExcs rfl (t1.call gP ih)).rEdgeUE gex) finB

end constructs

-- the hypothesis `w` of the two main theorems is not used: the target frame holds of every state
set_option linter.unusedVariables false in
theorem procList_target (ss : List Stmt) (st : St) (w : WF st) (G : Nat → Prop) (g : TG G st) : TI G st (procList st ss) :=
  (target_run ((run_all.2 ss).list st) G g).ti

set_option linter.unusedVariables false in
theorem procStmt_target (x : Stmt) (st : St) (w : WF st) (G : Nat → Prop) (g : TG G st) : TI G st (procStmt st x) :=
  (target_run ((run_all.1 x).stmt st) G g).ti

/-! The frames of the chain, of the cases of a `match` and of the handlers of a `try`: the block parameters need only satisfy `G`. -/
theorem procIfElif_target (thn orelse : List Stmt) (st : St) (s e fm : Nat) (G : Nat → Prop) (g : TG G st) (gfm : G fm) :
    TI G st (procIfElif st s e thn orelse fm) :=
  (target_run (run_call (.elif s e thn orelse fm) st) G g gfm).ti

theorem procIfElifTail_target (thn' orelse' : List Stmt) (st : St) (cond te merge s' e' : Nat) (G : Nat → Prop) (g : TG G st) (gm : G merge) :
    TI G st (procIfElifTail st cond te merge s' e' thn' orelse') :=
  (target_run (run_call (.elifTail cond te merge s' e' thn' orelse') st) G g gm).ti

theorem procCases_target (cs : List Stmt) (st : St) (mb merge : Nat) (G : Nat → Prop) (g : TG G st) (gm : G merge) :
    TI G st (procCases st cs mb merge) :=
  (target_run (run_call (.cases cs mb merge) st) G g gm).ti

theorem procHandlers_target (hs : List Stmt) (hbs : List Nat) (st : St) (after : Nat) (G : Nat → Prop) (g : TG G st) (ga : G after) :
    TI G st (procHandlers st hs hbs after) :=
  (target_run (run_call (.handlers hs hbs after) st) G g ga).ti

theorem finallyPropagation_target (st : St) (fin : Nat) (G : Nat → Prop) (g : TG G st) : TI G st (finallyPropagation st fin) :=
  (fp_T g.toc (TS.refl' G st) fin).ti

/-! ### the context stacks after a call
The target frame asks nothing of the state and nothing of `G` beyond `TG`, so at the trivial `G` it says what every call leaves of the
stacks. -/
theorem TG.true (st : St) : TG (fun _ => True) st :=
  ⟨fun _ _ => trivial, trivial, fun _ _ => ⟨trivial, trivial⟩, fun _ _ => ⟨fun _ _ => trivial, fun _ _ => trivial⟩⟩

theorem TS.same {G : Nat → Prop} {st st' : St} (t : TS G st st.loops st.excs st') : Same st st' := ⟨t.loops, t.excs⟩

theorem procComp_same (st : St) (s e : Nat) (comp : List Bool) : Same st (procComp st s e comp) :=
  (comp_T (fun _ _ => trivial) (TS.refl' (fun _ => True) st) s e comp).same

/-- what a call leaves of the context stacks: they are as before, except that the first stage of a `try` (body and handlers) leaves
the context of the `try` on top of the stack `excs0` it is handed, and the last stage ends with the stack `ctx :: excs0` it is handed,
which is the one it starts with wherever `procTry` calls it -/
abbrev Stacks (st st' : St) : Call → Prop
  | .tryMid _ cfin excs0 _ _ _ handlers => st'.loops = st.loops ∧
      st'.excs = { fin := cfin, handlers := (List.range handlers.length).map (fun k => st.next + k), processingFinally := false } :: excs0
  | .tryFin _ _ _ ctx excs0 _ => st.excs = ctx :: excs0 → Same st st'
  | _ => Same st st'

theorem Run.stacks {st st' : St} {cl : Call} (h : Run st cl st') : Stacks st st' cl := by
  have t := target_run h
  have g := TG.true st
  cases cl with
  | stmt | list | if_ => exact (t _ g).same
  | elif | elifTail | cases | handlers | tryElse => exact (t _ g trivial).same
  | tryMid =>
    have t7 := t _ g (fun _ _ => ⟨fun _ _ => trivial, fun _ _ => trivial⟩) (fun _ _ => trivial) trivial trivial
    exact ⟨t7.loops, t7.excs⟩
  | tryFin => exact fun hx => (t _ g hx trivial).same

end PV.CFGSound

#print axioms PV.CFGSound.procList_target
#print axioms PV.CFGSound.procStmt_target
#print axioms PV.CFGSound.procIfElif_target
#print axioms PV.CFGSound.procIfElifTail_target
#print axioms PV.CFGSound.procCases_target
#print axioms PV.CFGSound.procHandlers_target
#print axioms PV.CFGSound.finallyPropagation_target
