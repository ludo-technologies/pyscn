import PV.Proofs.CFGCompleteT
/-!
The frame of the builder: for EVERY statement (no shape hypothesis) every builder function preserves well-formedness, only touches
owned blocks (`Inv`) and restores the context stacks (`Same`): `frame_all`.
The induction over `Run` proves the frame of every call made within the calling convention (`Conv`), for any owner set `c n` that
contains the blocks the call writes to among those handed in (`Owns`): `Run.frame`; a sub-function that is handed a merge block need not
own it (`Ext`).  The stacks are those of the target walk (`Run.stacks`).
At the end, `build` as a call of `procList` between a named first state and a named last step (`build = finishB ∘ procList (preB …)`,
`build_eq`); hence its result is well-formed (`build_wf`).
-/
namespace PV.CFGSound
open PV.CFG

def PS (x : Stmt) : Prop :=
  ∀ st, WF st → ∀ c n, Own c n st.cur → n ≤ st.next → Inv c n st (procStmt st x) ∧ Same st (procStmt st x)
def PL (ss : List Stmt) : Prop :=
  ∀ st, WF st → ∀ c n, Own c n st.cur → n ≤ st.next → Inv c n st (procList st ss) ∧ Same st (procList st ss)
def PLN (N : Nat) : Prop := ∀ ss, sizeL ss ≤ N → PL ss
def PSN (N : Nat) : Prop := ∀ x : Stmt, x.size ≤ N → PS x

variable {c n : Nat}

/-- the clauses of a comprehension never read the current block: they are framed by the block `cp` the first clause is entered from
and the fresh blocks -/
theorem go_frame (s e : Nat) : ∀ (cs : List Bool) (st : St) (cp : Nat), WF st → n ≤ st.next → Own c n cp → cp < st.next →
    Ext c n st (procComp.go s e cs st cp).1 ∧
      Own c n (procComp.go s e cs st cp).2 ∧ (procComp.go s e cs st cp).2 < (procComp.go s e cs st cp).1.next
  | [], st, cp, w, _, hcp, hlt => by
    rw [go_nil]; exact ⟨Ext.refl w, hcp, hlt⟩
  | hasTest :: rest, st, cp, w, hn, hcp, hlt => by
    rw [go_cons]
    have o : ∀ k, Own c n (st.next + k) := fun _ => .inr (Nat.le_add_right_of_le hn)
    have l : ∀ a b, a < b → st.next + a < st.next + b := fun _ _ h => Nat.add_lt_add_left h _
    have i0 : Ext c n st st := Ext.refl w
    have i1 := (i0.bump.edge (a := cp) (b := st.next) (t := .normal) hcp (Nat.lt_succ_of_lt hlt) (l 0 1 (by decide))).add
      (b := st.next) (p := s) (q := e) (ty := .other) (o 0) (l 0 1 (by decide))
    have i2 := i1.bump.edge (a := st.next) (b := st.next + 1) (t := .condT) (o 0) (l 0 2 (by decide)) (l 1 2 (by decide))
    cases hasTest
    · -- no filter
      have i3 := ((i2.add (b := st.next + 1) (p := s) (q := e) (ty := .other) (o 1) (l 1 2 (by decide))).bump.edge
        (a := st.next + 1) (b := st.next + 2) (t := .normal) (o 1) (l 1 3 (by decide)) (l 2 3 (by decide))).edge
        (a := st.next + 2) (b := st.next) (t := .loop) (o 2) (l 2 3 (by decide)) (l 0 3 (by decide))
      obtain ⟨j, ho, hl⟩ := go_frame s e rest _ st.next i3.wf (Nat.le_trans hn i3.next_le) (o 0) (l 0 3 (by decide))
      exact ⟨i3.trans j, ho, hl⟩
    · have i3 := ((((i2.bump.edge (a := st.next + 1) (b := st.next + 2) (t := .normal) (o 1) (l 1 3 (by decide)) (l 2 3 (by decide))).add
        (b := st.next + 2) (p := s) (q := e) (ty := .other) (o 2) (l 2 3 (by decide))).bump.edge
        (a := st.next + 2) (b := st.next + 3) (t := .condT) (o 2) (l 2 4 (by decide)) (l 3 4 (by decide))).edge
        (a := st.next + 2) (b := st.next) (t := .condF) (o 2) (l 2 4 (by decide)) (l 0 4 (by decide))).add
        (b := st.next + 3) (p := s) (q := e) (ty := .other) (o 3) (l 3 4 (by decide))
      have i4 := i3.edge (a := st.next + 3) (b := st.next) (t := .loop) (o 3) (l 3 4 (by decide)) (l 0 4 (by decide))
      obtain ⟨j, ho, hl⟩ := go_frame s e rest _ st.next i4.wf (Nat.le_trans hn i4.next_le) (o 0) (l 0 4 (by decide))
      exact ⟨i4.trans j, ho, hl⟩

/-- the rest of a comprehension is framed from the state in which its first block `st.next` has been entered -/
theorem comp_tail_frame (st : St) (s e : Nat) (comp : List Bool)
    (w1 : WF (bump (((bump st).edge st.cur st.next .normal).add st.next s e .other))) (hcp : Own c n st.next) (hn : n ≤ st.next + 2) :
    Ext c n (bump (((bump st).edge st.cur st.next .normal).add st.next s e .other)) (procComp st s e comp) ∧
      Same (bump (((bump st).edge st.cur st.next .normal).add st.next s e .other)) (procComp st s e comp) := by
  refine ⟨?_, (procComp_same st s e comp).loops, (procComp_same st s e comp).excs⟩
  rw [procComp_eq]
  obtain ⟨j, ho, hl⟩ := go_frame (c := c) (n := n) s e comp _ st.next w1 hn hcp (Nat.lt_add_of_pos_right (Nat.succ_pos 1))
  have h1 : st.next + 1 < _ := Nat.lt_of_succ_le j.next_le
  simp only
  split
  · exact (j.edge (t := .condF) ho hl h1).setCur h1
  · exact (j.edge (t := .normal) hcp (Nat.lt_of_succ_lt h1) h1).setCur h1

theorem comp_frame (st : St) (s e : Nat) (comp : List Bool) (w : WF st) (hc : Own c n st.cur) (hn : n ≤ st.next) :
    Inv c n st (procComp st s e comp) ∧ Same st (procComp st s e comp) := by
  have i1 := (stmtBlock_inv w hc hn s e).bump
  exact ⟨(i1.ext.trans (comp_tail_frame st s e comp i1.wf (.inr hn) (Nat.le_add_right_of_le hn)).1).inv (.inr (Nat.le_succ_of_le hn)),
    procComp_same st s e comp⟩

theorem ret_frame (st : St) (s e : Nat) (comp : List Bool) (hasComp : Bool) (w : WF st) (hc : Own c n st.cur) (hn : n ≤ st.next) :
    Inv c n st (procRet st s e comp hasComp) := by
  rw [procRet_eq]
  have i0 : Inv c n st (if hasComp then procComp st s e comp else st) := by
    cases hasComp
    · exact Inv.refl w hc
    · exact (comp_frame st s e comp w hc hn).1
  generalize (if hasComp then procComp st s e comp else st) = st0 at i0
  have i1 := i0.add (b := st0.cur) (p := s) (q := e) (ty := .ret) i0.own i0.wf.cur
  have hn1 : n ≤ (st0.add st0.cur s e .ret).next := Nat.le_trans hn i0.next_le
  simp only
  split
  · next f hf =>
    obtain ⟨cx, hcx, hfin⟩ := tfRet_mem hf
    exact i1.jump hn1 ((i1.wf.excs cx hcx).1 f hfin) .ret
  · exact i1.jump hn1 (Nat.lt_of_lt_of_le (by decide) i1.wf.two) .ret

theorem brk_frame (st : St) (s e : Nat) (w : WF st) (hc : Own c n st.cur) (hn : n ≤ st.next) : Inv c n st (procBrk st s e) := by
  rw [procBrk_eq]
  have i1 : Inv c n st (st.add st.cur s e .brk) := (Inv.refl w hc).add hc w.cur
  simp only
  split
  · exact i1
  · next h x d rest hl =>
    split
    · next f hf =>
      obtain ⟨cx, hcx, hfin⟩ := tfLoop_mem hf
      exact i1.jump hn ((i1.wf.excs cx hcx).1 f hfin) .brk
    · exact i1.jump hn (i1.wf.loops (h, x, d) (by rw [hl]; exact List.mem_cons_self ..)).2 .brk

theorem cont_frame (st : St) (s e : Nat) (w : WF st) (hc : Own c n st.cur) (hn : n ≤ st.next) : Inv c n st (procCont st s e) := by
  rw [procCont_eq]
  have i1 : Inv c n st (st.add st.cur s e .cont) := (Inv.refl w hc).add hc w.cur
  simp only
  split
  · exact i1
  · next h x d rest hl =>
    split
    · next f hf =>
      obtain ⟨cx, hcx, hfin⟩ := tfLoop_mem hf
      exact i1.jump hn ((i1.wf.excs cx hcx).1 f hfin) .cont
    · exact i1.jump hn (i1.wf.loops (h, x, d) (by rw [hl]; exact List.mem_cons_self ..)).1 .cont

theorem raise_frame (st : St) (s e : Nat) (w : WF st) (hc : Own c n st.cur) (hn : n ≤ st.next) : Inv c n st (procRaise st s e) := by
  rw [procRaise_eq]
  have i1 : Inv c n st (st.add st.cur s e .raise) := (Inv.refl w hc).add hc w.cur
  have hexit : exitB < (st.add st.cur s e .raise).next := Nat.lt_of_lt_of_le (by decide) i1.wf.two
  simp only
  split
  · next f hf =>
    obtain ⟨cx, hcx, hfin⟩ := tf_mem hf
    exact i1.jump hn ((i1.wf.excs cx hcx).1 f hfin) .exc
  · split
    · next cx hcx =>
      split
      · rw [foldl_cur_edges_eq]
        obtain ⟨j, -, hnx, -⟩ := foldl_edges_frame (c := c) (n := n) (st.add st.cur s e .raise).cur .exc cx.handlers _ i1 hc w.cur
          (fun h hh => (i1.wf.excs cx (fallback_mem hcx)).2 h hh)
        exact (j.bumpU).setCur (by rw [hnx]; exact Or.inr hn) (by rw [bumpU_next, hnx]; exact Nat.lt_succ_self _)
      · exact i1.jump hn hexit .exc
    · exact i1.jump hn hexit .exc

theorem add_cur_frame (st : St) (s e : Nat) (ty : Ty) (w : WF st) (hc : Own c n st.cur) : Inv c n st (st.add st.cur s e ty) :=
  (Inv.refl w hc).add hc w.cur

/-! the updates that end a construct: the join of an `elif` clause into its merge block, the propagation edges out of a `finally` block -/
theorem finishElif_frame {st s : St} (k : Ext c n st s) (te fm : Nat) (hte : Own c n te) (htl : te < s.next) (hfl : fm < s.next) :
    Ext c n st (finishElif s te fm) :=
  (k.edgeUnlessExit (t := .normal) hte htl hfl).setCur (by rw [edgeUnlessExit_next]; exact hfl)

theorem finallyPropagation_frame {s0 s : St} (k : Inv c n s0 s) {fin : Nat} (hfo : Own c n fin) (hfl : fin < s.next) :
    Inv c n s0 (finallyPropagation s fin) ∧ Same s (finallyPropagation s fin) ∧
      (finallyPropagation s fin).next = s.next ∧ (finallyPropagation s fin).cur = s.cur :=
  fp_ind (P := fun s' => Inv c n s0 s' ∧ Same s s' ∧ s'.next = s.next ∧ s'.cur = s.cur) ⟨k, Same.refl _, rfl, rfl⟩
    fun s' b t hm ⟨i, sm, hn, hc⟩ => by
      rcases conn_cases fin s' b t with h | h
      · rw [h]; exact ⟨i, sm, hn, hc⟩
      · rw [h]; exact ⟨i.edge hfo (hn ▸ hfl) (hn ▸ fpT_lt k.wf hm), ⟨sm.loops, sm.excs⟩, hn, hc⟩

theorem Inv.call {s0 s s' : St} (i : Inv c n s0 s) (hn : n ≤ s0.next) (ih : ∀ c n, WF s → n ≤ s.next → Own c n s.cur → Inv c n s s') :
    Inv c n s s' :=
  ih c n i.wf (Nat.le_trans hn i.next_le) i.own

/-- the side conditions under which each kind of call is made: from a well-formed state, and the blocks handed in exist -/
abbrev Conv (st : St) : Call → Prop
  | .stmt _ | .list _ | .if_ .. => WF st
  | .elif _ _ _ _ fm => WF st ∧ fm < st.next
  | .elifTail cond te merge .. => WF st ∧ cond < st.next ∧ te < st.next ∧ merge < st.next
  | .cases _ mb merge => WF st ∧ mb < st.next ∧ merge < st.next
  | .handlers hs hbs after => WF st ∧ hs.length ≤ hbs.length ∧ (∀ hb ∈ hbs, hb < st.next) ∧ after < st.next
  | .tryMid tryB cfin excs0 nat ah _ _ => WF st ∧ tryB < st.next ∧ (∀ f, cfin = some f → f < st.next) ∧
      (∀ cx ∈ excs0, (∀ f, cx.fin = some f → f < st.next) ∧ ∀ h ∈ cx.handlers, h < st.next) ∧ nat < st.next ∧ ah < st.next
  | .tryElse hasElse elseB ah _ => WF st ∧ (hasElse = true → elseB < st.next) ∧ ah < st.next
  | .tryFin hasFin finB exitBk ctx excs0 _ => WF st ∧ st.excs = ctx :: excs0 ∧ (hasFin = true → finB < st.next) ∧ exitBk < st.next

section
variable {st : St}

theorem Conv.wf {c : Call} (h : Conv st c) : WF st := by
  cases c with
  | stmt | list | if_ => exact h
  | elif | elifTail | cases | handlers | tryMid | tryElse | tryFin => exact h.1

theorem Conv.elif_fm {s e thn l fm} (h : Conv st (.elif s e thn l fm)) : fm < st.next := h.2
theorem Conv.tail_cond {cond te merge s' e' thn' l'} (h : Conv st (.elifTail cond te merge s' e' thn' l')) : cond < st.next := h.2.1
theorem Conv.tail_te {cond te merge s' e' thn' l'} (h : Conv st (.elifTail cond te merge s' e' thn' l')) : te < st.next := h.2.2.1
theorem Conv.tail_merge {cond te merge s' e' thn' l'} (h : Conv st (.elifTail cond te merge s' e' thn' l')) : merge < st.next := h.2.2.2
theorem Conv.cases_mb {cs mb merge} (h : Conv st (.cases cs mb merge)) : mb < st.next := h.2.1
theorem Conv.cases_merge {cs mb merge} (h : Conv st (.cases cs mb merge)) : merge < st.next := h.2.2
theorem Conv.handlers_len {hs hbs after} (h : Conv st (.handlers hs hbs after)) : hs.length ≤ hbs.length := h.2.1
theorem Conv.handlers_lt {hs hbs after} (h : Conv st (.handlers hs hbs after)) : ∀ hb ∈ hbs, hb < st.next := h.2.2.1
theorem Conv.handlers_after {hs hbs after} (h : Conv st (.handlers hs hbs after)) : after < st.next := h.2.2.2
theorem Conv.tryMid_tryB {tryB cfin excs0 nat ah body hs} (h : Conv st (.tryMid tryB cfin excs0 nat ah body hs)) : tryB < st.next := h.2.1
theorem Conv.tryMid_cfin {tryB cfin excs0 nat ah body hs} (h : Conv st (.tryMid tryB cfin excs0 nat ah body hs)) :
    ∀ f, cfin = some f → f < st.next := h.2.2.1
theorem Conv.tryMid_excs {tryB cfin excs0 nat ah body hs} (h : Conv st (.tryMid tryB cfin excs0 nat ah body hs)) :
    ∀ cx ∈ excs0, (∀ f, cx.fin = some f → f < st.next) ∧ ∀ hb ∈ cx.handlers, hb < st.next := h.2.2.2.1
theorem Conv.tryMid_nat {tryB cfin excs0 nat ah body hs} (h : Conv st (.tryMid tryB cfin excs0 nat ah body hs)) : nat < st.next := h.2.2.2.2.1
theorem Conv.tryMid_ah {tryB cfin excs0 nat ah body hs} (h : Conv st (.tryMid tryB cfin excs0 nat ah body hs)) : ah < st.next := h.2.2.2.2.2
theorem Conv.tryElse_elseB {hasElse elseB ah l} (h : Conv st (.tryElse hasElse elseB ah l)) : hasElse = true → elseB < st.next := h.2.1
theorem Conv.tryElse_ah {hasElse elseB ah l} (h : Conv st (.tryElse hasElse elseB ah l)) : ah < st.next := h.2.2
theorem Conv.tryFin_excs {hasFin finB exitBk ctx excs0 fin} (h : Conv st (.tryFin hasFin finB exitBk ctx excs0 fin)) : st.excs = ctx :: excs0 := h.2.1
theorem Conv.tryFin_finB {hasFin finB exitBk ctx excs0 fin} (h : Conv st (.tryFin hasFin finB exitBk ctx excs0 fin)) :
    hasFin = true → finB < st.next := h.2.2.1
theorem Conv.tryFin_exit {hasFin finB exitBk ctx excs0 fin} (h : Conv st (.tryFin hasFin finB exitBk ctx excs0 fin)) : exitBk < st.next := h.2.2.2

end

/-- the blocks handed to a call that it adds edges from or records to (besides those it allocates): whoever frames the call by `c n`
must own them -/
abbrev Owns (c n : Nat) (st : St) : Call → Prop
  | .stmt _ | .list _ | .if_ .. | .elif .. => Own c n st.cur
  | .elifTail cond te .. => Own c n cond ∧ Own c n te
  | .cases _ mb _ => Own c n mb
  | .handlers _ hbs _ => ∀ hb ∈ hbs, Own c n hb
  | .tryMid tryB .. => Own c n tryB
  | .tryElse hasElse elseB .. => hasElse = true → Own c n elseB
  | .tryFin hasFin finB .. => hasFin = true → Own c n finB

/-- the frame of each kind of call.  A statement, a list and `if` start in the current block and end in an owned one (`Inv`).  The
other calls make a block of their own current before they add anything; a chain of `elif` clauses ends in its merge block unless it
ends in a fresh one: that block is only a target, and need not be owned. -/
abbrev Frame (c n : Nat) (st st' : St) : Call → Prop
  | .stmt _ | .list _ | .if_ .. => Inv c n st st'
  | .elif _ _ _ _ fm => Ext c n st st' ∧ (st'.cur = fm ∨ Own c n st'.cur)
  | .elifTail _ _ merge .. => Ext c n st st' ∧ (st'.cur = merge ∨ Own c n st'.cur)
  | .tryMid _ _ _ _ _ _ handlers => Ext c n st st' ∧ st.next + handlers.length ≤ st'.next
  | .cases .. | .handlers .. | .tryElse .. | .tryFin .. => Ext c n st st'

theorem Run.frame {st st' : St} {cl : Call} (h : Run st cl st') : ∀ c n, Conv st cl → n ≤ st.next → Owns c n st cl → Frame c n st st' cl := by
  induction h with
  | simple st s e cm hcm =>
    intro c n w hn hc
    cases hcm
    · exact add_cur_frame st s e .other w hc
    · have j := (comp_frame st s e cm w hc hn).1
      exact j.add j.own j.wf.cur
  | ret st s e cm hc => exact fun c n w hn hc => ret_frame st s e cm _ w hc hn
  | brk st s e => exact fun c n w hn hc => brk_frame st s e w hc hn
  | cont st s e => exact fun c n w hn hc => cont_frame st s e w hc hn
  | raise st s e => exact fun c n w hn hc => raise_frame st s e w hc hn
  | def_ st s e b => exact fun c n w _ hc => add_cur_frame st s e .other w hc
  | handler st s e b => exact fun c n w _ hc => add_cur_frame st s e .other w hc
  | case_ st s e b => exact fun c n w _ hc => add_cur_frame st s e .other w hc
  | @class_ st s e body s1 _ ih =>
    intro c n w hn hc
    have i1 := classPre_inv w hc hn s e
    exact i1.trans (i1.call hn ih)
  | ite _ ih => exact ih
  | elifc _ ih => exact ih
  | elsec _ ih => exact ih
  | @loop_nil st s e body s5 _ ih =>
    intro c n w hn hc
    have i2 := loopPre_inv w hc hn s e false
    have j := i2.call hn ih
    exact loop_nil_join w (i2.trans j) hn j.next_le
  | @loop_cons st s e body o os s5 s8 _ _ ih1 ih2 =>
    intro c n w hn hc
    have i2 := loopPre_inv w hc hn s e true
    have j := i2.call hn ih1
    have h4 : st.next + 4 ≤ s5.next := j.next_le
    have k2 := loopElsePre_inv w (i2.trans j) hn h4
    have j2 := k2.call hn ih2
    exact loop_cons_join w (k2.trans j2) hn (Nat.lt_of_lt_of_le (Nat.lt_of_lt_of_le (Nat.lt_add_right 1 (Nat.lt_succ_self _))
      (Nat.le_trans h4 (Nat.le_of_eq (loopElsePre_next ..).symm))) j2.next_le)
  | @with_ st s e body s2 _ ih =>
    intro c n w hn hc
    have i1 := withPre_inv w hc hn s e
    have j := i1.call hn ih
    exact with_join (i1.trans j) hn j.next_le
  | match_nil st s e =>
    intro c n w hn hc
    exact ((matchPre_inv w hc hn s e).edge (a := st.next) (b := st.next + 1) (t := .normal) (.inr hn)
      (Nat.lt_add_of_pos_right (Nat.succ_pos 1)) (Nat.lt_succ_self _)).setCur (x := st.next + 1)
      (.inr (Nat.le_add_right_of_le hn)) (Nat.lt_succ_self _)
  | @match_cons st s e cs0 cs s2 _ ih =>
    intro c n w hn hc
    have i1 := matchPre_inv w hc hn s e
    have j := ih c n ⟨i1.wf, Nat.lt_add_of_pos_right (Nat.succ_pos 1), Nat.lt_succ_self _⟩ (Nat.le_trans hn i1.next_le) (.inr hn)
    have hm : st.next + 1 < s2.next := Nat.lt_of_succ_le j.next_le
    exact (((i1.ext.trans j).edge (a := st.next) (b := st.next + 1) (t := .condF) (.inr hn) (Nat.lt_of_succ_lt hm) hm).setCur (x := st.next + 1)
      hm).inv (.inr (Nat.le_add_right_of_le hn))
  | @try_ st s e body handlers orelse fin s3 finB elseB cfin nat ah s7 s8 s9 ha r7 r8 _ ih7 ih8 ih9 =>
    intro c n w hn hc
    have k3 := ha.inv w hc
    have hb := ha.allocated
    have h1 : st.next + 1 < s3.next := hb.next_le
    have o : ∀ {x : Nat}, st.next + 2 ≤ x → Own c n x := fun h => .inr (Nat.le_trans (Nat.le_add_right_of_le hn) h)
    obtain ⟨k7, hn7⟩ := ih7 c n ⟨k3.wf, Nat.lt_of_succ_lt h1, hb.cfin_lt, w.excs_le k3.next_le, hb.nat_lt, hb.ah_lt⟩
      (Nat.le_trans hn k3.next_le) (.inr hn)
    have h7 := Nat.le_trans (Nat.le_add_right _ _) hn7
    have k8 := ih8 c n ⟨k7.wf, fun h => Nat.lt_of_lt_of_le (hb.els h).2 h7, Nat.lt_of_lt_of_le hb.ah_lt h7⟩
      (Nat.le_trans hn (k3.ext.trans k7).next_le) (fun h => o (hb.els h).1)
    have h8 := Nat.le_trans h7 k8.next_le
    -- the last stage is given the stack that the first two have left: the context of this `try` on top of the stack of `st`
    have k9 := ih9 c n ⟨k8.wf, r8.stacks.excs.trans r7.stacks.2, fun h => Nat.lt_of_lt_of_le (hb.fin h).2.1 h8, Nat.lt_of_lt_of_le h1 h8⟩
      (Nat.le_trans hn ((k3.ext.trans k7).trans k8).next_le) (fun h => o (hb.fin h).1)
    have k := ((k3.ext.trans k7).trans k8).trans k9
    exact ((k.setCur (x := st.next + 1) (Nat.lt_of_lt_of_le h1 (Nat.le_trans h8 k9.next_le))).setExcs (w.excs_le k.next_le)).inv
      (.inr (Nat.le_add_right_of_le hn))
  | nil st => exact fun c n w _ hc => Inv.refl w hc
  | cons _ _ ih1 ih2 =>
    intro c n w hn hc
    have j := ih1 c n w hn hc
    exact j.trans (j.call hn ih2)
  | @if_nil st s e thn s3 _ ih =>
    intro c n w hn hc
    have i1 := ifPre_inv w hc hn s e
    have j := i1.call hn ih
    have k := i1.trans j
    have hm : st.next + 1 < s3.next := j.next_le
    exact ((k.edge (a := st.cur) (b := st.next + 1) (t := .condF) hc (Nat.lt_of_lt_of_le w.cur k.next_le) hm).edgeUnlessExit (t := .normal)
      k.own k.wf.cur hm).setCur (.inr (Nat.le_add_right_of_le hn)) (by rw [edgeUnlessExit_next]; exact hm)
  | @if_chain st s e thn l a b s' e' s3 s5 _ _ _ ih1 ih2 =>
    intro c n w hn hc
    have i1 := ifPre_inv w hc hn s e
    have j := i1.call hn ih1
    have k := i1.trans j
    obtain ⟨j2, hc2⟩ := ih2 c n ⟨k.wf, Nat.lt_of_lt_of_le w.cur k.next_le, k.wf.cur, j.next_le⟩ (Nat.le_trans hn k.next_le) ⟨hc, k.own⟩
    -- the merge block `st.next + 1` of the chain is one of the blocks this `if` allocates
    exact (k.ext.trans j2).inv (hc2.elim (fun h => .inr (Nat.le_trans (Nat.le_add_right_of_le hn) (Nat.le_of_eq h.symm))) id)
  | @if_else st s e thn o os s3 s5 _ _ _ _ ih1 ih2 =>
    intro c n w hn hc
    have i1 := ifPre_inv w hc hn s e
    have j := i1.call hn ih1
    have k := i1.trans j
    have hm : st.next + 1 < s3.next := j.next_le
    have i5 := freshBranch_inv k.ext hn hc (Nat.lt_of_lt_of_le w.cur k.next_le) .condF
    have j5 := i5.call hn ih2
    have k5 := i5.trans j5
    have h5 : s3.next ≤ s5.next := Nat.le_of_succ_le j5.next_le
    have hm5 := Nat.lt_of_lt_of_le hm h5
    unfold elseJoin
    split
    · exact k5.bumpU.setCur (.inr (Nat.le_trans hn k5.next_le)) (Nat.lt_succ_self _)
    · have k6 := k5.edgeUnlessExit (b := st.next + 1) (t := .normal) k.own (Nat.lt_of_lt_of_le k.wf.cur h5) hm5
      exact (k6.edgeUnlessExit (b := st.next + 1) (t := .normal) k6.own k6.wf.cur (by rw [edgeUnlessExit_next]; exact hm5)).setCur
        (.inr (Nat.le_add_right_of_le hn)) (by rw [edgeUnlessExit_next, edgeUnlessExit_next]; exact hm5)
  | @elifTail st cond te merge s' e' thn' orelse' s5 _ ih =>
    intro c n ⟨w, hcl, htl, hml⟩ hn ⟨hco, hto⟩
    have i1 := freshBranch_inv (Ext.refl w) hn hco hcl .condF
    obtain ⟨j, hcj⟩ := ih c n ⟨i1.wf, Nat.lt_succ_of_lt hml⟩ (Nat.le_trans hn i1.next_le) i1.own
    have kj := i1.ext.trans j
    have up : ∀ {x : Nat}, x < st.next → x < s5.next := fun h => Nat.lt_trans h (Nat.lt_of_succ_le j.next_le)
    unfold tailJoin
    split
    · split
      · exact ⟨kj, hcj⟩
      · exact ⟨((kj.setCur (up hml)).edgeUnlessExit (t := .normal) hto (up htl) (up hml)).setCur (by rw [edgeUnlessExit_next]; exact up hml),
          .inl rfl⟩
    · exact ⟨(kj.edgeUnlessExit (t := .normal) hto (up htl) (up hml)).setCur (by rw [edgeUnlessExit_next]; exact up hml), .inl rfl⟩
  | @elif_nil st s e thn fm s3 _ ih =>
    intro c n ⟨w, hfl⟩ hn hc
    have i1 := elifPre_inv w hc hn s e
    have k := i1.trans (i1.call hn ih)
    have hfH := Nat.lt_of_lt_of_le hfl k.next_le
    exact ⟨finishElif_frame (k.ext.edge (a := st.cur) (b := fm) (t := .condF) hc (Nat.lt_of_lt_of_le w.cur k.next_le) hfH) s3.cur fm
      k.own k.wf.cur hfH, .inl rfl⟩
  | @elif_chain st s e thn l a b fm s' e' s3 s5 _ _ _ ih1 ih2 =>
    intro c n ⟨w, hfl⟩ hn hc
    have i1 := elifPre_inv w hc hn s e
    have k := i1.trans (i1.call hn ih1)
    have i5 := freshBranch_inv k.ext hn hc (Nat.lt_of_lt_of_le w.cur k.next_le) .condF
    obtain ⟨j5, -⟩ := ih2 c n ⟨i5.wf, Nat.lt_of_lt_of_le hfl i5.next_le⟩ (Nat.le_trans hn i5.next_le) i5.own
    have k5 := i5.ext.trans j5
    exact ⟨finishElif_frame k5 s3.cur fm k.own (Nat.lt_of_lt_of_le (Nat.lt_succ_of_lt k.wf.cur) j5.next_le)
      (Nat.lt_of_lt_of_le hfl k5.next_le), .inl rfl⟩
  | @elif_else st s e thn fm o os s3 s5 _ _ _ _ ih1 ih2 =>
    intro c n ⟨w, hfl⟩ hn hc
    have i1 := elifPre_inv w hc hn s e
    have k := i1.trans (i1.call hn ih1)
    have i5 := freshBranch_inv k.ext hn hc (Nat.lt_of_lt_of_le w.cur k.next_le) .condF
    have j5 := i5.call hn ih2
    have k5 := i5.trans j5
    unfold elseJoin
    split
    · exact ⟨k5.ext.bumpU.setCur (Nat.lt_succ_self _), .inr (.inr (Nat.le_trans hn k5.next_le))⟩
    · have k6 := k5.edgeUnlessExit (b := fm) (t := .normal) k5.own k5.wf.cur (Nat.lt_of_lt_of_le hfl k5.next_le)
      exact ⟨finishElif_frame k6.ext s3.cur fm k.own
        (by rw [edgeUnlessExit_next]; exact Nat.lt_of_lt_of_le k.wf.cur (Nat.le_of_succ_le j5.next_le)) (Nat.lt_of_lt_of_le hfl k6.next_le),
        .inl rfl⟩
  | cases_nil st mb merge => exact fun c n h _ _ => Ext.refl h.wf
  | @cases_case st s e body cs mb merge s1 s2 _ _ ih1 ih2 =>
    intro c n ⟨w, hml, hgl⟩ hn hmo
    have i2 := casePre_inv w hn hmo hml s e
    have k := i2.trans (i2.call hn ih1)
    have k2 := k.edgeUnlessExit (b := merge) (t := .normal) k.own k.wf.cur (Nat.lt_of_lt_of_le hgl k.next_le)
    have hle := k2.next_le
    exact k2.ext.trans (ih2 c n ⟨k2.wf, Nat.lt_of_lt_of_le hml hle, Nat.lt_of_lt_of_le hgl hle⟩ (Nat.le_trans hn hle) hmo)
  | @cases_other st x cs mb merge s1 s2 _ _ _ ih1 ih2 =>
    intro c n ⟨w, hml, hgl⟩ hn hmo
    have i1 := freshBranch_inv (Ext.refl w) hn hmo hml .condT
    have k := i1.trans (i1.call hn ih1)
    have k2 := k.edgeUnlessExit (b := merge) (t := .normal) k.own k.wf.cur (Nat.lt_of_lt_of_le hgl k.next_le)
    have hle := k2.next_le
    exact k2.ext.trans (ih2 c n ⟨k2.wf, Nat.lt_of_lt_of_le hml hle, Nat.lt_of_lt_of_le hgl hle⟩ (Nat.le_trans hn hle) hmo)
  | handlers_nil_l st hbs after => exact fun c n h _ _ => Ext.refl h.wf
  | handlers_nil_r st hs after => exact fun c n h _ _ => Ext.refl h.wf
  | @handlers_handler st s e body hs hb hbs after s1 s2 _ _ ih1 ih2 =>
    intro c n ⟨w, hlen, hbl, hal⟩ hn hbo
    have i2 := handlerPre_inv w (hbo hb (List.mem_cons_self ..)) (hbl hb (List.mem_cons_self ..)) s e
    have k := i2.trans (i2.call hn ih1)
    have k2 := k.edgeUnlessExit (b := after) (t := .normal) k.own k.wf.cur (Nat.lt_of_lt_of_le hal k.next_le)
    have hle := k2.next_le
    exact k2.ext.trans (ih2 c n ⟨k2.wf, Nat.le_of_succ_le_succ hlen, fun y hy => Nat.lt_of_lt_of_le (hbl y (List.mem_cons_of_mem _ hy)) hle,
      Nat.lt_of_lt_of_le hal hle⟩ (Nat.le_trans hn hle) (fun y hy => hbo y (List.mem_cons_of_mem _ hy)))
  | @handlers_other st x hs hb hbs after s1 s2 _ _ _ ih1 ih2 =>
    intro c n ⟨w, hlen, hbl, hal⟩ hn hbo
    have i1 := ((Ext.refl w).setCur (x := hb) (hbl hb (List.mem_cons_self ..))).inv (hbo hb (List.mem_cons_self ..))
    have k := i1.trans (i1.call hn ih1)
    have k2 := k.edgeUnlessExit (b := after) (t := .normal) k.own k.wf.cur (Nat.lt_of_lt_of_le hal k.next_le)
    have hle := k2.next_le
    exact k2.ext.trans (ih2 c n ⟨k2.wf, Nat.le_of_succ_le_succ hlen, fun y hy => Nat.lt_of_lt_of_le (hbl y (List.mem_cons_of_mem _ hy)) hle,
      Nat.lt_of_lt_of_le hal hle⟩ (Nat.le_trans hn hle) (fun y hy => hbo y (List.mem_cons_of_mem _ hy)))
  | @tryMid s3 tryB cfin excs0 nat ah body handlers s5 s7 _ _ ih1 ih2 =>
    intro c n ⟨w, htl, hcf, hx, hnat, hah⟩ hn hto
    have hmem : ∀ h ∈ (List.range handlers.length).map (fun k => s3.next + k), s3.next ≤ h ∧ h < s3.next + handlers.length :=
      fun _ => handlerIds_mem
    have hlen : handlers.length ≤ ((List.range handlers.length).map (fun k => s3.next + k)).length := by simp
    generalize (List.range handlers.length).map (fun k => s3.next + k) = hbs at *
    have i4 := tryMidPre_inv (Ext.refl w) tryB hto htl cfin hcf excs0 hx hbs handlers.length (fun h hh => (hmem h hh).2)
    have hn4 : n ≤ s3.next + handlers.length := Nat.le_add_right_of_le hn
    have up : ∀ {x : Nat} {s : St}, x < s3.next → s3.next + handlers.length ≤ s.next → x < s.next :=
      fun hx h => Nat.lt_of_lt_of_le (Nat.lt_add_right _ hx) h
    have j := ih1 c n i4.wf hn4 i4.own
    have j5 := j.edgeUnlessExit (b := nat) (t := .normal) j.own j.wf.cur (up hnat j.next_le)
    obtain ⟨j6, -⟩ := foldl_edges_frame (c := c) (n := n) tryB .exc hbs _ j5 hto (up htl j5.next_le)
      (fun h hh => Nat.lt_of_lt_of_le (hmem h hh).2 j5.next_le)
    have j7 := ih2 c n ⟨j6.wf, hlen, fun h hh => Nat.lt_of_lt_of_le (hmem h hh).2 j6.next_le, up hah j6.next_le⟩ (Nat.le_trans hn4 j6.next_le)
      (fun h hh => .inr (Nat.le_trans hn (hmem h hh).1))
    exact ⟨i4.ext.trans (j6.ext.trans j7), (j6.ext.trans j7).next_le⟩
  | tryElse_none s7 elseB ah orelse => exact fun c n h _ _ => Ext.refl h.wf
  | @tryElse_some s7 elseB ah orelse s _ ih =>
    intro c n ⟨w, hel, hah⟩ hn heo
    have i1 := ((Ext.refl w).setCur (x := elseB) (hel rfl)).inv (heo rfl)
    have j := i1.call hn ih
    exact (i1.trans (j.edgeUnlessExit (b := ah) (t := .normal) j.own j.wf.cur (Nat.lt_of_lt_of_le hah j.next_le))).ext
  | tryFin_none s8 finB exitBk ctx excs0 fin => exact fun c n h _ _ => Ext.refl h.wf
  | @tryFin_some s8 finB exitBk ctx excs0 fin s _ ih =>
    intro c n ⟨w, hex, hfl, hel⟩ hn hfo
    have i1 := finPre_inv (Ext.refl w) hex (hfo rfl) (hfl rfl)
    have j := i1.call hn ih
    have j3 := (j.setExcs (x := ctx :: excs0) (by rw [← hex]; exact w.excs_le j.next_le)).edgeUnlessExit (b := exitBk) (t := .normal)
      j.own j.wf.cur (Nat.lt_of_lt_of_le hel j.next_le)
    exact (i1.trans (finallyPropagation_frame j3 (fin := finB) (hfo rfl) (Nat.lt_of_lt_of_le (hfl rfl) j3.next_le)).1).ext

theorem procList_frame (ss : List Stmt) (st : St) (w : WF st) (c n : Nat) (hc : Own c n st.cur) (hn : n ≤ st.next) :
    Inv c n st (procList st ss) ∧ Same st (procList st ss) :=
  have hr := (run_all.2 ss).list st
  ⟨hr.frame c n w hn hc, hr.stacks⟩

theorem procStmt_frame (x : Stmt) (st : St) (w : WF st) (c n : Nat) (hc : Own c n st.cur) (hn : n ≤ st.next) :
    Inv c n st (procStmt st x) ∧ Same st (procStmt st x) :=
  have hr := (run_all.1 x).stmt st
  ⟨hr.frame c n w hn hc, hr.stacks⟩

theorem frame_all : ∀ N, PSN N ∧ PLN N :=
  fun _ => ⟨fun x _ => procStmt_frame x, fun ss _ => procList_frame ss⟩

/-! ### the start and the end of `build` -/

/-- the builder state in which the body of a definition is processed -/
def preB (k : Kind) (s e : Nat) : St :=
  match k with
  | .module => initSt
  | .func => setCur ((bump initSt).edge 0 2 .normal) 2
  | .cls => (setCur ((bump initSt).edge 0 2 .normal) 2).add 2 s e .other

def finishB (st : St) : St := if st.cur != exitB && !st.hasSucc st.cur exitB then st.edge st.cur exitB .normal else st

theorem build_eq (k : Kind) (s e : Nat) (body : List Stmt) : build k s e body = finishB (procList (preB k s e) body) := by
  unfold build finishB preB
  cases k <;> rfl

theorem WF_initSt : WF initSt :=
  ⟨Nat.le_refl _, (by decide), (fun _ h => by cases h), (fun _ h => by cases h), (fun _ h => by cases h), (fun _ h => by cases h)⟩

theorem preB_inv (k : Kind) (s e : Nat) : Inv 0 0 initSt (preB k s e) := by
  have i0 : Inv 0 0 initSt initSt := Inv.refl WF_initSt (Or.inl rfl)
  have own : ∀ x, Own 0 0 x := fun _ => Or.inr (Nat.zero_le _)
  have i2 : Inv 0 0 initSt (setCur ((bump initSt).edge 0 2 .normal) 2) :=
    (i0.bump.edge (own _) (by decide) (by decide)).setCur (own _) (by decide)
  cases k
  · exact i2
  · exact i2.add (own _) (by decide)
  · exact i0

theorem build_wf (k : Kind) (s e : Nat) (body : List Stmt) : WF (build k s e body) := by
  obtain ⟨j, _⟩ := procList_frame body _ (preB_inv k s e).wf 0 0 (Or.inr (Nat.zero_le _)) (Nat.zero_le _)
  rw [build_eq]; unfold finishB
  split
  · exact (j.edge (t := .normal) (Or.inr (Nat.zero_le _)) j.wf.cur j.wf.two).wf
  · exact j.wf

theorem preB_stmts {k : Kind} {s e : Nat} {r : SRec} (h : r ∈ (preB k s e).stmts) :
    k = .cls ∧ r = { blk := 2, s := s, e := e, ty := .other } := by
  cases k
  · cases h
  · exact ⟨rfl, by simpa [preB, initSt] using h⟩
  · cases h

theorem finishB_stmts (st : St) : (finishB st).stmts = st.stmts := by
  unfold finishB; split <;> rfl

theorem finishB_edges_sub (st : St) : ∀ x ∈ st.edges, x ∈ (finishB st).edges := by
  unfold finishB
  split
  · exact fun x h => List.mem_cons_of_mem _ h
  · exact fun x h => h

end PV.CFGSound

#print axioms PV.CFGSound.frame_all
