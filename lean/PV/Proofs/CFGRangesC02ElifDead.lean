import PV.Proofs.CFGRangesC02
/-!
Range-level completeness (C02) for the heads of `elif` clauses — the structurally dead lines, classified.

Under `noSEL` (no standalone `elif` clause) and well-formed spans, every structurally dead line is the start line of a located
statement that is not an `elif` clause, or it lies inside the span of an `if` statement whose own start line is structurally dead
(`structDead_alt`); hence a dead line at which only `elif` clauses start is covered by such an `if` (`structDead_elif_if`).
Where a whole list is dead (after a statement that stops), its `elif` clauses lie inside `if` statements of the list (`ei_all`, `lines_alt`).
-/
namespace PV.CFGSound
open PV.CFG PV.SD

/-- a dead line is the start of a located statement (tag ≠ 2), or lies inside the span of an `if` statement whose own start line is dead -/
def Alt (A : List TLine) (D : List Nat) (l : Nat) : Prop :=
  (∃ e tag, tag ≠ 2 ∧ (l, e, tag) ∈ A) ∨ (∃ s0 e0, (s0, e0, 0) ∈ A ∧ s0 ∈ D ∧ s0 ≤ l ∧ l ≤ e0)

theorem Alt.mono {A A' : List TLine} {D D' : List Nat} {l : Nat} (hA : ∀ x ∈ A, x ∈ A') (hD : ∀ d ∈ D, d ∈ D')
    (h : Alt A D l) : Alt A' D' l := by
  rcases h with ⟨e, tag, ht, hm⟩ | ⟨s0, e0, hm, hd, h1, h2⟩
  · exact .inl ⟨e, tag, ht, hA _ hm⟩
  · exact .inr ⟨s0, e0, hA _ hm, hD _ hd, h1, h2⟩

/-- every line of `L` is classified, with `L` itself as the set of dead lines -/
def AllAlt (T : List TLine) (L : List Nat) : Prop := ∀ l ∈ L, Alt T L l

section allalt
variable {T T' Ta Tb : List TLine} {L La Lb : List Nat}

theorem AllAlt.nil : AllAlt T [] := fun _ h => by cases h

theorem AllAlt.monoA (h : AllAlt T L) (hT : ∀ x ∈ T, x ∈ T') : AllAlt T' L :=
  fun l hl => (h l hl).mono hT (fun _ hd => hd)

theorem AllAlt.app (ha : AllAlt Ta La) (hb : AllAlt Tb Lb) : AllAlt (Ta ++ Tb) (La ++ Lb) := by
  intro l hl
  rcases List.mem_append.mp hl with hl | hl
  · exact (ha l hl).mono (fun _ hx => List.mem_append.mpr (.inl hx)) (fun _ hx => List.mem_append.mpr (.inl hx))
  · exact (hb l hl).mono (fun _ hx => List.mem_append.mpr (.inr hx)) (fun _ hx => List.mem_append.mpr (.inr hx))

theorem AllAlt.consA (h : AllAlt T L) (y : TLine) : AllAlt (y :: T) L := h.monoA (fun _ hx => List.mem_cons_of_mem _ hx)
end allalt

/-- every tagged line of an `elif` clause lies inside the span of a tagged `if` statement of the same list -/
def EI (T : List TLine) : Prop := ∀ l e, (l, e, 2) ∈ T → ∃ s0 e0, (s0, e0, 0) ∈ T ∧ s0 ≤ l ∧ l ≤ e0

section ei
variable {T U : List TLine}
theorem EI.nil : EI [] := fun _ _ h => by cases h

theorem EI.app (h : EI T) (h' : EI U) : EI (T ++ U) := by
  intro l e hm
  rcases List.mem_append.mp hm with hm | hm
  · obtain ⟨s0, e0, h0, hb⟩ := h l e hm
    exact ⟨s0, e0, List.mem_append.mpr (.inl h0), hb⟩
  · obtain ⟨s0, e0, h0, hb⟩ := h' l e hm
    exact ⟨s0, e0, List.mem_append.mpr (.inr h0), hb⟩

/-- a located header line that is no `if` -/
theorem EI.hdr (h : EI T) (s e : Nat) : EI ((s, e, 1) :: T) :=
  EI.app (T := [(s, e, 1)]) (fun _ _ hm => by rw [List.mem_singleton] at hm; cases hm) h
end ei

/-- the `if` case needs no induction hypothesis: all tagged lines of an `if` statement lie inside its span (`tb_all`), whatever its `elif`
chain is; and a statement without standalone `elif` clauses is no `elif` clause -/
theorem ei_all : (∀ x : Stmt, wfS x = true → noSES x = true → EI (tlS x)) ∧ (∀ ss p, wfL p ss = true → noSEL ss = true → EI (tlL ss)) := by
  have leaf : ∀ s e : Nat, EI [(s, e, 1)] := fun s e => EI.nil.hdr s e
  refine wf_ind (PS := fun x => noSES x = true → EI (tlS x)) (PL := fun _ ss => noSEL ss = true → EI (tlL ss))
    ?_ ?_ ?_ ?_ ?_ ?_ ?_ ?_ ?_ ?_ ?_ ?_ ?_ ?_ ?_ ?_ ?_ ?_
  · intro s e c h _ _; rw [tlS_simple]; exact leaf s e
  · intro s e c h _ _; rw [tlS_ret]; exact leaf s e
  · intro s e _ _; rw [tlS_brk]; exact leaf s e
  · intro s e _ _; rw [tlS_cont]; exact leaf s e
  · intro s e _ _; rw [tlS_raise]; exact leaf s e
  · intro s e a b w _ _ _ l e' hm
    have := (tb_all.1 _ w.ite).1 _ hm
    rw [tlS_ite]
    exact ⟨s, e, List.mem_cons_self .., this.1, Nat.le_trans this.2.1 (Nat.le_of_lt_succ this.2.2)⟩
  · intro s e a b _ _ _ hn; rw [noSES_elifc] at hn; cases hn
  · intro s e a _ iha hn; rw [noSES_elsec] at hn; rw [tlS_elsec]; exact iha hn
  · intro s e a b _ iha ihb hn
    rw [noSES_loop, Bool.and_eq_true] at hn; rw [tlS_loop, List.cons_append]
    exact ((iha hn.1).app (ihb hn.2)).hdr s e
  · intro s e a hs c d _ _ _ _ _ _ iha ihh ihc ihd hn
    rw [noSES_try] at hn
    simp only [Bool.and_eq_true] at hn
    rw [tlS_try]
    exact (((iha hn.1.1.1).app (ihh hn.1.1.2)).app (ihc hn.1.2)).app (ihd hn.2)
  · intro s e a _ iha hn; rw [noSES_handler] at hn; rw [tlS_handler]; exact (iha hn).hdr s e
  · intro s e a _ iha hn; rw [noSES_with] at hn; rw [tlS_with]; exact (iha hn).hdr s e
  · intro s e a _ iha hn; rw [noSES_match] at hn; rw [tlS_match]; exact (iha hn).hdr s e
  · intro s e a _ iha hn; rw [noSES_case] at hn; rw [tlS_case]; exact (iha hn).hdr s e
  · intro s e a _ _; rw [tlS_def]; exact leaf s e
  · intro s e a _ iha hn; rw [noSES_class] at hn; rw [tlS_class]; exact (iha hn).hdr s e
  · intro p _; rw [tlL_nil]; exact EI.nil
  · intro p x xs _ _ _ _ _ hx hxs hn
    rw [noSEL_cons, Bool.and_eq_true] at hn
    rw [tlL_cons]
    exact (hx hn.1).app (hxs hn.2)

/-- every line of a list without standalone `elif` clauses is classified, with the lines of the list as the dead lines: it is the start of a
tagged line (`proj_all`), and one with tag 2 lies inside an `if` of the list (`ei_all`) -/
theorem lines_alt {ss : List Stmt} {p : Nat} (hw : wfL p ss = true) (hn : noSEL ss = true) : AllAlt (tlL ss) (linesOfL ss) := by
  intro l hl
  obtain ⟨⟨l', e, tag⟩, hx, rfl, -⟩ := (proj_all.2 ss).of_line hl
  by_cases ht : tag = 2
  · subst ht
    obtain ⟨s0, e0, h0, hb⟩ := ei_all.2 ss p hw hn _ _ hx
    exact .inr ⟨s0, e0, h0, by rw [(proj_all.2 ss).ls]; exact List.mem_map.mpr ⟨_, h0, rfl⟩, hb⟩
  · exact .inl ⟨e, tag, ht, hx⟩

/-- the statements of the induction: the lines inside a statement (`IS`) / the structurally dead lines and the dead lines of the sublists
of a list (`IL`) are classified (`AllAlt`) -/
def IS (x : Stmt) : Prop := noSEO [x] = true → AllAlt (tlS x) (inStmt x)

def IL (ss : List Stmt) : Prop := noSEO ss = true → AllAlt (tlL ss) (structDead ss) ∧ AllAlt (tlL ss) (subDead ss)

theorem IL.sd {ss : List Stmt} (h : IL ss) (hn : noSEL ss = true) : AllAlt (tlL ss) (structDead ss) := (h (noSEO_of_noSEL hn)).1

theorem IL.sub {ss : List Stmt} (h : IL ss) (hn : noSEL ss = true) : AllAlt (tlL ss) (subDead ss) := (h (noSEO_of_noSEL hn)).2

theorem dead_all : (∀ x : Stmt, wfS x = true → IS x) ∧ (∀ ss p, wfL p ss = true → IL ss) := by
  refine wf_ind (PS := IS) (PL := fun _ ss => IL ss) ?_ ?_ ?_ ?_ ?_ ?_ ?_ ?_ ?_ ?_ ?_ ?_ ?_ ?_ ?_ ?_ ?_ ?_
  · intro s e c h _ _; rw [inStmt_simple]; exact AllAlt.nil
  · intro s e c h _ _; rw [inStmt_ret]; exact AllAlt.nil
  · intro s e _ _; rw [inStmt_brk]; exact AllAlt.nil
  · intro s e _ _; rw [inStmt_cont]; exact AllAlt.nil
  · intro s e _ _; rw [inStmt_raise]; exact AllAlt.nil
  · intro s e a b _ iha ihb hno
    rw [noSEO_single_of_ne (fun _ _ _ _ h => Stmt.noConfusion h), noSES_ite, Bool.and_eq_true] at hno
    rw [inStmt_ite, tlS_ite]
    exact ((iha.sd hno.1).app (ihb hno.2).1).consA _
  · intro s e a b _ iha ihb hno
    rw [noSEO_elifc, Bool.and_eq_true] at hno
    rw [inStmt_elifc, tlS_elifc]
    exact ((iha.sd hno.1).app (ihb hno.2).1).consA _
  · intro s e a _ iha hno
    rw [noSEO_single_of_ne (fun _ _ _ _ h => Stmt.noConfusion h), noSES_elsec] at hno
    rw [inStmt_elsec, tlS_elsec]
    exact iha.sd hno
  · intro s e a b _ iha ihb hno
    rw [noSEO_single_of_ne (fun _ _ _ _ h => Stmt.noConfusion h), noSES_loop, Bool.and_eq_true] at hno
    rw [inStmt_loop, tlS_loop]
    exact ((iha.sd hno.1).app (ihb.sd hno.2)).consA _
  · intro s e a hs c d _ _ _ _ _ _ iha ihh ihc ihd hno
    rw [noSEO_single_of_ne (fun _ _ _ _ h => Stmt.noConfusion h), noSES_try] at hno
    simp only [Bool.and_eq_true] at hno
    obtain ⟨⟨⟨na, nh⟩, nc⟩, nd⟩ := hno
    rw [inStmt_try, tlS_try]
    exact (((iha.sd na).app (ihh.sub nh)).app (ihc.sd nc)).app (ihd.sd nd)
  · intro s e a _ iha hno
    rw [noSEO_single_of_ne (fun _ _ _ _ h => Stmt.noConfusion h), noSES_handler] at hno
    rw [inStmt_handler, tlS_handler]
    exact (iha.sd hno).consA _
  · intro s e a _ iha hno
    rw [noSEO_single_of_ne (fun _ _ _ _ h => Stmt.noConfusion h), noSES_with] at hno
    rw [inStmt_with, tlS_with]
    exact (iha.sd hno).consA _
  · intro s e a _ iha hno
    rw [noSEO_single_of_ne (fun _ _ _ _ h => Stmt.noConfusion h), noSES_match] at hno
    rw [inStmt_match, tlS_match]
    exact (iha.sub hno).consA _
  · intro s e a _ iha hno
    rw [noSEO_single_of_ne (fun _ _ _ _ h => Stmt.noConfusion h), noSES_case] at hno
    rw [inStmt_case, tlS_case]
    exact (iha.sd hno).consA _
  · intro s e a _ _; rw [inStmt_def]; exact AllAlt.nil
  · intro s e a _ iha hno
    rw [noSEO_single_of_ne (fun _ _ _ _ h => Stmt.noConfusion h), noSES_class] at hno
    rw [inStmt_class, tlS_class]
    exact (iha.sd hno).consA _
  · intro p _
    rw [structDead_eq', deadInBlock_nil, subDead_nil, List.nil_append]
    exact ⟨AllAlt.nil, AllAlt.nil⟩
  · intro p x xs _ _ _ wxs _ ihx ihxs hno
    obtain ⟨nx, nxs, hxs⟩ := noSEO_cons hno
    have hx := ihx nx
    obtain ⟨h1, h2⟩ := ihxs nxs
    have hsub : AllAlt (tlL (x :: xs)) (subDead (x :: xs)) := by
      rw [tlL_cons, subDead_cons]; exact hx.app h2
    refine ⟨?_, hsub⟩
    have hT : ∀ y ∈ tlL xs, y ∈ tlL (x :: xs) := fun y hy => by
      rw [tlL_cons]; exact List.mem_append.mpr (.inr hy)
    rw [structDead_eq', deadInBlock_cons]
    intro l hl
    rcases List.mem_append.mp hl with hl | hl
    · by_cases hst : stops x = true
      · rw [if_pos hst] at hl ⊢
        rcases hxs with rfl | hxs
        · rw [linesOfL_nil] at hl; cases hl
        · exact (lines_alt wxs hxs l hl).mono hT (fun _ hd => List.mem_append.mpr (.inl hd))
      · rw [if_neg hst] at hl ⊢
        have hl' : l ∈ structDead xs := by rw [structDead_eq']; exact List.mem_append.mpr (.inl hl)
        refine (h1 l hl').mono hT ?_
        intro d hd
        rw [structDead_eq'] at hd
        rcases List.mem_append.mp hd with hd | hd
        · exact List.mem_append.mpr (.inl hd)
        · refine List.mem_append.mpr (.inr ?_)
          rw [subDead_cons]; exact List.mem_append.mpr (.inr hd)
    · exact (hsub l hl).mono (fun _ hy => hy) (fun _ hd => List.mem_append.mpr (.inr hd))

theorem structDead_alt (ss : List Stmt) (p : Nat) (hw : wfL p ss = true) (hno : noSEL ss = true) :
    ∀ l ∈ structDead ss, Alt (tlL ss) (structDead ss) l :=
  (dead_all.2 ss p hw).sd hno

theorem structDead_elif_if (ss : List Stmt) (p : Nat) (hw : wfL p ss = true) (hno : noSEL ss = true) (l : Nat) (hl : l ∈ structDead ss)
    (hne : ∀ e tag, (l, e, tag) ∈ tlL ss → tag = 2) :
    ∃ s0 e0, (s0, e0, 0) ∈ tlL ss ∧ s0 ∈ structDead ss ∧ s0 ≤ l ∧ l ≤ e0 := by
  rcases structDead_alt ss p hw hno l hl with ⟨e, tag, ht, hm⟩ | h
  · exact absurd (hne e tag hm) ht
  · exact h

end PV.CFGSound

#print axioms PV.CFGSound.structDead_alt
#print axioms PV.CFGSound.structDead_elif_if
