import PV.Proofs.CFGRangesC02ElifDead
import PV.Proofs.CFGRangesDefs
import PV.Proofs.CFGRangesC02
/-!
Reported ranges, completeness (C02) WITHOUT the exemption for the heads of `elif` clauses: every structurally dead line lies inside a
reported range (`mirror_ranges_complete_all`).  A structurally dead `elif` head `l` lies inside the span `s₀ … e₀` of an `if`
statement of the body whose own start line `s₀` is structurally dead and is no `elif` head (`elif_head_in_dead_if`);
`build_complete` gives a record `r` with `r.s = s₀` in an unreachable block; `r.e = e₀` and `r` is the newest record of its block
(`build_if_test_newest`: in a well-formed definition `UT` holds for every `if` statement, so the builder invariant `build_nw`
applies, which needs no fragment condition); `ranges_cover_span` covers `s₀ … e₀ ∋ l`.
-/
/-!
Reported ranges, completeness (C02) for the heads of `elif` clauses.

**The test record of an `if` statement is the newest record of its block, for ever.**  Fix a line `t ≠ 0` such that the only
statement of the program that starts at `t` is an `if` statement `t … e` (`UT t e`).  Then in every builder state every record
that starts at `t` ends at `e` and is the NEWEST record of its block (`NW t e`), and no such record is in the current block
(`JP`).  Read off the record trace (`procList_tr`, `Tr.jp`): a test is stored in the current block, and then a block that holds no
record becomes current.  No hypothesis on the shape of the program is needed.
-/
namespace PV.CFGSound
open PV.CFG

/-- the state invariant: `NW` for the record list, and the current block holds no record that starts at `t` -/
structure JP (t e : Nat) (st : St) : Prop where
  nw : NW t e st.stmts
  cur : NoT t st.stmts st.cur

def JQL (t e : Nat) (ss : List Stmt) : Prop := ∀ st : St, t ≠ 0 → WF st → UT t e (tlL ss) → JP t e st → JP t e (procList st ss)

theorem procList_jp (t e : Nat) (ss : List Stmt) : JQL t e ss := by
  intro st ht w hu h
  obtain ⟨h1, h2⟩ := (procList_tr ss false false false st w (fun h => nomatch h) (fun h => nomatch h)).jp ht hu h.nw h.cur
  exact ⟨h1, h2⟩

end PV.CFGSound

#print axioms PV.CFGSound.procList_jp

namespace PV.CFGSound
open PV.CFG PV.SD

/-- the records that start at the line of an `if` statement (`UT`: no other statement starts there) carry its span and are the newest
records of their blocks -/
theorem build_nw (k : Kind) (s e : Nat) (body : List Stmt) (t q : Nat) (ht : t ≠ 0) (hu : UT t q (tlL body)) (hk : k = .cls → s ≠ t) :
    NW t q (build k s e body).stmts := by
  rw [build_eq, finishB_stmts]
  refine (procList_jp t q body (preB k s e) ht (preB_inv k s e).wf hu ?_).nw
  cases k
  · exact ⟨trivial, fun _ h => by cases h⟩
  · exact ⟨⟨trivial, fun hh => absurd hh (hk rfl), fun _ h => by cases h⟩, NoT.cons (fun _ h => by cases h) (fun hh => absurd hh (hk rfl))⟩
  · exact ⟨trivial, fun _ h => by cases h⟩

theorem wfdef_tl {k : Kind} {s e : Nat} {body : List Stmt} (hwf : WFDef k s e body) :
    (∀ x ∈ tlL body, ∀ y ∈ tlL body, x.1 = y.1 → x = y) ∧ (∀ x ∈ tlL body, 1 ≤ x.1 ∧ x.1 ≤ x.2.1) ∧ (k = .cls → ∀ x ∈ tlL body, s < x.1) := by
  refine ⟨tl_unique body 1 hwf.wfl, fun x hx => ?_, ?_⟩
  · have := tl_bounds body 1 hwf.wfl x hx
    exact ⟨this.1, this.2.1⟩
  · intro hk x hx
    subst hk
    have := tl_bounds body (s + 1) hwf.2.2 x hx
    omega

theorem build_if_test_newest (k : Kind) (s e : Nat) (body : List Stmt) (hwf : WFDef k s e body) {s₀ e₀ : Nat}
    (hif : (s₀, e₀, 0) ∈ tlL body) {a c : List SRec} {r : SRec} (hL : (build k s e body).stmts = a ++ r :: c) (hr : r.s = s₀) :
    r.e = e₀ ∧ NoRec a r.blk := by
  obtain ⟨hun, hpos, hcls⟩ := wfdef_tl hwf
  have hu : UT s₀ e₀ (tlL body) := fun x hx hxs => hun x hx _ hif hxs
  have h1 := (hpos _ hif).1
  exact (build_nw k s e body s₀ e₀ (by simp only at h1; omega) hu
    (fun hk hh => by have := hcls hk _ hif; simp only at this; omega)).split hL hr

theorem elif_head_in_dead_if (body : List Stmt) (p : Nat) (hw : wfL p body = true) (hno : noSEL body = true) (l : Nat)
    (hl : l ∈ structDead body) (hel : l ∈ elifL body) :
    ∃ s₀ e₀, (s₀, e₀, 0) ∈ tlL body ∧ s₀ ∈ structDead body ∧ s₀ ∉ elifL body ∧ s₀ ≤ l ∧ l ≤ e₀ := by
  obtain ⟨el, hel2⟩ := elifL_tl body l hel
  have hne : ∀ e' tag, (l, e', tag) ∈ tlL body → tag = 2 := by
    intro e' tag hm
    have := tl_unique body p hw _ hm _ hel2 rfl
    simp only [Prod.mk.injEq] at this
    exact this.2.2
  obtain ⟨s0, e0, hm0, hd0, h1, h2⟩ := structDead_elif_if body p hw hno l hl hne
  refine ⟨s0, e0, hm0, hd0, ?_, h1, h2⟩
  intro hh
  obtain ⟨e', hm'⟩ := elifL_tl body s0 hh
  have := tl_unique body p hw _ hm0 _ hm' rfl
  simp only [Prod.mk.injEq] at this
  omega

theorem mirror_ranges_complete_all (k : Kind) (s e : Nat) (body : List Stmt) (hok : okLC false body = true) (hno : noSEL body = true)
    (hwf : WFDef k s e body) :
    ∀ l ∈ structDead body, ∃ f ∈ findings (build k s e body), f.s ≤ l ∧ l ≤ f.e := by
  intro l hl
  rcases mirror_ranges_complete k s e body hok hno hwf l hl with hel | h
  · obtain ⟨s0, e0, hm0, hd0, hs0, h1, h2⟩ := elif_head_in_dead_if body 1 hwf.wfl hno l hl hel
    rcases build_complete k s e body hok s0 hd0 with hh | ⟨r, hr, hrs, hrb⟩
    · exact absurd hh hs0
    · obtain ⟨a, c, hL⟩ := List.append_of_mem hr
      obtain ⟨hre, hnr⟩ := build_if_test_newest k s e body hwf hm0 hL hrs
      exact ranges_cover_span k s e body hok hno hwf hL hnr hrb l (by omega) (by omega)
  · exact h

end PV.CFGSound

#print axioms PV.CFGSound.build_nw
#print axioms PV.CFGSound.build_if_test_newest
#print axioms PV.CFGSound.elif_head_in_dead_if
#print axioms PV.CFGSound.mirror_ranges_complete_all
