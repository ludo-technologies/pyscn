import PV.Proofs.CFGSound
import PV.Proofs.CFGSoundFrag
/-!
The soundness proof of the builder mirror on the fragment `S4.okL3` (= `okL4`): `try` / `except` / `else` / `finally`, with
`try … finally` also inside `finally` bodies.  (The names of this namespace end in 3 for the fragment `S4.okL3` the induction runs
on; `CFGSound3` has statements of the same names in `PV.CFGSound`, on the smaller fragment `okL3`, which follow from these.)

`PI E L X` says of every context of the exception stack `X` whose `finally` is being processed: if its `finally` block is reached,
so are the targets of its propagation edges (the first outer `finally` / the loop targets).  With that, the target that
`finallyPropagation` links to (first outer `finally`, processed or not) reaches the target that `targetFinally*` compute (first
outer `finally` that is NOT being processed): `chain_raise`, `chain_loop`.  `PI` is consumed in one place only, after a non-empty
`finally`.  So the induction runs on the invariant `IG`, which asks for `PI` unless a flag `nf` is set, and on the fragment `okG`,
which under `nf` has no `try` with a non-empty `finally`.  At `nf = false` this is the theorem with `I3` (`sound_list3`); with `nf`
it covers `okL3` inside a `finally` body, where the invariant of `CFGSound3` says nothing about the contexts being processed.

The induction is over the builder's calls (`sound_run`, over `Run`); `Sound` says what it proves of each kind of call.  Every call
is made within the calling convention (`Conv`), and a case takes the convention of its nested calls from the inheritance lemma of its
constructor; the frame of a nested call (`Conv.own`, `Conv.frame`) tells which blocks it leaves alone.

Two inductions over the syntax stand before it, in one section: `exSome_all` (a list of the fragment has some structural exit, which
the `try` case of `sound_run` uses) and `le_all3` (`live ≤ sx`, with `le_try` for its `try` case, giving `live_le_sx3`);
`build_sound3` and `mirror_sound3` are the theorems for one definition; after the namespace the same statements on `okL4`
(`build_sound4`, `mirror_sound4`, `live_le_sx4`).
-/
namespace PV.CFGSound.S4
open PV.CFG PV.Py

def Both (nf p q : Bool) : Prop := p = true ∧ (nf = true → q = true)

theorem Both.and {nf p p' q q' : Bool} (h : Both nf (p && p') (q && q')) : Both nf p q ∧ Both nf p' q' := by
  unfold Both at h ⊢
  simp only [Bool.and_eq_true] at h
  exact ⟨⟨h.1.1, fun n => (h.2 n).1⟩, h.1.2, fun n => (h.2 n).2⟩

/-- The fragment `okL3 il f` (whose flag `f` is inert) and, under `nf`, moreover `CFGSound.okL3 il true`, the fragment of a
`finally` body without a `try` that has a non-empty `finally`. -/
def okG (nf il f : Bool) (ss : List Stmt) : Prop := Both nf (okL3 il f ss) (CFGSound.okL3 il true ss)
def okGS (nf il f : Bool) (x : Stmt) : Prop := Both nf (okS3 il f x) (CFGSound.okS3 il true x)
def okGC (nf il f : Bool) (cs : List Stmt) : Prop := Both nf (okCases3 il f cs) (CFGSound.okCases3 il true cs)
def okGH (nf il f : Bool) (hs : List Stmt) : Prop := Both nf (okHs3 il f hs) (CFGSound.okHs3 il true hs)

section okG
variable {nf il f : Bool} {s e : Nat} {a b c d hs cs : List Stmt}

theorem okG.ofFalse (h : okL3 il f a = true) : okG false il f a := ⟨h, fun n => by cases n⟩
theorem okG.ofS3 (h : CFGSound.okL3 il f a = true) : okG f il f a :=
  ⟨S4_of_okL4 a il f (okL4_of_okL3 a il f h), fun hf => by subst hf; exact h⟩

theorem okG_cons {x : Stmt} {xs : List Stmt} (h : okG nf il f (x :: xs)) : okGS nf il f x ∧ okG nf il f xs := by
  unfold okG at h
  rw [okL3_cons, CFGSound.okL3_cons] at h
  exact h.and
theorem okGS_brk (h : okGS nf il f (.brk s e)) : il = true := by
  have := h.1
  rwa [okS3_brk] at this
theorem okGS_cont (h : okGS nf il f (.cont s e)) : il = true := by
  have := h.1
  rwa [okS3_cont] at this
theorem okGS_ite (h : okGS nf il f (.ite s e a b)) : okG nf il f a ∧ okG nf il f b := by
  unfold okGS at h
  rw [okS3_ite, CFGSound.okS3_ite] at h
  exact h.and
theorem okGS_elifc (h : okGS nf il f (.elifc s e a b)) : okG nf il f a ∧ okG nf il f b := by
  unfold okGS at h
  rw [okS3_elifc, CFGSound.okS3_elifc] at h
  exact h.and
theorem okGS_elsec (h : okGS nf il f (.elsec s e a)) : okG nf il f a := by
  unfold okGS at h
  rwa [okS3_elsec, CFGSound.okS3_elsec] at h
theorem okGS_loop (h : okGS nf il f (.loop s e a b)) : okG nf true f a ∧ okG nf il f b := by
  unfold okGS at h
  rw [okS3_loop, CFGSound.okS3_loop] at h
  exact h.and
theorem okGS_with (h : okGS nf il f (.with_ s e a)) : okG nf il f a := by
  unfold okGS at h
  rwa [okS3_with, CFGSound.okS3_with] at h
theorem okGS_match (h : okGS nf il f (.match_ s e cs)) : okGC nf il f cs := by
  unfold okGS at h
  rwa [okS3_match, CFGSound.okS3_match] at h
theorem okGS_class (h : okGS nf il f (.class_ s e a)) : okG nf false f a := by
  unfold okGS at h
  rwa [okS3_class, CFGSound.okS3_class] at h
theorem okGS_handler (h : okGS nf il f (.handler s e a)) : False := by
  have := h.1
  rw [okS3] at this
  cases this
theorem okGS_case (h : okGS nf il f (.case_ s e a)) : False := by
  have := h.1
  rw [okS3] at this
  cases this
theorem okGS_try (h : okGS nf il f (.try_ s e a hs c d)) :
    okG nf il f a ∧ okGH nf il f hs ∧ okG nf il f c ∧ (d.isEmpty = false → nf = false ∧ okL3 il true d = true) := by
  unfold okGS at h
  rw [okS3_try, CFGSound.okS3_try] at h
  obtain ⟨h1, hd⟩ := h.and
  obtain ⟨h2, hc⟩ := h1.and
  obtain ⟨ha, hh⟩ := h2.and
  refine ⟨ha, hh, hc, fun hne => ?_⟩
  rw [hne] at hd
  cases nf
  · exact ⟨rfl, by simpa using hd.1⟩
  · have := hd.2 rfl
    simp at this
theorem okGC_cons {x : Stmt} (h : okGC nf il f (x :: cs)) : ∃ s e a, x = .case_ s e a ∧ okG nf il f a ∧ okGC nf il f cs := by
  obtain ⟨s, e, a, rfl, _, _⟩ := okCases3_cons h.1
  unfold okGC at h
  rw [okCases3_case, CFGSound.okCases3_case] at h
  exact ⟨s, e, a, rfl, h.and⟩
theorem okGH_cons {x : Stmt} (h : okGH nf il f (x :: hs)) : ∃ s e a, x = .handler s e a ∧ okG nf il f a ∧ okGH nf il f hs := by
  obtain ⟨s, e, a, rfl, _, _⟩ := okHs3_cons h.1
  unfold okGH at h
  rw [okHs3_handler, CFGSound.okHs3_handler] at h
  exact ⟨s, e, a, rfl, h.and⟩
end okG

/-! ### targets of the structural exits, as functions of the exception stack -/
def firstFin (X : List Exc) : Option Nat := X.findSome? (fun c => c.fin)
def tfX (X : List Exc) : Option Nat := X.findSome? (fun c => if c.processingFinally then none else c.fin)
def tflX (X : List Exc) (d : Nat) : Option Nat :=
  (X.take (X.length - d)).findSome? (fun c => if c.processingFinally then none else c.fin)

theorem targetFinally_eq (st : St) : targetFinally st = tfX st.excs := rfl
theorem targetFinallyLoop_eq (st : St) (d : Nat) : targetFinallyLoop st d = tflX st.excs d := rfl

/-- where the structural exits `break` / `continue` / `return` / `raise` of a statement list lead -/
structure Exits (E : List Edge) (L : List (Nat × Nat × Nat)) (X : List Exc) (b c r x : Bool) : Prop where
  brk : b = true → ∀ h y d rest, L = (h, y, d) :: rest → R E ((tflX X d).getD y)
  cont : c = true → ∀ h y d rest, L = (h, y, d) :: rest → R E ((tflX X d).getD h)
  ret : r = true → R E ((firstFin X).getD exitB)
  raise : x = true → ∀ t, tfX X = some t → R E t

section exits
variable {E : List Edge} {L : List (Nat × Nat × Nat)} {X : List Exc}

theorem Exits.nil : Exits E L X false false false false := ⟨ff, ff, ff, ff⟩

theorem Exits.imp {b c r x b' c' r' x' : Bool} (h : Exits E L X b c r x) (hb : b' = true → b = true) (hc : c' = true → c = true)
    (hr : r' = true → r = true) (hx : x' = true → x = true) : Exits E L X b' c' r' x' :=
  ⟨fun h' => h.brk (hb h'), fun h' => h.cont (hc h'), fun h' => h.ret (hr h'), fun h' => h.raise (hx h')⟩

theorem Exits.or {b c r x b' c' r' x' : Bool} (h : Exits E L X b c r x) (h' : Exits E L X b' c' r' x') :
    Exits E L X (b || b') (c || c') (r || r') (x || x') := by
  refine ⟨fun hh => ?_, fun hh => ?_, fun hh => ?_, fun hh => ?_⟩ <;> rcases Bool.or_eq_true_iff.mp hh with h1 | h1
  · exact h.brk h1
  · exact h'.brk h1
  · exact h.cont h1
  · exact h'.cont h1
  · exact h.ret h1
  · exact h'.ret h1
  · exact h.raise h1
  · exact h'.raise h1
end exits

/-- plain search, as `finallyPropagation` does it: first `finally` among the contexts opened inside the loop (processed or not) -/
def plX (X : List Exc) (d : Nat) : Option Nat := (X.take (X.length - d)).findSome? (fun c => c.fin)

/-- The `finally` block `f` of every context `c` that is being processed has its propagation edges in the final graph: if `f` is
reached (the edges start there, so nothing is known otherwise), so are the first outer `finally` (or EXIT) and, for the innermost
loop `(h, y, d)`, the targets of `break` and `continue` as `finallyPropagation` computes them.  `d` is the depth of the exception
stack at the loop's entry: only for `d ≤ X.length` was `c` opened inside the loop, so that its `finally` propagates to the loop. -/
def PI (E : List Edge) (L : List (Nat × Nat × Nat)) : List Exc → Prop
  | [] => True
  | c :: X => (c.processingFinally = true → ∀ f, c.fin = some f → R E f →
      R E ((firstFin X).getD exitB) ∧
      (∀ h y d rest, L = (h, y, d) :: rest → d ≤ X.length → R E ((plX X d).getD y) ∧ R E ((plX X d).getD h))) ∧ PI E L X

theorem PI.of_noProc {E : List Edge} {L : List (Nat × Nat × Nat)} : ∀ X : List Exc, (∀ c ∈ X, c.processingFinally = false) → PI E L X
  | [], _ => trivial
  | c :: X, h => ⟨fun hp => absurd hp (by rw [h c List.mem_cons_self]; exact Bool.false_ne_true),
      PI.of_noProc X (fun c hc => h c (List.mem_cons_of_mem _ hc))⟩

/-- The invariant on the context stacks in `sound_list3`; `inFin` is not used.  (`PV.CFGSound.I3` of `CFGSound3` is the invariant
without the final graph: in place of `PI`, outside `finally` bodies no context is processing its `finally`.) -/
structure I3 (E : List Edge) (il inFin : Bool) (L : List (Nat × Nat × Nat)) (X : List Exc) : Prop where
  loops : il = true → L ≠ []
  pi : PI E L X
  depth : ∀ h x d rest, L = (h, x, d) :: rest → d ≤ X.length

theorem PI.enter {E : List Edge} {L : List (Nat × Nat × Nat)} (hdr ex : Nat) : ∀ (X : List Exc), PI E L X → ∀ d, X.length ≤ d → PI E ((hdr, ex, d) :: L) X
  | [], _, _, _ => trivial
  | c :: X, h, d, hd => by
    simp only [List.length_cons] at hd
    refine ⟨fun hp f hf hr => ⟨(h.1 hp f hf hr).1, fun a y d' rest hl hd' => ?_⟩, PI.enter hdr ex X h.2 d (Nat.le_of_succ_le hd)⟩
    have := (List.cons.inj hl).1
    simp only [Prod.mk.injEq] at this
    omega

/-- The invariant of the induction.  Under `nf` the statements contain no `try` with a non-empty `finally`, the one place
where `PI` is consumed; so `PI` is asked for only without `nf`. -/
structure IG (E : List Edge) (il nf : Bool) (L : List (Nat × Nat × Nat)) (X : List Exc) : Prop where
  loops : il = true → L ≠ []
  pi : nf = false → PI E L X
  depth : ∀ h x d rest, L = (h, x, d) :: rest → d ≤ X.length

section IG
variable {E : List Edge} {il nf : Bool} {L : List (Nat × Nat × Nat)} {X : List Exc}

theorem I3.toIG {f : Bool} (h : I3 E il f L X) : IG E il false L X := ⟨h.loops, fun _ => h.pi, h.depth⟩

theorem IG.noLoop (h : IG E il nf L X) : IG E false nf L X := ⟨ff, h.pi, h.depth⟩

theorem IG.enter (h : IG E il nf L X) (hdr ex : Nat) : IG E true nf ((hdr, ex, X.length) :: L) X :=
  ⟨fun _ => List.cons_ne_nil _ _, fun hn => PI.enter hdr ex _ (h.pi hn) _ (Nat.le_refl _), fun _ _ _ _ hl => by
    have := (List.cons.inj hl).1
    simp only [Prod.mk.injEq] at this
    exact Nat.le_of_eq this.2.2.symm⟩

theorem IG.push (h : IG E il nf L X) (ctx : Exc) (hp : ctx.processingFinally = false) : IG E il nf L (ctx :: X) :=
  ⟨h.loops, fun hn => ⟨fun hq => (by rw [hp] at hq; cases hq), h.pi hn⟩,
    fun a b d rest hl => Nat.le_succ_of_le (h.depth a b d rest hl)⟩

theorem IG.pushFin (h : IG E il false L X) (ctx : Exc) (k1 : R E ((firstFin X).getD exitB))
    (k2 : ∀ h y d rest, L = (h, y, d) :: rest → d ≤ X.length → R E ((plX X d).getD y) ∧ R E ((plX X d).getD h)) :
    IG E il false L (ctx :: X) :=
  ⟨h.loops, fun _ => ⟨fun _ _ _ _ => ⟨k1, k2⟩, h.pi rfl⟩,
    fun a b d rest hl => Nat.le_succ_of_le (h.depth a b d rest hl)⟩

theorem IG.same {s s' : St} (sm : Same s s') (h : IG E il nf s.loops s.excs) : IG E il nf s'.loops s'.excs := by
  rw [sm.loops, sm.excs]; exact h
end IG

/-- the part of a stack `c :: X` that a loop entered at depth `d ≤ |X|` sees -/
theorem _root_.PV.CFGFin.take_cons_depth (c : Exc) (X : List Exc) {d : Nat} (hd : d ≤ X.length) :
    (c :: X).take ((c :: X).length - d) = c :: X.take (X.length - d) := by
  rw [show (c :: X).length - d = (X.length - d) + 1 from Nat.succ_sub hd, List.take_succ_cons]

theorem tfX_cons (ctx : Exc) (X : List Exc) : tfX (ctx :: X) = (if ctx.processingFinally then none else ctx.fin).or (tfX X) := by
  unfold tfX
  rw [List.findSome?_cons]
  cases h : (if ctx.processingFinally = true then none else ctx.fin) <;> simp
theorem firstFin_cons (ctx : Exc) (X : List Exc) : firstFin (ctx :: X) = ctx.fin.or (firstFin X) := by
  unfold firstFin
  rw [List.findSome?_cons]
  cases h : ctx.fin <;> simp

/-- `tflX` / `plX` are `tfX` / `firstFin` of the part of the stack that the loop sees -/
theorem tflX_cons {ctx : Exc} {X : List Exc} {d : Nat} (hd : d ≤ X.length) :
    tflX (ctx :: X) d = (if ctx.processingFinally then none else ctx.fin).or (tflX X d) :=
  (congrArg tfX (CFGFin.take_cons_depth ctx X hd)).trans (tfX_cons ctx _)
theorem plX_cons {ctx : Exc} {X : List Exc} {d : Nat} (hd : d ≤ X.length) : plX (ctx :: X) d = ctx.fin.or (plX X d) :=
  (congrArg firstFin (CFGFin.take_cons_depth ctx X hd)).trans (firstFin_cons ctx _)

theorem tfX_none : ∀ (X : List Exc), firstFin X = none → tfX X = none
  | [], _ => rfl
  | c :: X, h => by
    rw [firstFin_cons] at h
    rw [tfX_cons]
    cases hc : c.fin with
    | none =>
      rw [hc] at h
      have h' : firstFin X = none := by simpa using h
      rw [tfX_none X h']; simp
    | some f => rw [hc] at h; simp at h

/-- the first outer `finally` (processed or not) reaches the first outer `finally` that is not being processed -/
theorem chain_raise {E : List Edge} {L : List (Nat × Nat × Nat)} : ∀ (X : List Exc), PI E L X → R E ((firstFin X).getD exitB) →
    ∀ t, tfX X = some t → R E t
  | [], _, _, t, ht => by cases ht
  | c :: X, hpi, hr, t, ht => by
    rw [firstFin_cons] at hr
    rw [tfX_cons] at ht
    cases hc : c.fin with
    | none =>
      rw [hc] at hr ht
      refine chain_raise X hpi.2 (by simpa using hr) t ?_
      cases hp : c.processingFinally <;> rw [hp] at ht <;> simpa using ht
    | some f =>
      rw [hc] at hr ht
      have hrf : R E f := by simpa using hr
      cases hp : c.processingFinally with
      | false =>
        rw [hp] at ht
        have : f = t := by simpa using ht
        exact this ▸ hrf
      | true =>
        rw [hp] at ht
        exact chain_raise X hpi.2 (hpi.1 hp f hc hrf).1 t (by simpa using ht)

/-- the same for the targets of `break` / `continue` -/
theorem chain_loop {E : List Edge} {L : List (Nat × Nat × Nat)} {a y d : Nat} {rest : List (Nat × Nat × Nat)} (hl : L = (a, y, d) :: rest)
    (z : Nat) (hz : z = y ∨ z = a) : ∀ (X : List Exc), PI E L X → d ≤ X.length → R E ((plX X d).getD z) → R E ((tflX X d).getD z)
  | [], _, _, hr => by
    unfold tflX; unfold plX at hr; simpa using hr
  | c :: X, hpi, hd, hr => by
    by_cases hdx : d ≤ X.length
    · rw [plX_cons hdx] at hr
      rw [tflX_cons hdx]
      cases hc : c.fin with
      | none =>
        rw [hc] at hr
        have h1 := chain_loop hl z hz X hpi.2 hdx (by simpa using hr)
        cases hp : c.processingFinally <;> simpa using h1
      | some f =>
        rw [hc] at hr
        have hrf : R E f := by simpa using hr
        cases hp : c.processingFinally with
        | false => simpa using hrf
        | true =>
          have h2 := (hpi.1 hp f hc hrf).2 a y d rest hl hdx
          have h3 : R E ((plX X d).getD z) := by
            rcases hz with rfl | rfl
            · exact h2.1
            · exact h2.2
          simpa using chain_loop hl z hz X hpi.2 hdx h3
    · have hd' : d = X.length + 1 := Nat.le_antisymm hd (Nat.lt_of_not_le hdx)
      subst hd'
      unfold tflX; unfold plX at hr
      simpa using hr

theorem Exits.pop {E : List Edge} {il nf : Bool} {L : List (Nat × Nat × Nat)} {X : List Exc} {ctx : Exc} {b c r x : Bool} (hi : IG E il nf L X)
    (hfin : ctx.fin = none) (h : Exits E L (ctx :: X) b c r x) : Exits E L X b c r x := by
  refine ⟨fun hb a y d rest hl => ?_, fun hb a y d rest hl => ?_, fun hb => ?_, fun hb t ht => ?_⟩
  · have := h.brk hb a y d rest hl
    rw [tflX_cons (hi.depth a y d rest hl), hfin] at this
    simpa using this
  · have := h.cont hb a y d rest hl
    rw [tflX_cons (hi.depth a y d rest hl), hfin] at this
    simpa using this
  · have := h.ret hb
    rw [firstFin_cons, hfin] at this
    simpa using this
  · refine h.raise hb t ?_
    rw [tfX_cons, hfin]
    simpa using ht

/-- inside a `try` with a `finally` block `fb` every exit leads to `fb` -/
theorem Exits.toFin {E : List Edge} {il nf : Bool} {L : List (Nat × Nat × Nat)} {X : List Exc} {ctx : Exc} {b c r x : Bool} (hi : IG E il nf L X)
    {fb : Nat} (hfin : ctx.fin = some fb) (hp : ctx.processingFinally = false) (h : Exits E L (ctx :: X) b c r x)
    (hsome : r = true ∨ x = true ∨ (il = true ∧ (b = true ∨ c = true))) : R E fb := by
  rcases hsome with hr | hx | ⟨hil, hbc⟩
  · have := h.ret hr
    rw [firstFin_cons, hfin] at this
    simpa using this
  · refine h.raise hx fb ?_
    rw [tfX_cons, hp, hfin]; rfl
  · have hne := hi.loops hil
    rcases hL : L with _ | ⟨⟨a, y, d⟩, rest⟩
    · exact absurd hL hne
    · rcases hbc with hb | hc
      · have := h.brk hb a y d rest hL
        rw [tflX_cons (hi.depth a y d rest hL), hp, hfin] at this
        simpa using this
      · have := h.cont hc a y d rest hL
        rw [tflX_cons (hi.depth a y d rest hL), hp, hfin] at this
        simpa using this

theorem tfX_eq_firstFin {X : List Exc} (h : ∀ c ∈ X, c.processingFinally = false) : tfX X = firstFin X := by
  unfold tfX firstFin
  induction X with
  | nil => rfl
  | cons c X ih =>
    rw [List.findSome?_cons, List.findSome?_cons, h c List.mem_cons_self, ih (fun c hc => h c (List.mem_cons_of_mem _ hc))]
    rfl
theorem tflX_eq_plain {X : List Exc} (h : ∀ c ∈ X, c.processingFinally = false) (d : Nat) :
    tflX X d = (X.take (X.length - d)).findSome? (fun c => c.fin) :=
  tfX_eq_firstFin (X := X.take (X.length - d)) fun c hc => h c (List.mem_of_mem_take hc)

/-! ### two inductions over the syntax: a statement list always has some structural exit (`exSome_all`); `live ≤ sx` (`le_all3`) -/
def ExSome (il : Bool) (ex : Ex) : Prop :=
  ex.normal = true ∨ ex.ret = true ∨ ex.raise = true ∨ (il = true ∧ (ex.brk = true ∨ ex.cont = true))

theorem ExSome.imp {il : Bool} {ex ex' : Ex} (h : ExSome il ex) (hn : ex.normal = true → ex'.normal = true)
    (hr : ex.ret = true → ex'.ret = true) (hx : ex.raise = true → ex'.raise = true) (hb : ex.brk = true → ex'.brk = true)
    (hc : ex.cont = true → ex'.cont = true) : ExSome il ex' := by
  rcases h with h | h | h | ⟨h1, h | h⟩
  · exact .inl (hn h)
  · exact .inr (.inl (hr h))
  · exact .inr (.inr (.inl (hx h)))
  · exact .inr (.inr (.inr ⟨h1, .inl (hb h)⟩))
  · exact .inr (.inr (.inr ⟨h1, .inr (hc h)⟩))

theorem ExSome.of_false {il : Bool} {ex : Ex} (h : ExSome false ex) : ExSome il ex := by
  rcases h with h | h | h | ⟨h, _⟩
  · exact .inl h
  · exact .inr (.inl h)
  · exact .inr (.inr (.inl h))
  · cases h

theorem or_l {a b : Bool} (h : a = true) : (a || b) = true := by rw [h, Bool.true_or]
theorem or_r {a b : Bool} (h : b = true) : (a || b) = true := by rw [h, Bool.or_true]

theorem exSome_all : (∀ x : Stmt, ∀ il f, okS3 il f x = true → ExSome il (sxS x).ex) ∧
    (∀ ss : List Stmt, ∀ il f, okL3 il f ss = true → ExSome il (sxL ss).ex) := by
  refine stmt_rs_ind ?_ ?_ ?_ ?_ ?_ ?_ ?_ ?_ ?_ ?_ ?_ ?_ ?_ ?_ ?_ ?_ ?_ ?_
  · intro s e c h il f _; rw [sxS_simple]; exact .inl rfl
  · intro s e c h il f _; rw [sxS_ret]; exact .inr (.inl rfl)
  · intro s e il f hok; rw [sxS_brk]; rw [okS3_brk] at hok; exact .inr (.inr (.inr ⟨hok, .inl rfl⟩))
  · intro s e il f hok; rw [sxS_cont]; rw [okS3_cont] at hok; exact .inr (.inr (.inr ⟨hok, .inr rfl⟩))
  · intro s e il f _; rw [sxS_raise]; exact .inr (.inr (.inl rfl))
  · intro s e a b ha _ il f hok
    rw [okS3_ite, Bool.and_eq_true] at hok
    rw [sxS_ite]
    exact (ha il f hok.1).imp or_l or_l or_l or_l or_l
  · intro s e a b ha _ il f hok
    rw [okS3_elifc, Bool.and_eq_true] at hok
    rw [sxS_elifc]
    exact (ha il f hok.1).imp or_l or_l or_l or_l or_l
  · intro s e a ha il f hok
    rw [okS3_elsec] at hok
    rw [sxS_elsec]
    exact ha il f hok
  · intro s e a b _ hb il f hok
    rw [okS3_loop, Bool.and_eq_true] at hok
    rw [sxS_loop]
    exact (hb il f hok.2).imp or_r or_r or_r id id
  · intro s e a hs c d iha _ ihc _ il f hok
    rw [okS3_try] at hok
    simp only [Bool.and_eq_true] at hok
    obtain ⟨⟨⟨hoka, _⟩, hokc⟩, _⟩ := hok
    have ha := iha il f hoka
    have hc := ihc il f hokc
    rw [sxS_try]
    simp only []
    by_cases hde : d.isEmpty = true
    · rw [if_pos hde]
      by_cases hn : (sxL a).ex.normal = true
      · simp only [hn, ↓reduceIte]
        by_cases hce : c.isEmpty = true
        · exact .inl (or_l (by rw [if_pos hce]))
        · exact hc.imp (fun h => or_l (by rw [if_neg hce]; exact h)) or_r or_r or_r or_r
      · exact ha.imp (fun h => absurd h hn) (fun h => or_l (or_l h)) (fun h => or_l (or_l h)) (fun h => or_l (or_l h))
          (fun h => or_l (or_l h))
    · rw [if_neg hde]
      exact .inr (.inl rfl)
  · intro s e a _ il f hok; rw [okS3_handler] at hok; cases hok
  · intro s e a _ il f _; rw [sxS_with]; exact .inl rfl
  · intro s e cs _ il f _; rw [sxS_match]; exact .inl rfl
  · intro s e a _ il f hok; rw [okS3_case] at hok; cases hok
  · intro s e b il f _; rw [sxS_def]; exact .inl rfl
  · intro s e a ha il f hok
    rw [okS3_class] at hok
    rw [sxS_class]
    exact (ha false f hok).of_false
  · intro il f _
    rw [sxL_nil]
    exact .inl rfl
  · intro x xs hx hxs il f hok
    rw [okL3_cons, Bool.and_eq_true] at hok
    rw [sxL_cons]
    by_cases hn : (sxS x).ex.normal = true
    · rw [if_pos hn]
      exact (hxs il f hok.2).imp id or_r or_r or_r or_r
    · rw [if_neg hn]; exact hx il f hok.1

theorem exSome (ss : List Stmt) (il f : Bool) (hok : okL3 il f ss = true) : ExSome il (sxL ss).ex :=
  exSome_all.2 ss il f hok

/-- `try` without `finally`: the outcomes of body, handlers and else-part are joined on both sides; `en` is the normal exit of
the else-part in the mirror, which is that of the body when there is no `else` -/
theorem le_try {la lh lel : PV.Py.R} {sa sh sel : SX} {en r x : Bool} (ha : LE la sa) (hh : LE lh sh) (hel : LE lel sel)
    (hen : lel.outs.normal = true → en = true) :
    LE { lines := la.lines ++ lh.lines ++ lel.lines, outs := (la.outs.nonNormal.union lh.outs).union lel.outs }
      { lines := sa.lines ++ sh.lines ++ sel.lines, skipped := sa.skipped ++ sh.skipped ++ sel.skipped,
        ex := { normal := en || sh.ex.normal, ret := r, brk := sa.ex.brk || sh.ex.brk || sel.ex.brk,
                cont := sa.ex.cont || sh.ex.cont || sel.ex.cont, raise := x } } := by
  refine ⟨(ha.lines.append hh.lines).append hel.lines, fun (h : (lh.outs.normal || lel.outs.normal) = true) => ?_,
    or_imp (or_imp ha.brk hh.brk) hel.brk, or_imp (or_imp ha.cont hh.cont) hel.cont⟩
  rcases Bool.or_eq_true_iff.mp h with h | h
  · exact Bool.or_eq_true_iff.mpr (.inr (hh.normal h))
  · exact Bool.or_eq_true_iff.mpr (.inl (hen h))

/-- along the recursion of `okL3`; of a `case` list also: the start lines of its clauses are lines of the summary -/
theorem le_all3 : (∀ il f ss, okL3 il f ss = true → LE (live ss) (sxL ss)) ∧ (∀ il f x, okS3 il f x = true → LE (liveS x) (sxS x)) ∧
    (∀ il f hs, okHs3 il f hs = true → LE (liveAlts hs) (sxAlts hs)) ∧
    (∀ il f cs, okCases3 il f cs = true → LE (liveAlts cs) (sxAlts cs) ∧ ∀ l ∈ cs.map Stmt.line, l ∈ (sxAlts cs).lines) := by
  apply okL3.mutual_induct
  · intro il f _
    rw [PV.C01.live_nil, sxL_nil]
    exact ⟨Lsub.nil, fun _ => rfl, ff, ff⟩
  · intro il f x xs ihx ihxs hok
    rw [okL3_cons, Bool.and_eq_true] at hok
    have hx := ihx hok.1
    have hxs := ihxs hok.2
    rw [PV.C01.live_cons, sxL_cons]
    by_cases hn : (liveS x).outs.normal = true
    · rw [if_pos hn, if_pos (hx.normal hn)]
      exact ⟨hx.lines.append hxs.lines, hxs.normal,
        or_imp hx.brk hxs.brk, or_imp hx.cont hxs.cont⟩
    · rw [if_neg hn]
      by_cases hs : (sxS x).ex.normal = true
      · rw [if_pos hs]
        refine ⟨?_, fun h => absurd h hn, fun h => ?_, fun h => ?_⟩
        · intro l hl
          rcases hx.lines l hl with h | h
          · exact .inl (List.mem_append.mpr (.inl h))
          · exact .inr (List.mem_append.mpr (.inl h))
        · show ((sxS x).ex.brk || (sxL xs).ex.brk) = true
          rw [hx.brk h]; rfl
        · show ((sxS x).ex.cont || (sxL xs).ex.cont) = true
          rw [hx.cont h]; rfl
      · rw [if_neg hs]; exact hx
  · intro il f s e c h _; rw [liveS, sxS_simple]; exact ⟨(Lsub.nil).cons s, fun _ => rfl, ff, ff⟩
  · intro il f s e b _; rw [liveS, sxS_def]; exact ⟨(Lsub.nil).cons s, fun _ => rfl, ff, ff⟩
  · intro il f s e c h _; rw [liveS, sxS_ret]; exact ⟨(Lsub.nil).cons s, ff, ff, ff⟩
  · intro il f s e _; rw [liveS, sxS_raise]; exact ⟨(Lsub.nil).cons s, ff, ff, ff⟩
  · intro il f s e _; rw [liveS, sxS_brk]; exact ⟨(Lsub.nil).cons s, ff, fun _ => rfl, ff⟩
  · intro il f s e _; rw [liveS, sxS_cont]; exact ⟨(Lsub.nil).cons s, ff, ff, fun _ => rfl⟩
  · intro il f s e a b iha ihb hok
    rw [okS3_ite, Bool.and_eq_true] at hok
    have ha := iha hok.1
    have hb := ihb hok.2
    rw [liveS, sxS_ite]
    exact ⟨(ha.lines.append hb.lines).cons s, or_imp ha.normal hb.normal, or_imp ha.brk hb.brk, or_imp ha.cont hb.cont⟩
  · intro il f s e a b iha ihb hok
    rw [okS3_elifc, Bool.and_eq_true] at hok
    have ha := iha hok.1
    have hb := ihb hok.2
    rw [liveS, sxS_elifc]
    exact ⟨(ha.lines.append hb.lines).cons_skip s, or_imp ha.normal hb.normal, or_imp ha.brk hb.brk, or_imp ha.cont hb.cont⟩
  · intro il f s e a iha hok
    rw [okS3_elsec] at hok
    rw [liveS, sxS_elsec]
    exact iha hok
  · intro il f s e a b iha ihb hok
    rw [okS3_loop, Bool.and_eq_true] at hok
    have ha := iha hok.1
    have hb := ihb hok.2
    rw [liveS, sxS_loop]
    exact ⟨(ha.lines.append hb.lines).cons s, or_imp ha.brk hb.normal, hb.brk, hb.cont⟩
  · intro il f s e a iha hok
    rw [okS3_with] at hok
    have ha := iha hok
    rw [liveS, sxS_with]
    exact ⟨ha.lines.cons s, fun _ => rfl, ha.brk, ha.cont⟩
  · intro il f s e cs ihcs hok
    rw [okS3_match] at hok
    obtain ⟨hle, hl⟩ := ihcs hok
    rw [liveS, sxS_match]
    -- the outcomes of `match` and `class` are `false || ·` in the components compared
    refine ⟨?_, fun _ => rfl, hle.brk, hle.cont⟩
    have h1 : Lsub (cs.map Stmt.line ++ (liveAlts cs).lines) (sxAlts cs).lines (sxAlts cs).skipped := by
      intro l hm
      rcases List.mem_append.mp hm with h | h
      · exact .inl (hl l h)
      · exact hle.lines l h
    exact h1.cons s
  · intro il f s e a iha hok
    rw [okS3_class] at hok
    have ha := iha hok
    rw [liveS, sxS_class]
    exact ⟨ha.lines.cons s, ha.normal, ha.brk, ha.cont⟩
  · intro il f s e a hs c d iha ihh ihc ihd hok
    rw [okS3_try] at hok
    simp only [Bool.and_eq_true] at hok
    obtain ⟨⟨⟨hoka, hokh⟩, hokc⟩, hokd⟩ := hok
    have ha := iha hoka
    have hh := ihh hokh
    have hc := ihc hokc
    rw [liveS, sxS_try]
    simp only []
    have hH : LE (if (live a).outs.exc = true then liveAlts hs else {}) (sxAlts hs) := by
      split
      · exact hh
      · exact ⟨Lsub.nil, ff, ff, ff⟩
    have hEl : LE (if (live a).outs.normal = true then live c else {}) (if (sxL a).ex.normal = true then sxL c else {}) := by
      by_cases hn : (live a).outs.normal = true
      · rw [if_pos hn, if_pos (ha.normal hn)]; exact hc
      · rw [if_neg hn]; exact ⟨Lsub.nil, ff, ff, ff⟩
    by_cases hde : d.isEmpty = true
    · rw [if_pos hde, if_pos hde]
      refine le_try ha hH hEl fun h => ?_
      -- without `else` the mirror takes the normal exit of the body
      by_cases hce : c.isEmpty = true
      · rw [if_pos hce]
        by_cases hn : (live a).outs.normal = true
        · exact ha.normal hn
        · rw [if_neg hn] at h
          cases h
      · rw [if_neg hce]
        exact hEl.normal h
    · rw [if_neg hde, if_neg hde]
      rw [eq_false_of_ne_true hde, Bool.false_or] at hokd
      have hd := ihd hokd
      refine ⟨((ha.lines.append hH.lines).append hEl.lines).append hd.lines, ?_, fun _ => rfl, fun _ => rfl⟩
      intro h
      unfold Outs.afterFinally at h
      by_cases hfn : (live d).outs.normal = true
      · exact hd.normal hfn
      · rw [if_neg hfn] at h
        exact ff h
  · intro il f s e a hok; rw [okS3_handler] at hok; cases hok
  · intro il f s e a hok; rw [okS3_case] at hok; cases hok
  · intro il f _
    rw [liveAlts, sxAlts_nil]
    exact ⟨Lsub.nil, ff, ff, ff⟩
  · intro il f s e a hs iha ihh hok
    rw [okHs3_handler, Bool.and_eq_true] at hok
    have ha := iha hok.1
    have hle := ihh hok.2
    rw [liveAlts, sxAlts_cons, liveS, sxS_handler]
    exact ⟨(ha.lines.cons s).append hle.lines, or_imp ha.normal hle.normal, or_imp ha.brk hle.brk, or_imp ha.cont hle.cont⟩
  · intro il f x hs hx hok; rw [okHs3.eq_3 il f x hs hx] at hok; cases hok
  · intro il f _
    rw [liveAlts, sxAlts_nil]
    exact ⟨⟨Lsub.nil, ff, ff, ff⟩, (fun l h => by cases h)⟩
  · intro il f s e a cs iha ihcs hok
    rw [okCases3_case, Bool.and_eq_true] at hok
    have ha := iha hok.1
    obtain ⟨hle, hl⟩ := ihcs hok.2
    rw [liveAlts, sxAlts_cons, liveS, sxS_case]
    refine ⟨⟨(ha.lines.cons s).append hle.lines, or_imp ha.normal hle.normal, or_imp ha.brk hle.brk, or_imp ha.cont hle.cont⟩, ?_⟩
    intro l hm
    simp only [List.map_cons, List.mem_cons, Stmt.line] at hm
    rcases hm with rfl | hm
    · exact List.mem_append.mpr (.inl List.mem_cons_self)
    · exact List.mem_append.mpr (.inr (hl l hm))
  · intro il f x cs hx hok; rw [okCases3.eq_3 il f x cs hx] at hok; cases hok

theorem live_le_sx3 : ∀ (ss : List Stmt) (il f : Bool), okL3 il f ss = true →
    (∀ l ∈ (live ss).lines, l ∈ (sxL ss).lines ∨ l ∈ (sxL ss).skipped) ∧
    ((live ss).outs.normal = true → (sxL ss).ex.normal = true) ∧ ((live ss).outs.brk = true → (sxL ss).ex.brk = true) ∧
    ((live ss).outs.cont = true → (sxL ss).ex.cont = true) := by
  intro ss il f hok
  have h := le_all3.1 il f ss hok
  exact ⟨h.lines, h.normal, h.brk, h.cont⟩

structure Post3 (E : List Edge) (S : List SRec) (L : List (Nat × Nat × Nat)) (X : List Exc) (st' : St) (r : SX) : Prop where
  lines : ∀ l ∈ r.lines, Good E S l
  normal : r.ex.normal = true → Entry E st'
  exits : Exits E L X r.ex.brk r.ex.cont r.ex.ret r.ex.raise

section sound3
variable {E : List Edge} {S : List SRec}

theorem add_cur_sound {st : St} {s e : Nat} {L : List (Nat × Nat × Nat)} {X : List Exc} (he : Entry E st)
    (hcov : Cov E S (st.add st.cur s e .other)) : Post3 E S L X (st.add st.cur s e .other) { lines := [s], ex := { normal := true } } :=
  ⟨lines_single (good_of ((cov_add ..).mp hcov).1 he.reach), fun _ => Entry.mk' he.reach he.nt.add_other, Exits.nil⟩

def tfr (cur : Nat) (X : List Exc) : Option Nat :=
  X.findSome? (fun c => match c.fin with
    | some f => if cur != f then some f else none
    | none => none)
theorem targetFinallyRet_eq (st : St) : targetFinallyRet st = tfr st.cur st.excs := rfl

theorem tfr_cases (cur : Nat) : ∀ X : List Exc, (firstFin X = none ∧ tfr cur X = none) ∨
    (∃ f0, firstFin X = some f0 ∧ (cur = f0 ∨ tfr cur X = some f0))
  | [] => .inl ⟨rfl, rfl⟩
  | c :: X => by
    unfold firstFin tfr
    rw [List.findSome?_cons, List.findSome?_cons]
    cases hf : c.fin with
    | none => exact tfr_cases cur X
    | some g =>
      refine .inr ⟨g, rfl, ?_⟩
      by_cases hc : cur = g
      · exact .inl hc
      · right
        have : (cur != g) = true := by simpa using hc
        simp [this]

theorem ret_sound {st : St} (s e : Nat) (c : List Bool) (h : Bool) (w : WF st) (hcov : Cov E S (procRet st s e c h)) (he : Entry E st) :
    Post3 E S st.loops st.excs (procRet st s e c h) (sxS (.ret s e c h)) := by
  rw [procRet_eq] at hcov ⊢
  rw [sxS_ret]
  simp only [cov_setCur, cov_bumpU] at hcov
  have hc1 : ({ blk := (if h = true then procComp st s e c else st).cur, s := s, e := e, ty := .ret } : SRec) ∈ S ∧
      Cov E S (if h = true then procComp st s e c else st) := by
    split at hcov <;> (simp only [cov_edge, cov_add] at hcov; exact hcov.2)
  have hr0 : R E (if h = true then procComp st s e c else st).cur := by
    cases h
    · exact he.reach
    · exact (comp_sound st s e c w hc1.2 he.reach).2.reach
  have hx0 : (if h = true then procComp st s e c else st).excs = st.excs := by
    cases h
    · rfl
    · exact (comp_frame (c := st.cur) (n := 0) st s e c w (Or.inl rfl) (Nat.zero_le _)).2.excs
  refine ⟨lines_single (good_of hc1.1 hr0), ff, ⟨ff, ff, fun _ => ?_, ff⟩⟩
  generalize (if h = true then procComp st s e c else st) = st0 at *
  rw [targetFinallyRet_eq] at hcov
  simp only [add_cur, add_excs, hx0] at hcov
  -- `targetFinallyRet` takes the first outer `finally` unless it is the current block itself (a `return` inside that `finally`
  -- body); it does not skip contexts being processed as `targetFinally` (`raise`) does: hence `firstFin` here and `tfX` there.
  -- Three cases: no `finally` at all (edge to EXIT); the first one is the current block (reached already); an edge to it.
  rcases tfr_cases st0.cur st.excs with ⟨h1, h2⟩ | ⟨f0, h1, h2 | h2⟩
  · rw [h2] at hcov
    simp only [cov_edge] at hcov
    rw [h1]; exact R.step hr0 hcov.1
  · rw [h1, ← h2]; exact hr0
  · rw [h2] at hcov
    simp only [cov_edge] at hcov
    rw [h1]; exact R.step hr0 hcov.1

theorem raise_sound {st : St} (s e : Nat) (hcov : Cov E S (procRaise st s e)) (he : Entry E st) :
    Post3 E S st.loops st.excs (procRaise st s e) (sxS (.raise s e)) := by
  rw [procRaise_eq] at hcov ⊢
  rw [sxS_raise]
  simp only [cov_setCur, cov_bumpU] at hcov
  have hc1 : Cov E S (st.add st.cur s e .raise) := by
    -- the branches of `procRaise`: a `finally` target; else the handlers of the fallback context (a fold) or, if it has none, EXIT; else EXIT
    split at hcov
    · exact ((cov_edge ..).mp hcov).2
    · split at hcov
      · split at hcov
        · exact foldl_cur_cov _ _ _ hcov
        · exact ((cov_edge ..).mp hcov).2
      · exact ((cov_edge ..).mp hcov).2
  refine ⟨lines_single (good_of ((cov_add ..).mp hc1).1 he.reach), ff, ⟨ff, ff, ff, fun _ t ht => ?_⟩⟩
  have h1 : targetFinally (st.add st.cur s e .raise) = some t := ht
  rw [h1] at hcov
  simp only [cov_edge] at hcov
  exact R.step he.reach hcov.1

/-- `break` / `continue`: the statement is recorded in the current block, and the block jumped to is reached -/
theorem jump_sound {st : St} (he : Entry E st) {s e g : Nat} {ty : Ty} {t : ETy}
    (hcov : Cov E S (setCur (bumpU ((st.add st.cur s e ty).edge (st.add st.cur s e ty).cur g t))
      ((st.add st.cur s e ty).edge (st.add st.cur s e ty).cur g t).next)) : Good E S s ∧ R E g := by
  simp only [cov_setCur, cov_bumpU, cov_edge, cov_add] at hcov
  exact ⟨good_of hcov.2.1 he.reach, R.step he.reach hcov.1⟩

theorem brk_sound {st : St} (s e : Nat) (hne : st.loops ≠ []) (hcov : Cov E S (procBrk st s e)) (he : Entry E st) :
    Post3 E S st.loops st.excs (procBrk st s e) (sxS (.brk s e)) := by
  rw [procBrk_eq] at hcov ⊢
  rw [sxS_brk]
  obtain ⟨⟨h, x, d⟩, rest, hll⟩ := List.exists_cons_of_ne_nil hne
  simp only [add_loops, hll, targetFinallyLoop_eq, add_excs] at hcov
  have key : Good E S s ∧ R E ((tflX st.excs d).getD x) := by
    cases htf : tflX st.excs d with
    | none => rw [htf] at hcov; exact jump_sound he hcov
    | some t => rw [htf] at hcov; exact jump_sound he hcov
  refine ⟨lines_single key.1, ff, ⟨fun _ h' x' d' rest' hl' => ?_, ff, ff, ff⟩⟩
  obtain ⟨⟨rfl, rfl, rfl⟩, _⟩ := List.cons.inj (hll.symm.trans hl')
  exact key.2

theorem cont_sound {st : St} (s e : Nat) (hne : st.loops ≠ []) (hcov : Cov E S (procCont st s e)) (he : Entry E st) :
    Post3 E S st.loops st.excs (procCont st s e) (sxS (.cont s e)) := by
  rw [procCont_eq] at hcov ⊢
  rw [sxS_cont]
  obtain ⟨⟨h, x, d⟩, rest, hll⟩ := List.exists_cons_of_ne_nil hne
  simp only [add_loops, hll, targetFinallyLoop_eq, add_excs] at hcov
  have key : Good E S s ∧ R E ((tflX st.excs d).getD h) := by
    cases htf : tflX st.excs d with
    | none => rw [htf] at hcov; exact jump_sound he hcov
    | some t => rw [htf] at hcov; exact jump_sound he hcov
  refine ⟨lines_single key.1, ff, ⟨ff, fun _ h' x' d' rest' hl' => ?_, ff, ff⟩⟩
  obtain ⟨⟨rfl, rfl, rfl⟩, _⟩ := List.cons.inj (hll.symm.trans hl')
  exact key.2

theorem tflX_self (X : List Exc) : tflX X X.length = none := by
  unfold tflX; simp

theorem Exits.same {s s' : St} {b c r x : Bool} (sm : Same s s') (h : Exits E s'.loops s'.excs b c r x) : Exits E s.loops s.excs b c r x := by
  rw [← sm.loops, ← sm.excs]; exact h

theorem Cov.ite {c : Prop} [Decidable c] {a b : St} {P : Prop} (h : Cov E S (if c then a else b)) (ha : Cov E S a → P) (hb : Cov E S b → P) : P := by
  by_cases hc : c
  · rw [if_pos hc] at h
    exact ha h
  · rw [if_neg hc] at h
    exact hb h

/-- after an `else` part: if a branch can end normally, the blocks the branches end in do not both terminate -/
theorem not_both_terminate {s : St} {c : Nat} {p q : Prop} (hp : p → NT s c) (hq : q → Entry E s) (h : p ∨ q) :
    ¬ (s.blockTerminates c && s.blockTerminates s.cur) = true := by
  intro hb
  rw [Bool.and_eq_true] at hb
  rcases h with h | h
  · rw [(hp h).2] at hb
    exact Bool.noConfusion hb.1
  · rw [(hq h).noTerm] at hb
    exact Bool.noConfusion hb.2

theorem tailJoin_cov {s5 : St} {te merge : Nat} (h : Cov E S (tailJoin s5 te merge)) : Cov E S s5 := by
  unfold tailJoin at h
  refine Cov.ite h (fun h => Cov.ite h id fun h => ?_) fun h => ?_
  · simp only [cov_setCur, cov_eue] at h
    exact h.2
  · simp only [cov_setCur, cov_eue] at h
    exact h.2

/-- The join after the `elif` chain of an `if` is an entry state if the `then` branch falls through from its last block `te`, or the
chain ends, reached, in the merge block. -/
theorem tailJoin_entry {s5 : St} {te merge : Nat} (hcov : Cov E S (tailJoin s5 te merge)) (htm : te ≠ merge) (hu5 : Untouched s5 merge)
    (hcn : (R E te ∧ NT s5 te) ∨ (s5.cur = merge ∧ R E merge)) : Entry E (tailJoin s5 te merge) := by
  have joined : ∀ {s : St}, Cov E S (s.edgeUnlessExit te merge .normal) → s.hasSucc te exitB = s5.hasSucc te exitB → Untouched s merge →
      Entry E (setCur (s.edgeUnlessExit te merge .normal) merge) := by
    intro s hc hs hu
    simp only [cov_eue] at hc
    refine Entry.mk' ?_ (Untouched.nt ((unt_setCur ..).mpr (Untouched.eue htm hu)))
    rcases hcn with ⟨hr, hnt⟩ | ⟨_, hr⟩
    · exact R.step hr (hc.1 (hs ▸ hnt.1))
    · exact hr
  unfold tailJoin at hcov ⊢
  by_cases hb1 : s5.unreach.contains s5.cur = true
  · rw [if_pos hb1] at hcov ⊢
    by_cases hb2 : s5.blockTerminates te = true
    · rw [if_pos hb2]
      rcases hcn with ⟨_, hnt⟩ | ⟨hc, hr⟩
      · rw [hnt.2] at hb2
        exact Bool.noConfusion hb2
      · exact Entry.mk' (hc ▸ hr) (hc ▸ hu5.nt)
    · rw [if_neg hb2] at hcov ⊢
      exact joined hcov rfl ((unt_setCur ..).mpr hu5)
  · rw [if_neg hb1] at hcov ⊢
    exact joined hcov rfl hu5

theorem okG_chain {il f nf : Bool} {l a b : List Stmt} {s' e' : Nat} (hch : Chain l s' e' a b) (h : okG nf il f l) :
    okG nf il f a ∧ okG nf il f b := by
  cases hch
  · exact okGS_elifc (okG_cons h).1
  · exact okGS_ite (okG_cons h).1

theorem ex_union_ret (a b : Ex) : (a.union b).ret = (a.ret || b.ret) := rfl
theorem ex_union_raise (a b : Ex) : (a.union b).raise = (a.raise || b.raise) := rfl

section conn
variable (fin : Nat) (st : St) (b : Nat) (t : ETy)
theorem conn_loops : (conn fin st b t).loops = st.loops := CFGSound.conn_loops ..
theorem conn_excs : (conn fin st b t).excs = st.excs := CFGSound.conn_excs ..
theorem conn_cur : (conn fin st b t).cur = st.cur := CFGSound.conn_cur ..
end conn

/-- The part of a `try` before its `finally`, `el` being the summary of the else part (empty if the body cannot end normally). -/
theorem tryPend3 {L : List (Nat × Nat × Nat)} {X : List Exc} {bn : Bool} {orelse : List Stmt} {ah : Nat} {el : SX}
    (hel : el = if bn = true then sxL orelse else {})
    (h : bn = true → (∀ l ∈ (sxL orelse).lines, Good E S l) ∧ ((sxL orelse).ex.normal = true → R E ah) ∧
      Exits E L X (sxL orelse).ex.brk (sxL orelse).ex.cont (sxL orelse).ex.ret (sxL orelse).ex.raise) :
    (∀ l ∈ el.lines, Good E S l) ∧ ((if orelse.isEmpty = true then bn else el.ex.normal) = true → R E ah) ∧
      Exits E L X el.ex.brk el.ex.cont el.ex.ret el.ex.raise := by
  subst hel
  by_cases hn : bn = true
  · simp only [if_pos hn]
    refine ⟨(h hn).1, fun hh => ?_, (h hn).2.2⟩
    by_cases hoe : orelse.isEmpty = true
    · have := (h hn).2.1
      rw [List.isEmpty_iff.mp hoe, sxL_nil] at this
      exact this rfl
    · rw [if_neg hoe] at hh
      exact (h hn).2.1 hh
  · simp only [if_neg hn]
    refine ⟨(fun l h => by cases h), fun hh => ?_, Exits.nil⟩
    by_cases hoe : orelse.isEmpty = true
    · rw [if_pos hoe] at hh
      exact absurd hh hn
    · rw [if_neg hoe] at hh
      cases hh

/-- What the soundness theorem says of a call that starts in `st` and ends in `st'`, the final graph `E`, `S` covering `st'`.  For
statements and lists: the lines of the summary are `Good`, a normal exit leaves an entry state, the structural exits lead to
reached blocks.  The sub-functions say the same of their parts; their side conditions are that the blocks they jump from are
reached and that the blocks they make current are untouched (that these blocks exist is the calling convention, `Conv`).  The stages
of a `try` speak of the loop stack `L` (and the exception stack `X`) of the statement they belong to.  Which blocks a call leaves
untouched is not said here: the frame of the call (`Conv.frame`) tells. -/
abbrev Sound (E : List Edge) (S : List SRec) (st st' : St) : Call → Prop
  | .stmt x => ∀ il f nf, IG E il nf st.loops st.excs → okGS nf il f x → Entry E st → Post3 E S st.loops st.excs st' (sxS x)
  | .list ss => ∀ il f nf, IG E il nf st.loops st.excs → okG nf il f ss → Entry E st → Post3 E S st.loops st.excs st' (sxL ss)
  | .if_ s _ thn orelse => ∀ il f nf, IG E il nf st.loops st.excs → okG nf il f thn → okG nf il f orelse → Entry E st →
      Good E S s ∧ (∀ l ∈ (sxL thn).lines, Good E S l) ∧ (∀ l ∈ (sxL orelse).lines, Good E S l) ∧
      (((sxL thn).ex.union (sxL orelse).ex).normal = true → Entry E st') ∧
      Exits E st.loops st.excs ((sxL thn).ex.union (sxL orelse).ex).brk ((sxL thn).ex.union (sxL orelse).ex).cont
        ((sxL thn).ex.union (sxL orelse).ex).ret ((sxL thn).ex.union (sxL orelse).ex).raise
  -- a clause of a chain: if a branch can end normally the call ends in the merge block `fm` of the chain, which is reached
  | .elif s _ thn orelse fm => ∀ il f nf, IG E il nf st.loops st.excs → okG nf il f thn → okG nf il f orelse → fm ≠ exitB → Entry E st →
      Good E S s ∧ (∀ l ∈ (sxL thn).lines, Good E S l) ∧ (∀ l ∈ (sxL orelse).lines, Good E S l) ∧
      (((sxL thn).ex.normal = true ∨ (sxL orelse).ex.normal = true) → st'.cur = fm ∧ R E fm) ∧
      Exits E st.loops st.excs ((sxL thn).ex.brk || (sxL orelse).ex.brk) ((sxL thn).ex.cont || (sxL orelse).ex.cont)
        ((sxL thn).ex.ret || (sxL orelse).ex.ret) ((sxL thn).ex.raise || (sxL orelse).ex.raise)
  -- the else-part of an `if` that continues the chain.  `tn` says whether the `then` branch of the `if` falls through; if so its
  -- last block `te` is reached and has neither an edge to EXIT nor a terminator
  | .elifTail cond te merge s' _ thn' orelse' => ∀ il f nf (tn : Bool), IG E il nf st.loops st.excs → okG nf il f thn' →
      okG nf il f orelse' → R E cond → te ≠ merge → merge ≠ exitB → cond ≠ merge → Untouched st merge → (tn = true → R E te ∧ NT st te) →
      Good E S s' ∧ (∀ l ∈ (sxL thn').lines, Good E S l) ∧ (∀ l ∈ (sxL orelse').lines, Good E S l) ∧
      ((tn = true ∨ (sxL thn').ex.normal = true ∨ (sxL orelse').ex.normal = true) → Entry E st') ∧
      Exits E st.loops st.excs ((sxL thn').ex.brk || (sxL orelse').ex.brk) ((sxL thn').ex.cont || (sxL orelse').ex.cont)
        ((sxL thn').ex.ret || (sxL orelse').ex.ret) ((sxL thn').ex.raise || (sxL orelse').ex.raise)
  | .cases cs mb _ => ∀ il f nf, IG E il nf st.loops st.excs → okGC nf il f cs → R E mb →
      (∀ l ∈ (sxAlts cs).lines, Good E S l) ∧
      Exits E st.loops st.excs (sxAlts cs).ex.brk (sxAlts cs).ex.cont (sxAlts cs).ex.ret (sxAlts cs).ex.raise
  | .handlers hs hbs after => ∀ il f nf, IG E il nf st.loops st.excs → okGH nf il f hs → hbs.Nodup →
      (∀ hb ∈ hbs, Untouched st hb ∧ R E hb) →
      (∀ l ∈ (sxAlts hs).lines, Good E S l) ∧ ((sxAlts hs).ex.normal = true → R E after) ∧
      Exits E st.loops st.excs (sxAlts hs).ex.brk (sxAlts hs).ex.cont (sxAlts hs).ex.ret (sxAlts hs).ex.raise
  | .tryMid tryB cfin X0 nat ah body handlers => ∀ il f nf L, st.loops = L →
      IG E il nf L ({ fin := cfin, handlers := (List.range handlers.length).map (fun k => st.next + k), processingFinally := false } :: X0) →
      okG nf il f body → okGH nf il f handlers → Untouched st tryB → R E tryB →
      (∀ l ∈ (sxL body).lines, Good E S l) ∧ (∀ l ∈ (sxAlts handlers).lines, Good E S l) ∧
      ((sxL body).ex.normal = true → R E nat) ∧ ((sxAlts handlers).ex.normal = true → R E ah) ∧
      Exits E L ({ fin := cfin, handlers := (List.range handlers.length).map (fun k => st.next + k), processingFinally := false } :: X0)
        (sxL body).ex.brk (sxL body).ex.cont (sxL body).ex.ret (sxL body).ex.raise ∧
      Exits E L ({ fin := cfin, handlers := (List.range handlers.length).map (fun k => st.next + k), processingFinally := false } :: X0)
        (sxAlts handlers).ex.brk (sxAlts handlers).ex.cont (sxAlts handlers).ex.ret (sxAlts handlers).ex.raise
  -- the else part is entered from the block `nat` the body falls through to
  | .tryElse hasElse elseB ah orelse => ∀ il f nf nat L X, st.loops = L → st.excs = X → hasElse = !orelse.isEmpty →
      (if hasElse = true then elseB else ah) = nat → IG E il nf L X → okG nf il f orelse → (hasElse = true → Untouched st elseB) → R E nat →
      (∀ l ∈ (sxL orelse).lines, Good E S l) ∧ ((sxL orelse).ex.normal = true → R E ah) ∧
      Exits E L X (sxL orelse).ex.brk (sxL orelse).ex.cont (sxL orelse).ex.ret (sxL orelse).ex.raise
  -- after a `finally` body every structural exit is possible: the propagation edges out of its block are unconditional
  | .tryFin hasFin finB exitBk _ X0 fin => hasFin = true → ∀ il L, st.loops = L →
      IG E il false L X0 → okL3 il true fin = true → Untouched st finB → R E finB →
      (∀ l ∈ (sxL fin).lines, Good E S l) ∧ ((sxL fin).ex.normal = true → R E exitBk) ∧ Exits E L X0 true true true true

/-- The last stage of a `try`, from the state `s8` after the else part to `s9`, `pl`, `pend` being the summary of what precedes it:
without `finally` the pending exits leave the context, with one they all lead to its block, which `hfb` says is reached.  The exit
block is still untouched at the end (`heu`). -/
theorem tryEnd_sound {s8 s9 : St} {fin : List Stmt} {il nf hasFin : Bool} {finB exitBk ah : Nat} {cfin : Option Nat} {hbs : List Nat}
    {L : List (Nat × Nat × Nat)} {X0 : List Exc} {pl sk sk' : List Nat} {pend : Ex}
    (h9 : Sound E S s8 s9 (.tryFin hasFin finB exitBk { fin := cfin, handlers := hbs, processingFinally := false } X0 fin))
    (hF : hasFin = !fin.isEmpty) (hcfin : (if hasFin = true then some finB else none) = cfin)
    (hah : (if hasFin = true then finB else exitBk) = ah) (hl : s8.loops = L) (hi : IG E il nf L X0)
    (hok : fin.isEmpty = false → nf = false ∧ okL3 il true fin = true)
    (hfb : hasFin = true → Untouched s8 finB ∧ R E finB) (heu : Untouched s9 exitBk)
    (hpl : ∀ l ∈ pl, Good E S l) (hpn : pend.normal = true → R E ah)
    (hpx : Exits E L ({ fin := cfin, handlers := hbs, processingFinally := false } :: X0) pend.brk pend.cont pend.ret pend.raise) :
    Post3 E S L X0 (setExcs (setCur s9 exitBk) X0)
      (if fin.isEmpty = true then { lines := pl, skipped := sk, ex := pend }
       else { lines := pl ++ (sxL fin).lines, skipped := sk',
              ex := { normal := (sxL fin).ex.normal, ret := true, brk := true, cont := true, raise := true } }) := by
  cases hasFin
  · have hfe : fin.isEmpty = true := by simpa using hF
    rw [if_pos hfe]
    simp only [Bool.false_eq_true, ↓reduceIte] at hah hcfin
    subst hah
    subst hcfin
    refine ⟨hpl, fun hn => Entry.mk' (hpn hn) (Untouched.nt ?_), Exits.pop hi rfl hpx⟩
    simp only [setExcs_cur, setCur_cur, unt_setExcs, unt_setCur]
    exact heu
  · have hfe : ¬ fin.isEmpty = true := by
      intro h; rw [h] at hF; cases hF
    rw [if_neg hfe]
    simp only [↓reduceIte] at hah hcfin
    subst hah
    subst hcfin
    obtain ⟨rfl, hokfin⟩ := hok (by simpa using hfe)
    obtain ⟨hfu, hrf⟩ := hfb rfl
    obtain ⟨t1, t2, t3⟩ := h9 rfl il L hl hi hokfin hfu hrf
    refine ⟨lines_append hpl t1, fun hn => Entry.mk' (t2 hn) (Untouched.nt ?_), t3⟩
    simp only [setExcs_cur, setCur_cur, unt_setExcs, unt_setCur]
    exact heu

theorem sound_run {st st' : St} {cl : Call} (h : Run st cl st') : Conv st cl → Cov E S st' → Sound E S st st' cl := by
  induction h with
  | simple st s e cm hcm =>
    intro w hcov il f nf _ _ he
    rw [sxS_simple]
    cases hcm
    · exact add_cur_sound he hcov
    · obtain ⟨_, he2⟩ := comp_sound st s e cm w ((cov_add ..).mp hcov).2 he.reach
      exact add_cur_sound he2 hcov
  | ret st s e cm hcm => exact fun w hcov _ _ _ _ _ he => ret_sound s e cm hcm w hcov he
  | brk st s e => exact fun _ hcov _ _ _ hi hok he => brk_sound s e (hi.loops (okGS_brk hok)) hcov he
  | cont st s e => exact fun _ hcov _ _ _ hi hok he => cont_sound s e (hi.loops (okGS_cont hok)) hcov he
  | raise st s e => exact fun _ hcov _ _ _ _ _ he => raise_sound s e hcov he
  | def_ st s e b =>
    intro _ hcov _ _ _ _ _ he
    rw [sxS_def]
    exact add_cur_sound he hcov
  | handler st s e b => exact fun _ _ _ _ _ _ hok => (okGS_handler hok).elim
  | case_ st s e b => exact fun _ _ _ _ _ _ hok => (okGS_case hok).elim
  | @class_ st s e body s1 hr ih =>
    intro w hcov il f nf hi hok he
    rw [sxS_class]
    have c1 : Conv (classPre st s e) (.list body) := classPre_wf w s e
    obtain ⟨g, hent⟩ := classPre_sound w he (c1.cov hr hcov)
    have hp := ih c1 hcov false f nf hi.noLoop (okGS_class hok) hent
    exact ⟨lines_cons g hp.lines, hp.normal, hp.exits⟩
  | @ite st s e a b s1 _ ih =>
    intro w hcov il f nf hi hok he
    rw [sxS_ite]
    obtain ⟨r1, r2, r3, r4, r5⟩ := ih w hcov il f nf hi (okGS_ite hok).1 (okGS_ite hok).2 he
    exact ⟨lines_cons r1 (lines_append r2 r3), r4, r5⟩
  | @elifc st s e a b s1 _ ih =>
    intro w hcov il f nf hi hok he
    rw [sxS_elifc]
    obtain ⟨_, r2, r3, r4, r5⟩ := ih w hcov il f nf hi (okGS_elifc hok).1 (okGS_elifc hok).2 he
    exact ⟨lines_append r2 r3, r4, r5⟩
  | @elsec st s e b s1 _ ih =>
    intro w hcov il f nf hi hok he
    rw [sxS_elsec]
    exact ih w hcov il f nf hi (okGS_elsec hok) he
  | @loop_nil st s e body s5 hr ih =>
    intro w hcov il f nf hi hok he
    rw [sxS_loop, sxL_nil]
    have c1 : Conv (loopPre st s e false) (.list body) := loopPre_wf w s e false
    simp only [cov_setLoops, cov_setCur, cov_eue] at hcov
    obtain ⟨_, hc5⟩ := hcov
    -- the body owns its first block `st.next + 1` and what it allocates, from `st.next + 3` on
    have j := c1.own hr
    obtain ⟨g, hent, hx, hu2, _⟩ := loopPre_sound false w he (Cov.of_inv j hc5)
    have hp := ih c1 hc5 true f nf (hi.enter _ _) (okGS_loop hok).1 hent
    refine ⟨lines_cons g (lines_append hp.lines (fun l h => by cases h)), fun _ => Entry.mk' hx (Untouched.nt ?_),
      ⟨ff, ff, fun h => hp.exits.ret ((Bool.or_false _).symm.trans h), fun h => hp.exits.raise ((Bool.or_false _).symm.trans h)⟩⟩
    simp only [setLoops_cur, setCur_cur, unt_setLoops, unt_setCur]
    exact j.eue_untouched (Nat.lt_succ_self _) (Nat.succ_ne_self _) hu2
  | @loop_cons st s e body o os s5 s8 h1 h2 ih1 ih2 =>
    intro w hcov il f nf hi hok he
    rw [sxS_loop]
    have c1 : Conv (loopPre st s e true) (.list body) := loopPre_wf w s e true
    have c2 := Conv.loop_cons (o := o) (os := os) h1 w
    -- the body owns its first block `st.next + 1` and what it allocates, from `st.next + 4` on, the `else` clause its first block
    -- `st.next + 3` and what it allocates
    have j := c1.own h1
    have hjn : st.next + 4 ≤ s5.next := j.next_le
    have hn5 := loopElsePre_next st s5
    have j8 := c2.own h2
    simp only [cov_setLoops, cov_setCur, cov_eue] at hcov
    obtain ⟨e8, hc8⟩ := hcov
    have hc6 := Cov.of_inv j8 hc8
    simp only [loopElsePre, cov_setLoops, cov_setCur, cov_eue] at hc6
    obtain ⟨_, hc5⟩ := hc6
    obtain ⟨g, hent, hx, hu2, hu3⟩ := loopPre_sound true w he (Cov.of_inv j hc5)
    have hp := ih1 c1 hc5 true f nf (hi.enter _ _) (okGS_loop hok).1 hent
    have sq : Same st (loopElsePre st s5) := ⟨rfl, (loopElsePre_excs ..).trans (h1.stacks).excs⟩
    have hu3' : Untouched (loopElsePre st s5) (st.next + 3) :=
      (unt_setCur ..).mpr <| (unt_setLoops ..).mpr <| j.eue_untouched (Nat.lt_succ_self _) (Nat.ne_of_gt (Nat.add_lt_add_left (by decide) st.next)) hu3
    have hu2' : Untouched (loopElsePre st s5) (st.next + 2) :=
      (unt_setCur ..).mpr <| (unt_setLoops ..).mpr <| j.eue_untouched (Nat.lt_succ_of_lt (Nat.lt_succ_self _))
        (Nat.ne_of_gt (Nat.add_lt_add_left (by decide) st.next)) hu2
    have hp2 := ih2 c2 hc8 il f nf (IG.same sq hi) (okGS_loop hok).2 (Entry.mk' hx hu3'.nt)
    have x2 := Exits.same sq hp2.exits
    refine ⟨lines_cons g (lines_append hp.lines hp2.lines), fun hn => Entry.mk' ?_ (Untouched.nt ?_),
      ⟨x2.brk, x2.cont, fun h => (Bool.or_eq_true_iff.mp h).elim hp.exits.ret x2.ret,
        fun h => (Bool.or_eq_true_iff.mp h).elim hp.exits.raise x2.raise⟩⟩
    · simp only [setLoops_cur, setCur_cur]
      rcases Bool.or_eq_true_iff.mp hn with hb | hb
      · have h' : R E ((tflX st.excs st.excs.length).getD (st.next + 2)) := hp.exits.brk hb _ _ _ _ rfl
        rw [tflX_self] at h'
        exact h'
      · exact (hp2.normal hb).step_eue e8
    · simp only [setLoops_cur, setCur_cur, unt_setLoops, unt_setCur]
      exact j8.eue_untouched (hn5 ▸ Nat.lt_of_lt_of_le (Nat.add_lt_add_left (by decide) st.next) hjn) (Nat.ne_of_lt (Nat.lt_succ_self _)) hu2'
  | @with_ st s e body s2 hr ih =>
    intro w hcov il f nf hi hok he
    rw [sxS_with]
    have c1 : Conv (withPre st s e) (.list body) := withPre_wf w s e
    simp only [cov_setCur, cov_edge, cov_eue] at hcov
    obtain ⟨e1, e2, _, hc2⟩ := hcov
    -- the body owns its first block `st.next + 1` and what it allocates, from `st.next + 4` on
    have j := c1.own hr
    obtain ⟨g, hr0, hent, hu3⟩ := withPre_sound w he (Cov.of_inv j hc2)
    have hp := ih c1 hc2 il f nf hi (okGS_with hok) hent
    -- the exit block `st.next + 3` is reached whatever the body does: setup `st.next` → teardown `st.next + 2` (the `exc` edge) → exit
    refine ⟨lines_cons g hp.lines, fun _ => Entry.mk' (R.step (R.step hr0 e2) e1) (Untouched.nt ?_), hp.exits⟩
    simp only [setCur_cur, unt_setCur, unt_edge]
    exact ⟨Nat.ne_of_lt (Nat.lt_succ_self _), Nat.ne_of_lt (Nat.lt_add_of_pos_right (Nat.succ_pos 2)),
      j.eue_untouched (Nat.lt_succ_self _) (Nat.ne_of_gt (Nat.add_lt_add_left (by decide) st.next)) hu3⟩
  | match_nil st s e =>
    intro w hcov il f nf _ _ he
    rw [sxS_match, sxAlts_nil]
    simp only [cov_setCur, cov_edge] at hcov
    obtain ⟨e1, hc2⟩ := hcov
    obtain ⟨g, hr0⟩ := matchPre_sound he hc2
    refine ⟨lines_single g, fun _ => Entry.mk' (R.step hr0 e1) (Untouched.nt ?_), Exits.nil⟩
    simp only [setCur_cur, unt_setCur, unt_edge]
    exact ⟨Nat.ne_of_lt (Nat.lt_succ_self _), matchPre_unt w s e⟩
  | @match_cons st s e c cs s2 hr ih =>
    intro w hcov il f nf hi hok he
    rw [sxS_match]
    have c1 := Conv.match_cons (s := s) (e := e) (c := c) (cs := cs) w
    simp only [cov_setCur, cov_edge] at hcov
    obtain ⟨e1, hc2⟩ := hcov
    -- the clauses own the subject's block `st.next` and what they allocate: not the merge block `st.next + 1`
    have j := c1.frame hr (Nat.le_refl _) (.inl rfl)
    obtain ⟨g, hr0⟩ := matchPre_sound he (Cov.of_ext j hc2)
    obtain ⟨r1, r2⟩ := ih c1 hc2 il f nf hi (okGS_match hok) hr0
    refine ⟨lines_cons g r1, fun _ => Entry.mk' (R.step hr0 e1) (Untouched.nt ?_), r2⟩
    simp only [setCur_cur, unt_setCur, unt_edge]
    exact ⟨Nat.ne_of_lt (Nat.lt_succ_self _), j.untouched (Nat.succ_ne_self _) (Nat.lt_succ_self _) (matchPre_unt w s e)⟩
  | nil st =>
    intro _ _ _ _ _ _ _ he
    rw [sxL_nil]
    exact ⟨(fun l h => by cases h), fun _ => he, Exits.nil⟩
  | @cons st x xs s1 s2 h1 h2 ih1 ih2 =>
    intro w hcov il f nf hi hok he
    rw [sxL_cons]
    replace hok := okG_cons hok
    have c2 : Conv s1 (.list xs) := Conv.cons h1 w
    have sm1 := h1.stacks
    have hp1 := ih1 w (c2.cov h2 hcov) il f nf hi hok.1 he
    by_cases hn : (sxS x).ex.normal = true
    · rw [if_pos hn]
      have hp2 := ih2 c2 hcov il f nf (IG.same sm1 hi) hok.2 (hp1.normal hn)
      exact ⟨lines_append hp1.lines hp2.lines, hp2.normal, hp1.exits.or (Exits.same sm1 hp2.exits)⟩
    · rw [if_neg hn]
      exact ⟨hp1.lines, fun h => absurd h hn, hp1.exits⟩
  | cases_nil st mb merge =>
    intro _ _ _ _ _ _ _ _
    rw [sxAlts_nil]
    exact ⟨(fun l h => by cases h), Exits.nil⟩
  | @cases_case st s e body cs mb merge s1 s2 h1 h2 ih1 ih2 =>
    intro hc hcov il f nf hi hok hrm
    obtain ⟨_, _, _, hx, hok1, hok2⟩ := okGC_cons hok
    cases hx
    rw [sxAlts_cons, sxS_case]
    obtain ⟨c1, c2⟩ := hc.cases_case h1
    have sm : Same _ (s1.edgeUnlessExit s1.cur merge .normal) := (h1.stacks).eue
    obtain ⟨r1, r2⟩ := ih2 c2 hcov il f nf (IG.same sm hi) hok2 hrm
    have hc2 := ((cov_eue ..).mp (c2.cov h2 hcov)).2
    obtain ⟨g, hent⟩ := casePre_sound hc.wf hc.cases_mb hrm (c1.cov h1 hc2)
    have hp := ih1 c1 hc2 il f nf hi hok1 hent
    exact ⟨lines_append (lines_cons g hp.lines) r1, hp.exits.or (Exits.same sm r2)⟩
  | @cases_other st x cs mb merge s1 s2 hne _ _ _ _ =>
    intro _ _ il f nf _ hok
    obtain ⟨_, _, _, hx, _⟩ := okGC_cons hok
    exact (hne _ _ _ hx).elim
  | @if_nil st s e thn s3 h1 ih1 =>
    intro w hcov il f nf hi hok1 _ he
    simp only [cov_setCur, cov_eue, cov_edge] at hcov
    obtain ⟨_, e1, hc3⟩ := hcov
    obtain ⟨g1, hent, huh, hte⟩ := ifPre_sound w he h1 hc3
    have hpt := ih1 (ifPre_wf w s e) hc3 il f nf hi hok1 hent
    rw [sxL_nil]
    refine ⟨g1, hpt.lines, (fun l h => by cases h), fun _ => Entry.mk' (R.step he.reach e1) (Untouched.nt ?_), hpt.exits.or Exits.nil⟩
    simp only [setCur_cur, unt_setCur]
    exact Untouched.eue hte ((unt_edge ..).mpr ⟨Nat.ne_of_lt (Nat.lt_succ_of_lt w.cur), huh⟩)
  | @if_chain st s e thn l a b s' e' s3 s5 hch h1 h2 ih1 ih2 =>
    intro w hcov il f nf hi hok1 hok2 he
    obtain ⟨hoka, hokb⟩ := okG_chain hch hok2
    have c1 : Conv (ifPre st s e) (.list thn) := ifPre_wf w s e
    have c2 := Conv.if_chain (a := a) (b := b) (s' := s') (e' := e') h1 w
    have hc3 := c2.cov h2 hcov
    obtain ⟨g1, hent, huh, hte⟩ := ifPre_sound w he h1 hc3
    have hpt := ih1 c1 hc3 il f nf hi hok1 hent
    have smh := h1.stacks
    obtain ⟨r1, r2, r3, r4, r5⟩ := ih2 c2 hcov il f nf (sxL thn).ex.normal (IG.same smh hi) hoka hokb he.reach hte
      (Nat.ne_of_gt (Nat.le_succ_of_le w.two)) (Nat.ne_of_lt (Nat.lt_succ_of_lt w.cur)) huh (fun h => ⟨(hpt.normal h).reach, (hpt.normal h).nt⟩)
    rw [hch.sxL_ex]
    simp only [ex_union_normal, ex_union_brk, ex_union_cont, ex_union_ret, ex_union_raise, or3]
    exact ⟨g1, hpt.lines, hch.lines_good r1 r2 r3, r4, hpt.exits.or (Exits.same smh r5)⟩
  | @if_else st s e thn o os s3 s5 _ _ h1 h2 ih1 ih2 =>
    intro w hcov il f nf hi hok1 hok2 he
    have c1 : Conv (ifPre st s e) (.list thn) := ifPre_wf w s e
    have c2 := Conv.if_else (os := o :: os) h1 w
    have w3 := c1.wf' h1
    have hnx : st.next + 1 < s3.next := c1.next_le h1
    have hcl : st.cur < s3.next := Nat.lt_trans w.cur (Nat.lt_of_succ_lt hnx)
    -- the `else` part owns its first block `s3.next` and what it allocates
    have j5 := c2.own h2
    unfold elseJoin at hcov ⊢
    have hc5 : Cov E S s5 := by
      refine Cov.ite hcov id fun h => ?_
      simp only [cov_setCur, cov_eue] at h
      exact h.2.2
    obtain ⟨hent5, hc3, old⟩ := condFPre_sound w3 hcl he.reach j5.ext hc5
    have smh := h1.stacks
    have hpe := ih2 c2 hc5 il f nf (IG.same smh hi :) hok2 hent5
    obtain ⟨g1, hent, huh, hte⟩ := ifPre_sound w he h1 hc3
    have hpt := ih1 c1 hc3 il f nf hi hok1 hent
    refine ⟨g1, hpt.lines, hpe.lines, ?_, hpt.exits.or (Exits.same smh hpe.exits)⟩
    simp only [ex_union_normal, Bool.or_eq_true]
    intro hn
    -- the last block of the `then` branch keeps what it had: the `else` part does not own it
    have hnt5 := (old _ w3.cur).1
    rw [if_neg (not_both_terminate (fun h => hnt5 (hpt.normal h).nt) hpe.normal hn)] at hcov ⊢
    simp only [cov_setCur, cov_eue, edgeUnlessExit_cur] at hcov
    obtain ⟨f2, f1, _⟩ := hcov
    refine Entry.mk' ?_ (Untouched.nt ?_)
    · simp only [setCur_cur]
      rcases hn with hn | hn
      · have he3 := hpt.normal hn
        exact R.step he3.reach (f1 (hnt5 he3.nt).1)
      · have he5 := hpe.normal hn
        exact R.step he5.reach (f2 (he5.nt.eue_tgt (Nat.ne_of_gt (Nat.le_succ_of_le w.two))).1)
    · simp only [setCur_cur, unt_setCur, edgeUnlessExit_cur]
      exact Untouched.eue (j5.own.ne_of_lt (Nat.ne_of_lt hnx) (Nat.lt_succ_of_lt hnx))
        (Untouched.eue hte ((old _ hnx).2 (Nat.ne_of_lt (Nat.lt_succ_of_lt w.cur)) huh))
  | @elifTail st cond te merge s' e' thn' orelse' s5 hr ih =>
    intro hc hcov il f nf tn hi hoka hokb hrc htm hme hcm hu hte
    have c1 := hc.elifTail
    have w := hc.wf
    -- the chain owns the block it starts in and what it allocates: neither `te` nor the merge block
    have jr := c1.frame hr (Nat.le_refl _) (.inl rfl)
    have hc5 := tailJoin_cov hcov
    obtain ⟨hent, -, old⟩ := condFPre_sound w hc.tail_cond hrc jr hc5
    obtain ⟨r1, r2, r3, r4, r5⟩ := ih c1 hc5 il f nf hi hoka hokb hme hent
    refine ⟨r1, r2, r3, fun hn => tailJoin_entry hcov htm ((old _ hc.tail_merge).2 hcm hu) ?_, r5⟩
    rcases hn with ht | hn
    · exact .inl ⟨(hte ht).1, (old _ hc.tail_te).1 (hte ht).2⟩
    · exact .inr (r4 hn)
  | @elif_nil st s e thn fm s3 h1 ih1 =>
    intro hc hcov il f nf hi hok1 _ hfe he
    unfold finishElif at hcov ⊢
    simp only [cov_setCur, cov_eue, cov_edge] at hcov
    obtain ⟨f1, e1, hc3⟩ := hcov
    obtain ⟨g1, hent⟩ := elifPre_sound hc.wf he h1 hc3
    have hpt := ih1 (elifPre_wf hc.wf s e) hc3 il f nf hi hok1 hent
    rw [sxL_nil]
    exact ⟨g1, hpt.lines, (fun l h => by cases h), fun _ => ⟨rfl, R.step he.reach e1⟩, hpt.exits.or Exits.nil⟩
  | @elif_chain st s e thn l a b fm s' e' s3 s5 hch h1 h2 ih1 ih2 =>
    intro hc hcov il f nf hi hok1 hok2 hfe he
    obtain ⟨hoka, hokb⟩ := okG_chain hch hok2
    have c2 := hc.elif_chain (a := a) (b := b) (s' := s') (e' := e') h1
    have w := hc.wf
    have c1 : Conv (elifPre st s e) (.list thn) := elifPre_wf w s e
    have w3 := c1.wf' h1
    have hcl : st.cur < s3.next := Nat.lt_of_lt_of_le (Nat.lt_succ_of_lt w.cur) (c1.next_le h1)
    -- the rest of the chain owns the block it starts in and what it allocates: not the last block of the first branch
    have jr := c2.frame h2 (Nat.le_refl _) (.inl rfl)
    unfold finishElif at hcov ⊢
    simp only [cov_setCur, cov_eue] at hcov
    obtain ⟨f1, hcr⟩ := hcov
    obtain ⟨hent5, hc3, old⟩ := condFPre_sound w3 hcl he.reach jr hcr
    obtain ⟨g1, hent⟩ := elifPre_sound w he h1 hc3
    have hpt := ih1 c1 hc3 il f nf hi hok1 hent
    have smh := h1.stacks
    obtain ⟨r1, r2, r3, r4, r5⟩ := ih2 c2 hcr il f nf (IG.same smh hi :) hoka hokb hfe hent5
    rw [hch.sxL_ex]
    simp only [ex_union_normal, ex_union_brk, ex_union_cont, ex_union_ret, ex_union_raise, Bool.or_eq_true]
    refine ⟨g1, hpt.lines, hch.lines_good r1 r2 r3, fun hn => ⟨rfl, ?_⟩, hpt.exits.or (Exits.same smh r5)⟩
    rcases hn with hn | hn
    · have he3 := hpt.normal hn
      exact R.step he3.reach (f1 ((old _ w3.cur).1 he3.nt).1)
    · exact (r4 hn).2
  | @elif_else st s e thn fm o os s3 s5 _ _ h1 h2 ih1 ih2 =>
    intro hc hcov il f nf hi hok1 hok2 hfe he
    have w := hc.wf
    have c1 : Conv (elifPre st s e) (.list thn) := elifPre_wf w s e
    have c2 := Conv.elif_else (os := o :: os) h1 w
    have w3 := c1.wf' h1
    have hcl : st.cur < s3.next := Nat.lt_of_lt_of_le (Nat.lt_succ_of_lt w.cur) (c1.next_le h1)
    unfold elseJoin at hcov ⊢
    have hc5 : Cov E S s5 := by
      refine Cov.ite hcov id fun h => ?_
      unfold finishElif at h
      simp only [cov_setCur, cov_eue] at h
      exact h.2.2
    -- the `else` part owns its first block `s3.next` and what it allocates: not the last block of the first branch
    obtain ⟨hent5, hc3, old⟩ := condFPre_sound w3 hcl he.reach (c2.own h2).ext hc5
    have smh := h1.stacks
    have hpe := ih2 c2 hc5 il f nf (IG.same smh hi :) hok2 hent5
    obtain ⟨g1, hent⟩ := elifPre_sound w he h1 hc3
    have hpt := ih1 c1 hc3 il f nf hi hok1 hent
    refine ⟨g1, hpt.lines, hpe.lines, fun hn => ?_, hpt.exits.or (Exits.same smh hpe.exits)⟩
    have hnt5 := (old _ w3.cur).1
    rw [if_neg (not_both_terminate (fun h => hnt5 (hpt.normal h).nt) hpe.normal hn)] at hcov ⊢
    refine ⟨finishElif_cur _ _ _, ?_⟩
    unfold finishElif at hcov
    simp only [cov_setCur, cov_eue] at hcov
    obtain ⟨f1, f2, _⟩ := hcov
    rcases hn with hn | hn
    · have he3 := hpt.normal hn
      exact R.step he3.reach (f1 ((hnt5 he3.nt).eue_tgt hfe).1)
    · exact (hpe.normal hn).step_eue f2
  | @try_ st s e body handlers orelse fin s3 finB elseB cfin nat ah s7 s8 s9 ha h7 h8 h9 ih7 ih8 ih9 =>
    intro w hcov il f nf hi hok he
    obtain ⟨hokb, hokh, hoke, hokf⟩ := okGS_try hok
    rw [sxS_try]
    simp only []
    obtain ⟨c7, c8, c9⟩ := Conv.try_ ha h7 h8 w
    have hb := ha.allocated
    have hse : (!orelse.isEmpty) = true → st.next < elseB := fun h => Nat.lt_of_succ_lt (hb.els h).1
    have hsf : (!fin.isEmpty) = true → st.next < finB := fun h => Nat.lt_of_succ_lt (hb.fin h).1
    -- each stage owns the block it makes current first (`st.next`, `elseB`, `finB`) and what it allocates
    have k7 := c7.frame h7 (Nat.le_refl _) (.inl rfl)
    have k8 := c8.frame h8 (Nat.le_refl _) fun _ => .inl rfl
    have k9 := c9.frame h9 (Nat.le_refl _) fun _ => .inl rfl
    obtain ⟨l7, x7⟩ := h7.stacks
    have sm8 : Same s7 s8 := h8.stacks
    have l3 : s7.loops = st.loops := l7.trans hb.loops
    simp only [cov_setExcs, cov_setCur] at hcov
    have hc8 := Cov.of_ext k9 hcov
    have hc7 := Cov.of_ext k8 hc8
    have hc3 := Cov.of_ext k7 hc7
    have hrt : R E st.next := R.step he.reach (hc3.1 (st.cur, st.next, .normal) (by rw [hb.edges]; exact List.mem_cons_self))
    have hu3 : ∀ m, st.next ≤ m → Untouched s3 m := fun m => hb.untouched w
    -- the other blocks allocated for the `try` are untouched after the body and the handlers, those other than `elseB` after the else part
    have hu7 : ∀ m, st.next < m → m < s3.next → Untouched s7 m := fun m hm1 hm2 =>
      k7.untouched (Nat.ne_of_gt hm1) hm2 (hu3 m (Nat.le_of_lt hm1))
    have hu8 : ∀ m, st.next < m → m < s3.next → m ≠ elseB → Untouched s8 m := fun m hm1 hm2 hm3 =>
      k8.untouched hm3 (Nat.lt_of_lt_of_le hm2 (c7.next_le h7)) (hu7 m hm1 hm2)
    obtain ⟨m1, m2, m3, m4, m5, m6⟩ := ih7 c7 hc7 il f nf st.loops hb.loops (hi.push _ rfl) hokb hokh (hu3 _ (Nat.le_refl _)) hrt
    have elP : (sxL body).ex.normal = true → (∀ l ∈ (sxL orelse).lines, Good E S l) ∧ ((sxL orelse).ex.normal = true → R E ah) ∧
        Exits E st.loops ({ fin := cfin, handlers := (List.range handlers.length).map (fun k => s3.next + k), processingFinally := false } :: st.excs)
          (sxL orelse).ex.brk (sxL orelse).ex.cont (sxL orelse).ex.ret (sxL orelse).ex.raise := fun hn =>
      ih8 c8 hc8 il f nf nat st.loops _ l3 x7 rfl ha.nat_eq.symm (hi.push _ rfl) hoke (fun h => hu7 elseB (hse h) (hb.els h).2) (m3 hn)
    obtain ⟨e1, e2, e3⟩ := tryPend3 rfl elP
    -- with a `finally` every exit of the body and of the else part leads to its block
    have hrf : (!fin.isEmpty) = true → R E finB := by
      intro hf
      have hcf' : cfin = some finB := ha.cfin_eq.trans (if_pos hf)
      rcases exSome body il f hokb.1 with hn | hs
      · obtain ⟨_, a2, a3⟩ := elP hn
        rcases exSome orelse il f hoke.1 with hn' | hs
        · exact (ha.ah_eq.trans (if_pos hf)) ▸ a2 hn'
        · exact Exits.toFin hi hcf' rfl a3 hs
      · exact Exits.toFin hi hcf' rfl m5 hs
    refine tryEnd_sound (ih9 c9 hcov) rfl ha.cfin_eq.symm ha.ah_eq.symm (sm8.loops.trans l3) hi hokf
      (fun h => ⟨hu8 finB (hsf h) (hb.fin h).2.1 (hb.fin h).2.2, hrf h⟩)
      (k9.untouched hb.fin_ne.symm c9.tryFin_exit (hu8 (st.next + 1) (Nat.lt_succ_self _) hb.next_le hb.els_ne.symm))
      (lines_append (lines_append m1 m2) e1) ?_ ((m5.or m6).or e3)
    intro h
    rcases Bool.or_eq_true_iff.mp h with h | h
    · exact e2 h
    · exact m4 h
  | handlers_nil_l st hbs after =>
    intro _ _ _ _ _ _ _ _ _
    rw [sxAlts_nil]
    exact ⟨(fun l h => by cases h), ff, Exits.nil⟩
  | handlers_nil_r st hs after =>
    intro hc _ _ _ _ _ _ _ _
    obtain rfl : hs = [] := List.eq_nil_of_length_eq_zero (Nat.le_zero.mp hc.handlers_len)
    rw [sxAlts_nil]
    exact ⟨(fun l h => by cases h), ff, Exits.nil⟩
  | @handlers_handler st s e body hs hb hbs after s1 s2 h1 h2 ih1 ih2 =>
    intro hc hcov il f nf hi hok hnd hhb
    obtain ⟨_, _, _, hx, hok1, hok2⟩ := okGH_cons hok
    cases hx
    rw [List.nodup_cons] at hnd
    rw [sxAlts_cons, sxS_handler]
    obtain ⟨hbu, hbr⟩ := hhb hb List.mem_cons_self
    obtain ⟨c1, c2⟩ := hc.handlers_handler h1
    -- the body owns the handler's block `hb` and what it allocates: the blocks of the later handlers are still untouched
    have j := c1.own h1
    have sm : Same _ (s1.edgeUnlessExit s1.cur after .normal) := (h1.stacks).eue
    obtain ⟨r1, r2, r3⟩ := ih2 c2 hcov il f nf (IG.same sm hi) hok2 hnd.2 fun hb' hm => by
      obtain ⟨a2, a3⟩ := hhb hb' (List.mem_cons_of_mem _ hm)
      have hne : hb' ≠ hb := fun h => hnd.1 (h ▸ hm)
      exact ⟨j.eue_untouched (hc.handlers_lt hb' (List.mem_cons_of_mem _ hm)) hne ((unt_add ..).mpr ⟨hne.symm, (unt_setCur ..).mpr a2⟩), a3⟩
    obtain ⟨f1, hc1⟩ := (cov_eue ..).mp (c2.cov h2 hcov)
    have hcp := c1.cov h1 hc1
    simp only [handlerPre, cov_add, cov_setCur] at hcp
    have hp := ih1 c1 hc1 il f nf hi hok1 (Entry.mk' hbr (NT.add_other ((nt_setCur ..).mpr hbu.nt)))
    refine ⟨lines_append (lines_cons (good_of hcp.1 hbr) hp.lines) r1, fun hn => ?_, hp.exits.or (Exits.same sm r3)⟩
    rcases Bool.or_eq_true_iff.mp hn with hn | hn
    · exact (hp.normal hn).step_eue f1
    · exact r2 hn
  | @handlers_other st x hs hb hbs after s1 s2 hne _ _ _ _ =>
    intro _ _ il f nf _ hok
    obtain ⟨_, _, _, hx, _⟩ := okGH_cons hok
    exact (hne _ _ _ hx).elim
  | @tryMid s3 tryB cfin X0 nat ah body handlers s5 s7 h1 h2 ih1 ih2 =>
    intro hc hcov il f nf L hL hi hokb hokh htu hrt
    subst hL
    obtain ⟨c1, c2⟩ := hc.tryMid h1
    have w := hc.wf
    have htl := hc.tryMid_tryB
    have hmem : ∀ h ∈ (List.range handlers.length).map (fun k => s3.next + k), s3.next ≤ h ∧ h < s3.next + handlers.length :=
      fun _ => handlerIds_mem
    have hnd := nodup_map_add s3.next handlers.length
    generalize (List.range handlers.length).map (fun k => s3.next + k) = hbs at *
    -- the body owns the block `tryB` and what it allocates, after the handler blocks
    have j5 := c1.own h1
    have sm5 := h1.stacks
    obtain ⟨eh, hc5e⟩ := foldl_edge_cov tryB .exc hbs _ (c2.cov h2 hcov)
    obtain ⟨f5, hc5⟩ := (cov_eue ..).mp hc5e
    have hp := ih1 c1 hc5 il f nf hi hokb (Entry.mk' hrt ((nt_setCur ..).mpr ((nt_setExcs ..).mpr ((nt_bumpN ..).mpr htu.nt))))
    have sm6 : Same _ (hbs.foldl (fun st h => st.edge tryB h .exc) (s5.edgeUnlessExit s5.cur nat .normal)) :=
      ⟨(foldl_edge_loops ..).trans sm5.eue.loops, (foldl_edge_excs ..).trans sm5.eue.excs⟩
    -- the handler blocks are not among the blocks the body owns: they are still untouched
    obtain ⟨r1, r2, r3⟩ := ih2 c2 hcov il f nf (IG.same sm6 hi) hokh hnd fun hb hm =>
      ⟨foldl_edge_untouched (Nat.ne_of_lt (Nat.lt_of_lt_of_le htl (hmem hb hm).1)) hbs
        (j5.eue_untouched (hmem hb hm).2 (Nat.ne_of_gt (Nat.lt_of_lt_of_le htl (hmem hb hm).1))
          ((unt_setCur ..).mpr ((unt_setExcs ..).mpr ((unt_bumpN ..).mpr (w.untouched (hmem hb hm).1))))), R.step hrt (eh hb hm)⟩
    exact ⟨hp.lines, r1, fun hn => (hp.normal hn).step_eue f5, r2, hp.exits, Exits.same sm6 r3⟩
  | tryElse_none s7 elseB ah orelse =>
    intro _ _ il f nf nat L X _ _ hE hnat _ _ _ hrn
    obtain rfl : orelse = [] := by
      rcases orelse with _ | ⟨o, os⟩
      · rfl
      · simp at hE
    simp only [Bool.false_eq_true, ↓reduceIte] at hnat
    rw [sxL_nil]
    exact ⟨(fun l h => by cases h), fun _ => hnat ▸ hrn, Exits.nil⟩
  | @tryElse_some s7 elseB ah orelse s hr ih =>
    intro hc hcov il f nf nat L X hL hX _ hnat hi hok heu hrn
    subst hL hX
    obtain ⟨f1, hc1⟩ := (cov_eue ..).mp hcov
    simp only [↓reduceIte] at hnat
    have hp := ih hc.tryElse_some hc1 il f nf hi hok (Entry.mk' (hnat ▸ hrn) ((nt_setCur ..).mpr (heu rfl).nt))
    exact ⟨hp.lines, fun hn => (hp.normal hn).step_eue f1, hp.exits⟩
  | tryFin_none s8 finB exitBk ctx X0 fin => exact fun _ _ => ff
  | @tryFin_some s8 finB exitBk ctx X0 fin s hr ih =>
    intro hc hcov _ il L hL hi hok hfu hrf
    subst hL
    have c1 := hc.tryFin_some
    have hxD : ((setExcs s (ctx :: X0)).edgeUnlessExit s.cur exitBk .normal).excs = ctx :: X0 := edgeUnlessExit_excs ..
    have hlD : ((setExcs s (ctx :: X0)).edgeUnlessExit s.cur exitBk .normal).loops = s8.loops :=
      (edgeUnlessExit_loops ..).trans (hr.stacks).loops
    obtain ⟨hT, hG⟩ := fp_cov hcov
    simp only [cov_eue, cov_setExcs, setExcs_cur, hasSucc_setExcs] at hG
    obtain ⟨eG, hcF⟩ := hG
    -- `PI` for the context that is pushed: the propagation edges out of `finB` are added only after the `finally` body has been
    -- built, but they belong to the final graph, so `hcov` has them here, before the body is visited
    have k1 : R E ((firstFin X0).getD exitB) := by
      obtain ⟨t, ht⟩ := hT _ _ (fpT_ret hxD)
      exact R.step hrf ht
    have k2 : ∀ a y d rest, s8.loops = (a, y, d) :: rest → d ≤ X0.length → R E ((plX X0 d).getD y) ∧ R E ((plX X0 d).getD a) := by
      intro a y d rest hl _
      obtain ⟨m1, m2⟩ := fpT_loop hxD (hlD.trans hl)
      obtain ⟨t, ht⟩ := hT _ _ m1
      obtain ⟨t', ht'⟩ := hT _ _ m2
      exact ⟨R.step hrf ht, R.step hrf ht'⟩
    have hp := ih c1 hcF il true false (hi.pushFin _ k1 k2) (okG.ofFalse hok) (Entry.mk' hrf hfu.nt)
    refine ⟨hp.lines, fun hn => (hp.normal hn).step_eue eG, ⟨fun _ a y d rest hl => ?_, fun _ a y d rest hl => ?_, fun _ => k1,
      fun _ t ht => chain_raise X0 (hi.pi rfl) k1 t ht⟩⟩
    · exact chain_loop hl y (.inl rfl) X0 (hi.pi rfl) (hi.depth a y d rest hl) (k2 a y d rest hl (hi.depth a y d rest hl)).1
    · exact chain_loop hl a (.inr rfl) X0 (hi.pi rfl) (hi.depth a y d rest hl) (k2 a y d rest hl (hi.depth a y d rest hl)).2

end sound3

/-- soundness of the builder mirror for statement lists, in the form that also covers the invariant of `CFGSound3` inside `finally` bodies -/
theorem sound_listG (ss : List Stmt) (il f nf : Bool) (st : St) (E : List Edge) (S : List SRec) (w : WF st) (hi : IG E il nf st.loops st.excs)
    (hok : okG nf il f ss) (h1 : ∀ e ∈ (procList st ss).edges, e ∈ E) (h2 : ∀ r ∈ (procList st ss).stmts, r ∈ S) (he : Entry E st) :
    Post3 E S st.loops st.excs (procList st ss) (sxL ss) :=
  sound_run ((run_all.2 ss).list st) w ⟨h1, h2⟩ il f nf hi hok he

theorem sound_list3 : ∀ (ss : List Stmt) (il f : Bool) (st : St) (E : List Edge) (S : List SRec), WF st → I3 E il f st.loops st.excs → okL3 il f ss = true →
    (∀ e ∈ (procList st ss).edges, e ∈ E) → (∀ r ∈ (procList st ss).stmts, r ∈ S) →
      Entry E st → Post3 E S st.loops st.excs (procList st ss) (sxL ss) :=
  fun ss il f st E S w hi hok => sound_listG ss il f false st E S w hi.toIG (okG.ofFalse hok)

theorem build_sound3 (k : Kind) (s e : Nat) (body : List Stmt) (hok : okL3 false false body = true) :
    ∀ l ∈ (sxL body).lines, ∃ r ∈ (build k s e body).stmts, r.s = l ∧ r.blk ∈ reachable (build k s e body) := by
  intro l hl
  have ipre := preB_inv k s e
  obtain ⟨j, sm⟩ := procList_frame body _ ipre.wf 0 0 (Or.inr (Nat.zero_le _)) (Nat.zero_le _)
  have hsub : Sub (procList (preB k s e) body) (build k s e body) := by
    rw [build_eq]; unfold finishB
    split
    · exact ⟨fun x h => List.mem_cons_of_mem _ h, fun _ h => h⟩
    · exact Sub.refl _
  have hx : (preB k s e).excs = [] := by cases k <;> rfl
  have hlp : (preB k s e).loops = [] := by cases k <;> rfl
  have hi : I3 (build k s e body).edges false false (preB k s e).loops (preB k s e).excs := by
    rw [hx, hlp]
    exact ⟨ff, trivial, (fun _ _ _ _ h => by cases h)⟩
  have hpost := sound_list3 body false false (preB k s e) (build k s e body).edges (build k s e body).stmts ipre.wf hi hok
    hsub.1 hsub.2 (preB_entry k s e (fun x h => hsub.1 x (j.sub.1 x h)))
  obtain ⟨r, hr, hrs, hrr⟩ := hpost.lines l hl
  refine ⟨r, hr, hrs, ?_⟩
  have hwf := build_wf k s e body
  exact reachable_complete _ (Nat.lt_of_lt_of_le Nat.zero_lt_two hwf.two) hwf.edges hrr

theorem mirror_sound3 (k : Kind) (s e : Nat) (body : List Stmt) (hok : okL3 false false body = true) {o : Out} {tr : List Nat}
    (ex : Exec body o tr) :
    ∀ l ∈ tr, l ∈ (sxL body).skipped ∨ ∃ r ∈ (build k s e body).stmts, r.s = l ∧ r.blk ∈ reachable (build k s e body) := by
  intro l hl
  have h1 := (PV.C01.C01_live_sound ex).2 l hl
  rcases (live_le_sx3 body false false hok).1 l h1 with h | h
  · exact .inr (build_sound3 k s e body hok l h)
  · exact .inl h

end PV.CFGSound.S4

#print axioms PV.CFGSound.S4.sound_list3
#print axioms PV.CFGSound.S4.live_le_sx3
#print axioms PV.CFGSound.S4.build_sound3
#print axioms PV.CFGSound.S4.mirror_sound3

/-!
The mirror is sound on the fragment `okL4` (= `okL3` without the `inFin` restriction): the theorems of the namespace `S4` above,
stated on `okL4` instead of `S4.okL3`.
-/
namespace PV.CFGSound
open PV.CFG PV.Py

theorem build_sound4 (k : Kind) (s e : Nat) (body : List Stmt) (hok : okL4 false body = true) :
    ∀ l ∈ (sxL body).lines, ∃ r ∈ (build k s e body).stmts, r.s = l ∧ r.blk ∈ reachable (build k s e body) :=
  S4.build_sound3 k s e body (S4_of_okL4 body false false hok)

theorem mirror_sound4 (k : Kind) (s e : Nat) (body : List Stmt) (hok : okL4 false body = true) {o : Out} {tr : List Nat}
    (ex : Exec body o tr) :
    ∀ l ∈ tr, l ∈ (sxL body).skipped ∨ ∃ r ∈ (build k s e body).stmts, r.s = l ∧ r.blk ∈ reachable (build k s e body) :=
  S4.mirror_sound3 k s e body (S4_of_okL4 body false false hok) ex

theorem live_le_sx4 (ss : List Stmt) (il : Bool) (hok : okL4 il ss = true) :
    (∀ l ∈ (live ss).lines, l ∈ (sxL ss).lines ∨ l ∈ (sxL ss).skipped) :=
  (S4.live_le_sx3 ss il false (S4_of_okL4 ss il false hok)).1

end PV.CFGSound

#print axioms PV.CFGSound.build_sound4
#print axioms PV.CFGSound.mirror_sound4
