import PV.Proofs.CFGComplexityDefs
/-!
Property C03 for the CFG mirror: the count `ldLX` with the true contribution of `try … finally`, over a structural context `FC`;
what the builder reads off an exception stack; where the jumps of a piece of code arrive (`Jmp`).
Both fragments (with and without a non-empty `finally`) are counted by `ldLX`; on `okCL` it agrees with `ldL` (`ldLX_eq_ldL`).
-/
namespace PV.CFGFin
open PV.CFG PV.CFGSound PV.Dec

/-- the structural context of a statement: what the exception stack of the builder looks like there -/
structure FC where
  /-- number of exception edges one `raise` creates -/
  nh : Nat
  /-- number of exception-typed propagation edges a `try … finally` placed here adds out of its `finally` block -/
  pe : Nat
  /-- some enclosing `try` has a `finally` whose body we are NOT in (pending) -/
  pf : Bool
  /-- some enclosing `try` has a `finally` at all -/
  af : Bool
  deriving Repr, DecidableEq

/-- body / handlers / `else` of a `try` WITHOUT `finally` that has `n` handlers -/
def FC.inTry (fc : FC) (n : Nat) : FC :=
  { nh := if fc.pf then 1 else (if n > 0 then n else 1), pe := if fc.af then 0 else n, pf := fc.pf, af := fc.af }
/-- body / handlers / `else` of a `try` WITH `finally`: every `raise` goes to the `finally` block -/
def FC.inFin : FC := { nh := 1, pe := 0, pf := true, af := true }
/-- the `finally` body: a `raise` behaves as before the `try` -/
def FC.finBody (fc : FC) : FC := { nh := fc.nh, pe := 0, pf := fc.pf, af := true }
/-- a definition body -/
def FC.top (nh : Nat) : FC := { nh := nh, pe := 0, pf := false, af := false }

theorem inTry_nh (fc : FC) (n : Nat) (hpf : fc.pf = false) : (fc.inTry n).nh = if n > 0 then n else 1 := by
  unfold FC.inTry
  simp only [hpf, Bool.false_eq_true, ↓reduceIte]

inductive HR | stay | raise | left
  deriving DecidableEq, Repr

-- the `decreasing_by` blocks share one `simp only [Stmt.size, sizeL]`; each needs only one of the two
set_option linter.unusedSimpArgs false in
mutual
  /-- does the builder execute a `raise` while the block that was current on entry is still current?  (`finallyPropagation` does
  not add an edge `finally → handler` that such a `raise` has created already.)
  `.raise`: yes; `.stay`: the list ends in the entry block without one; `.left`: the current block changes before any `raise` -/
  def hrL : List Stmt → HR
    | [] => .stay
    | x :: xs => match hrS x with
      | .stay => hrL xs
      | r => r
  termination_by l => 2 * sizeL l
  decreasing_by
    all_goals (try simp_wf)
    all_goals (try simp only [Stmt.size, sizeL])
    all_goals omega
  /-- a stray `except` / `case` clause is stored in the current block like a plain statement (its body is not entered), so the block
  stays current; a comprehension allocates blocks and leaves it -/
  def hrS : Stmt → HR
    | .raise .. => .raise
    | .simple _ _ _ false | .def_ .. | .handler .. | .case_ .. => .stay
    | .elsec _ _ a => hrL a
    | _ => .left
  termination_by x => 2 * x.size + 1
  decreasing_by
    all_goals (try simp_wf)
    all_goals (try simp only [Stmt.size, sizeL])
    all_goals omega
end

theorem hrL_nil : hrL [] = .stay := hrL.eq_1 ..
theorem hrL_cons (x : Stmt) (xs : List Stmt) : hrL (x :: xs) = match hrS x with | .stay => hrL xs | r => r := hrL.eq_2 ..

theorem hrS_raise (s e : Nat) : hrS (.raise s e) = .raise := hrS.eq_1 ..
theorem hrS_simple_f (s e : Nat) (c : List Bool) : hrS (.simple s e c false) = .stay := hrS.eq_2 ..
theorem hrS_simple_t (s e : Nat) (c : List Bool) : hrS (.simple s e c true) = .left := by rw [hrS] <;> (intros; simp_all)
theorem hrS_def (s e : Nat) (b : List Stmt) : hrS (.def_ s e b) = .stay := hrS.eq_3 ..
theorem hrS_elsec (s e : Nat) (b : List Stmt) : hrS (.elsec s e b) = hrL b := hrS.eq_6 ..
theorem hrS_ret (s e : Nat) (c : List Bool) (h : Bool) : hrS (.ret s e c h) = .left := by rw [hrS] <;> (intros; simp_all)
theorem hrS_brk (s e : Nat) : hrS (.brk s e) = .left := by rw [hrS] <;> (intros; simp_all)
theorem hrS_cont (s e : Nat) : hrS (.cont s e) = .left := by rw [hrS] <;> (intros; simp_all)
theorem hrS_ite (s e : Nat) (a b : List Stmt) : hrS (.ite s e a b) = .left := by rw [hrS] <;> (intros; simp_all)
theorem hrS_elifc (s e : Nat) (a b : List Stmt) : hrS (.elifc s e a b) = .left := by rw [hrS] <;> (intros; simp_all)
theorem hrS_loop (s e : Nat) (a b : List Stmt) : hrS (.loop s e a b) = .left := by rw [hrS] <;> (intros; simp_all)
theorem hrS_try (s e : Nat) (a b c d : List Stmt) : hrS (.try_ s e a b c d) = .left := by rw [hrS] <;> (intros; simp_all)
theorem hrS_with (s e : Nat) (a : List Stmt) : hrS (.with_ s e a) = .left := by rw [hrS] <;> (intros; simp_all)
theorem hrS_match (s e : Nat) (a : List Stmt) : hrS (.match_ s e a) = .left := by rw [hrS] <;> (intros; simp_all)
theorem hrS_class (s e : Nat) (a : List Stmt) : hrS (.class_ s e a) = .left := by rw [hrS] <;> (intros; simp_all)

set_option linter.unusedSimpArgs false in
mutual
  def ldLX (fc : FC) : List Stmt → Nat
    | [] => 0
    | x :: xs => ldSX fc x + (if (sxS x).ex.normal then ldLX fc xs else 0)
  termination_by l => 2 * sizeL l
  decreasing_by
    all_goals (try simp_wf)
    all_goals (try simp only [Stmt.size, sizeL])
    all_goals omega
  def ldSX (fc : FC) : Stmt → Nat
    | .simple _ _ comp hasComp | .ret _ _ comp hasComp => if hasComp then compClauses comp else 0
    | .brk .. | .cont .. | .def_ .. => 0
    | .raise .. => fc.nh
    | .ite _ _ a b | .elifc _ _ a b | .loop _ _ a b => 1 + ldLX fc a + ldLX fc b
    | .elsec _ _ a | .class_ _ _ a | .case_ _ _ a => ldLX fc a
    | .handler _ _ a => 1 + ldLX fc a
    | .with_ _ _ a => 1 + ldLX fc a
    | .match_ _ _ cs => (if cs.isEmpty then 0 else 1) + ldAltsX fc cs
    | .try_ _ _ a hs c d =>
      if d.isEmpty then
        ldLX (fc.inTry hs.length) a + ldAltsX (fc.inTry hs.length) hs + (if (sxL a).ex.normal then ldLX (fc.inTry hs.length) c else 0)
      else
        ldLX FC.inFin a + ldAltsX FC.inFin hs + (if (sxL a).ex.normal then ldLX FC.inFin c else 0) +
          ldLX fc.finBody d + (if hrL d = .raise then 0 else fc.pe)
  termination_by x => 2 * x.size + 1
  decreasing_by
    all_goals (try simp_wf)
    all_goals (try simp only [Stmt.size, sizeL])
    all_goals omega
  def ldAltsX (fc : FC) : List Stmt → Nat
    | [] => 0
    | x :: xs => ldSX fc x + ldAltsX fc xs
  termination_by l => 2 * sizeL l
  decreasing_by
    all_goals (try simp_wf)
    all_goals (try simp only [Stmt.size, sizeL])
    all_goals omega
end

/-- the live decision count of a definition body (with the true contribution of `try … finally`) -/
def ldLF (nh : Nat) (body : List Stmt) : Nat := ldLX (FC.top nh) body
def ldSF (nh : Nat) (x : Stmt) : Nat := ldSX (FC.top nh) x

theorem ldLX_nil (fc : FC) : ldLX fc [] = 0 := ldLX.eq_1 ..
theorem ldLX_cons (fc : FC) (x : Stmt) (xs : List Stmt) :
    ldLX fc (x :: xs) = ldSX fc x + (if (sxS x).ex.normal then ldLX fc xs else 0) := ldLX.eq_2 ..
theorem _root_.PV.CFGSound.ldLX_single (fc : FC) (x : Stmt) : ldLX fc [x] = ldSX fc x := by
  rw [ldLX_cons, ldLX_nil]; split <;> rfl
theorem ldAltsX_nil (fc : FC) : ldAltsX fc [] = 0 := ldAltsX.eq_1 ..
theorem ldAltsX_cons (fc : FC) (x : Stmt) (xs : List Stmt) : ldAltsX fc (x :: xs) = ldSX fc x + ldAltsX fc xs := ldAltsX.eq_2 ..
theorem ldSX_simple (fc : FC) (s e : Nat) (c : List Bool) (h : Bool) : ldSX fc (.simple s e c h) = if h then compClauses c else 0 := ldSX.eq_1 ..
theorem ldSX_ret (fc : FC) (s e : Nat) (c : List Bool) (h : Bool) : ldSX fc (.ret s e c h) = if h then compClauses c else 0 := ldSX.eq_2 ..
theorem ldSX_brk (fc : FC) (s e : Nat) : ldSX fc (.brk s e) = 0 := ldSX.eq_3 ..
theorem ldSX_cont (fc : FC) (s e : Nat) : ldSX fc (.cont s e) = 0 := ldSX.eq_4 ..
theorem ldSX_def (fc : FC) (s e : Nat) (b : List Stmt) : ldSX fc (.def_ s e b) = 0 := ldSX.eq_5 ..
theorem ldSX_raise (fc : FC) (s e : Nat) : ldSX fc (.raise s e) = fc.nh := ldSX.eq_6 ..
theorem ldSX_ite (fc : FC) (s e : Nat) (a b : List Stmt) : ldSX fc (.ite s e a b) = 1 + ldLX fc a + ldLX fc b := ldSX.eq_7 ..
theorem ldSX_elifc (fc : FC) (s e : Nat) (a b : List Stmt) : ldSX fc (.elifc s e a b) = 1 + ldLX fc a + ldLX fc b := ldSX.eq_8 ..
theorem ldSX_loop (fc : FC) (s e : Nat) (a b : List Stmt) : ldSX fc (.loop s e a b) = 1 + ldLX fc a + ldLX fc b := ldSX.eq_9 ..
theorem ldSX_elsec (fc : FC) (s e : Nat) (a : List Stmt) : ldSX fc (.elsec s e a) = ldLX fc a := ldSX.eq_10 ..
theorem ldSX_class (fc : FC) (s e : Nat) (a : List Stmt) : ldSX fc (.class_ s e a) = ldLX fc a := ldSX.eq_11 ..
theorem ldSX_case (fc : FC) (s e : Nat) (a : List Stmt) : ldSX fc (.case_ s e a) = ldLX fc a := ldSX.eq_12 ..
theorem ldSX_handler (fc : FC) (s e : Nat) (a : List Stmt) : ldSX fc (.handler s e a) = 1 + ldLX fc a := ldSX.eq_13 ..
theorem ldSX_with (fc : FC) (s e : Nat) (a : List Stmt) : ldSX fc (.with_ s e a) = 1 + ldLX fc a := ldSX.eq_14 ..
theorem ldSX_match (fc : FC) (s e : Nat) (cs : List Stmt) : ldSX fc (.match_ s e cs) = (if cs.isEmpty then 0 else 1) + ldAltsX fc cs := ldSX.eq_15 ..
theorem ldSX_try (fc : FC) (s e : Nat) (a hs c d : List Stmt) :
    ldSX fc (.try_ s e a hs c d) =
      if d.isEmpty then
        ldLX (fc.inTry hs.length) a + ldAltsX (fc.inTry hs.length) hs + (if (sxL a).ex.normal then ldLX (fc.inTry hs.length) c else 0)
      else
        ldLX FC.inFin a + ldAltsX FC.inFin hs + (if (sxL a).ex.normal then ldLX FC.inFin c else 0) +
          ldLX fc.finBody d + (if hrL d = .raise then 0 else fc.pe) := ldSX.eq_16 ..

/-- what `targetFinally` computes from the stack: the innermost pending `finally` block -/
def tfX (X : List Exc) : Option Nat := X.findSome? (fun c => if c.processingFinally then none else c.fin)
/-- what `fallbackExc` computes from the stack: the innermost context whose `finally` body is not being processed -/
def fbX (X : List Exc) : Option Exc := X.find? (fun c => !c.processingFinally)
/-- number of exception edges one `raise` creates (`procRaise`) -/
def raiseNX (X : List Exc) : Nat :=
  match tfX X with
  | some _ => 1
  | none =>
    match fbX X with
    | some c => if c.handlers.length > 0 then c.handlers.length else 1
    | none => 1
/-- `nextOuter` of `finallyPropagation` -/
def anyFin (X : List Exc) : Option Nat := X.findSome? (fun c => c.fin)
/-- number of exception-typed propagation edges of a `try … finally` processed with saved stack `X` -/
def peX (X : List Exc) : Nat :=
  match anyFin X with
  | some _ => 0
  | none =>
    match X with
    | c :: _ => c.handlers.length
    | [] => 0

/-- where a jump out of the current code goes first, IF no `finally` body that is being processed is in the way:
`none` = blocked by a processing context, `some none` = no pending `finally` (the jump reaches its own target),
`some (some f)` = the pending `finally` block `f` -/
def pendO : List Exc → Option (Option Nat)
  | [] => some none
  | c :: r => if c.processingFinally then none else match c.fin with
    | some f => some (some f)
    | none => pendO r

theorem targetFinally_eq (st : St) : targetFinally st = tfX st.excs := rfl
theorem fallbackExc_eq (st : St) : fallbackExc st = fbX st.excs := rfl

theorem tfX_cons (c : Exc) (X : List Exc) : tfX (c :: X) = (if c.processingFinally then none else c.fin).or (tfX X) := S4.tfX_cons c X
theorem anyFin_cons (c : Exc) (X : List Exc) : anyFin (c :: X) = c.fin.or (anyFin X) := S4.firstFin_cons c X

theorem pendO_spec : ∀ {X : List Exc} {o : Option Nat}, pendO X = some o → tfX X = o ∧ anyFin X = o
  | [], o, h => by cases h; exact ⟨rfl, rfl⟩
  | c :: r, o, h => by
    unfold pendO at h
    rw [tfX_cons, anyFin_cons]
    cases hp : c.processingFinally
    · rw [hp] at h
      simp only [Bool.false_eq_true, ↓reduceIte] at h ⊢
      cases hf : c.fin with
      | some f => rw [hf] at h; cases h; exact ⟨rfl, rfl⟩
      | none => rw [hf] at h; exact pendO_spec h
    · rw [hp] at h; simp at h

theorem pendO_tf {X : List Exc} {o : Option Nat} (h : pendO X = some o) : tfX X = o := (pendO_spec h).1

theorem pendO_any {X : List Exc} {o : Option Nat} (h : pendO X = some o) : anyFin X = o := (pendO_spec h).2

/-- the target of a `return`: the search of `targetFinallyRet` (`S4.tfr`) finds the first `finally` block unless it is the current one -/
theorem pendO_ret (cur : Nat) {X : List Exc} {o : Option Nat} (h : pendO X = some o) :
    (X.findSome? (fun c => match c.fin with
      | some f => if cur != f then some f else none
      | none => none)) = o ∨ o = some cur := by
  rcases S4.tfr_cases cur X with ⟨h1, h2⟩ | ⟨f0, h1, h2⟩
  · exact .inl (h2.trans (h1.symm.trans (pendO_any h)))
  · have ho : o = some f0 := (pendO_any h).symm.trans h1
    rcases h2 with rfl | h2
    · exact .inr ho
    · exact .inl (h2.trans ho.symm)

theorem pendO_cons_plain {c : Exc} {X : List Exc} (h1 : c.processingFinally = false) (h2 : c.fin = none) : pendO (c :: X) = pendO X := by
  rw [pendO, h1, h2]; simp

theorem pendO_cons_fin {c : Exc} {X : List Exc} {f : Nat} (h1 : c.processingFinally = false) (h2 : c.fin = some f) :
    pendO (c :: X) = some (some f) := by
  rw [pendO, h1, h2]; simp

/-- where the structural `break` / `continue` / `return` / `raise` of a piece of code arrive -/
structure Jmp (E : List Edge) (L : List (Nat × Nat × Nat)) (X : List Exc) (ex : Ex) : Prop where
  brk : ex.brk = true → ∀ h x d rest, L = (h, x, d) :: rest → ∀ o, pendO (X.take (X.length - d)) = some o → R E (o.getD x)
  cont : ex.cont = true → ∀ h x d rest, L = (h, x, d) :: rest → ∀ o, pendO (X.take (X.length - d)) = some o → R E (o.getD h)
  ret : ex.ret = true → ∀ o, pendO X = some o → R E (o.getD exitB)
  raise : ex.raise = true → ∀ f, pendO X = some (some f) → R E f

theorem Jmp.or {E : List Edge} {L : List (Nat × Nat × Nat)} {X : List Exc} {a b c : Ex} (ha : Jmp E L X a) (hb : Jmp E L X b)
    (h1 : c.brk = true → (a.brk || b.brk) = true) (h2 : c.cont = true → (a.cont || b.cont) = true)
    (h3 : c.ret = true → (a.ret || b.ret) = true) (h4 : c.raise = true → (a.raise || b.raise) = true) : Jmp E L X c := by
  refine ⟨fun h => ?_, fun h => ?_, fun h => ?_, fun h => ?_⟩
  · rcases Bool.or_eq_true_iff.mp (h1 h) with h | h
    · exact ha.brk h
    · exact hb.brk h
  · rcases Bool.or_eq_true_iff.mp (h2 h) with h | h
    · exact ha.cont h
    · exact hb.cont h
  · rcases Bool.or_eq_true_iff.mp (h3 h) with h | h
    · exact ha.ret h
    · exact hb.ret h
  · rcases Bool.or_eq_true_iff.mp (h4 h) with h | h
    · exact ha.raise h
    · exact hb.raise h

theorem Jmp.empty {E : List Edge} {L : List (Nat × Nat × Nat)} {X : List Exc} {a : Ex} (h1 : a.brk = false) (h2 : a.cont = false)
    (h3 : a.ret = false) (h4 : a.raise = false) : Jmp E L X a :=
  ⟨(fun h => by rw [h1] at h; cases h), (fun h => by rw [h2] at h; cases h), (fun h => by rw [h3] at h; cases h),
    (fun h => by rw [h4] at h; cases h)⟩

/-- out of a loop body: `return` / `raise` keep going, `break` / `continue` are consumed -/
theorem Jmp.dropLoop {E : List Edge} {L L' : List (Nat × Nat × Nat)} {X : List Exc} {a b : Ex} (h : Jmp E L' X a)
    (h1 : b.brk = false) (h2 : b.cont = false) (h3 : b.ret = true → a.ret = true) (h4 : b.raise = true → a.raise = true) : Jmp E L X b :=
  ⟨(fun hb => by rw [h1] at hb; cases hb), (fun hb => by rw [h2] at hb; cases hb), fun hb => h.ret (h3 hb), fun hb => h.raise (h4 hb)⟩

/-- out of the body / handlers / `else` of a `try` without `finally` -/
theorem Jmp.popPlain {E : List Edge} {L : List (Nat × Nat × Nat)} {X : List Exc} {c : Exc} {a : Ex} (h : Jmp E L (c :: X) a)
    (h1 : c.processingFinally = false) (h2 : c.fin = none) (hd : ∀ l ∈ L, l.2.2 ≤ X.length) : Jmp E L X a := by
  refine ⟨fun hb hh x d rest hl o ho => ?_, fun hb hh x d rest hl o ho => ?_, fun hb o ho => ?_, fun hb f ho => ?_⟩
  · have hdd := hd (hh, x, d) (by rw [hl]; exact List.mem_cons_self ..)
    exact h.brk hb hh x d rest hl o (by rw [take_cons_depth c X hdd, pendO_cons_plain h1 h2]; exact ho)
  · have hdd := hd (hh, x, d) (by rw [hl]; exact List.mem_cons_self ..)
    exact h.cont hb hh x d rest hl o (by rw [take_cons_depth c X hdd, pendO_cons_plain h1 h2]; exact ho)
  · exact h.ret hb o (by rw [pendO_cons_plain h1 h2]; exact ho)
  · exact h.raise hb f (by rw [pendO_cons_plain h1 h2]; exact ho)

end PV.CFGFin
