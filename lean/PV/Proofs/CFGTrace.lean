import PV.Proofs.CFGRecords
import PV.Proofs.CFGCompleteDefs
/-!
The RECORD TRACE of the builder: what a call of `procList` / `procStmt` does to the record list and the current block, as ONE
relation `Tr z k L c A L' c'` between the record list / current block before (`L`, `c`) and after (`L'`, `c'`) and the tagged lines
`A = tlL ss` of the code processed (pre-order: the builder stores the header record of a statement before the records of its parts).

Seen from the record list the builder does only two things: it stores a record in the CURRENT block, and it makes a block WITHOUT
RECORDS current (a fresh block, or one allocated earlier that has not been current yet).  `Tr` lists, line by line, which of the
two happens:
* a located statement that is no `if` (tag 1): one record `s..e` in the current block (`one`), for a comprehension preceded by further
  records `s..e` (`more`);
* the test of an `if` (tag 0, recorded `s..e`) or of an `elif` clause (tag 2, recorded `0..0`): one record in the current block, and
  then a block without records becomes current (`test`) — so a test is the newest record of its block for ever; the test of an
  `elif` clause that continues a chain is moreover stored in a block without records (`z`: on the fragment `noSEL` every `elif` is one);
* at any time a block without records may become current (`move`);
* a tagged line is skipped only outside the fragment `okLC` (`k`: the body of a stray `except` / `case` clause is not processed).
Spans (`C01_ranges_spans`), `ZF`, `JP`/`NW`, `GC` and coverage (`procList_covers`) are read off `Tr` by induction over ITS six rules.
-/
namespace PV.CFGSound
open PV.CFG PV.SD

/-- the test of the tagged line `x` is recorded with the span `rs..re`: an `if` with its own span, an `elif` clause with `0..0` -/
def TestOK (x : TLine) (rs re : Nat) : Prop := x = (rs, re, 0) ∨ (x.2.2 = 2 ∧ rs = 0 ∧ re = 0)

inductive Tr (z k : Bool) : List SRec → Nat → List TLine → List SRec → Nat → Prop
  | nil (L : List SRec) (c : Nat) : Tr z k L c [] L c
  | move {L c c₁ A L' c'} : NoRec L c₁ → Tr z k L c₁ A L' c' → Tr z k L c A L' c'
  | skip {L c x A L' c'} : k = false → Tr z k L c A L' c' → Tr z k L c (x :: A) L' c'
  | one {L c s e ty A L' c'} : Tr z k ({ blk := c, s := s, e := e, ty := ty } :: L) c A L' c' → Tr z k L c ((s, e, 1) :: A) L' c'
  | more {L c s e ty A L' c'} :
      Tr z k ({ blk := c, s := s, e := e, ty := ty } :: L) c ((s, e, 1) :: A) L' c' → Tr z k L c ((s, e, 1) :: A) L' c'
  | test {L c x rs re ty c₁ A L' c'} : TestOK x rs re → (z = true → x.2.2 = 2 → NoRec L c) →
      NoRec ({ blk := c, s := rs, e := re, ty := ty } :: L) c₁ → Tr z k ({ blk := c, s := rs, e := re, ty := ty } :: L) c₁ A L' c' →
      Tr z k L c (x :: A) L' c'

theorem tag1_ne : (1 : Nat) ≠ 2 := by decide
theorem tag0_ne : (0 : Nat) ≠ 2 := by decide

section tr
variable {z k : Bool} {L L' L'' : List SRec} {c c' c'' : Nat} {A B : List TLine}

theorem Tr.append (h : Tr z k L c A L' c') (h' : Tr z k L' c' B L'' c'') : Tr z k L c (A ++ B) L'' c'' := by
  induction h with
  | nil => exact h'
  | move hn _ ih => exact .move hn (ih h')
  | skip hk _ ih => exact .skip hk (ih h')
  | one _ ih => exact .one (ih h')
  | more _ ih => exact .more (ih h')
  | test ht hz hn _ ih => exact .test ht hz hn (ih h')

theorem Tr.moveEnd (h : Tr z k L c A L' c') (hn : NoRec L' c'') : Tr z k L c A L' c'' := by
  have := h.append (.move hn (.nil L' c''))
  rwa [List.append_nil] at this

/-- the records of one line in blocks of their own (a comprehension): `ns` newest first, in ascending blocks `≥ n` -/
def Fresh (s e n : Nat) (ns : List SRec) : Prop := ns.Pairwise (fun a b => b.blk < a.blk) ∧ ∀ x ∈ ns, x.s = s ∧ x.e = e ∧ n ≤ x.blk

theorem Fresh.append {s e n m : Nat} {ns ns' : List SRec} (h' : Fresh s e m ns') (h : Fresh s e n ns) (hlt : ∀ x ∈ ns, x.blk < m)
    (hnm : n ≤ m) : Fresh s e n (ns' ++ ns) := by
  refine ⟨List.pairwise_append.mpr ⟨h'.1, h.1, fun a ha b hb => Nat.lt_of_lt_of_le (hlt b hb) (h'.2 a ha).2.2⟩, ?_⟩
  intro x hx
  rcases List.mem_append.mp hx with hx | hx
  · exact ⟨(h'.2 x hx).1, (h'.2 x hx).2.1, Nat.le_trans hnm (h'.2 x hx).2.2⟩
  · exact h.2 x hx

/-- such records go in front of whatever follows for the same line, if that begins by making a block current -/
theorem Tr.batch {s e n : Nat} (hL : ∀ x ∈ L, x.blk < n) : ∀ {ns : List SRec} {c : Nat}, Fresh s e n ns →
    (∀ c₁, Tr z k (ns ++ L) c₁ ((s, e, 1) :: A) L' c') → Tr z k L c ((s, e, 1) :: A) L' c'
  | [], c, _, h => h c
  | r :: ns, c, hf, h => by
    obtain ⟨hp, hr⟩ := List.pairwise_cons.mp hf.1
    obtain ⟨rfl, rfl, hn⟩ := hf.2 r (List.mem_cons_self ..)
    refine Tr.batch hL ⟨hr, fun x hx => hf.2 x (List.mem_cons_of_mem _ hx)⟩ (fun _ => .move (c₁ := r.blk) ?_ (.more (ty := r.ty) (h r.blk)))
    intro x hx
    rcases List.mem_append.mp hx with hx | hx
    · exact Nat.ne_of_lt (hp x hx)
    · exact Nat.ne_of_lt (Nat.lt_of_lt_of_le (hL x hx) hn)

/-- the new records: each carries `0..0` or the span of a located line of `A`; on the fragment every located line of `A` has one -/
theorem Tr.ext (h : Tr z k L c A L' c') : ∃ ns, L' = ns ++ L ∧
    (∀ r ∈ ns, (r.s = 0 ∧ r.e = 0) ∨ ∃ x ∈ A, x.2.2 ≠ 2 ∧ r.s = x.1 ∧ r.e = x.2.1) ∧
    (k = true → ∀ x ∈ A, x.2.2 ≠ 2 → ∃ r ∈ ns, r.s = x.1 ∧ r.e = x.2.1) := by
  induction h with
  | nil => exact ⟨[], rfl, fun _ h => (by cases h), fun _ _ h => (by cases h)⟩
  | move _ _ ih => exact ih
  | skip hk _ ih =>
    obtain ⟨ns, e1, h1, _⟩ := ih
    refine ⟨ns, e1, fun r hr => (h1 r hr).imp id (fun ⟨x, hx, h⟩ => ⟨x, List.mem_cons_of_mem _ hx, h⟩), fun hk' => ?_⟩
    rw [hk] at hk'; cases hk'
  | @one L c s e ty A L' c' _ ih =>
    obtain ⟨ns, e1, h1, h2⟩ := ih
    refine ⟨ns ++ [{ blk := c, s := s, e := e, ty := ty }], by rw [e1, List.append_assoc]; rfl, ?_, ?_⟩
    · intro r hr
      rcases List.mem_append.mp hr with hr | hr
      · exact (h1 r hr).imp id (fun ⟨x, hx, h⟩ => ⟨x, List.mem_cons_of_mem _ hx, h⟩)
      · rw [List.mem_singleton.mp hr]; exact .inr ⟨_, List.mem_cons_self .., tag1_ne, rfl, rfl⟩
    · intro hk x hx ht
      rcases List.mem_cons.mp hx with rfl | hx
      · exact ⟨_, List.mem_append.mpr (.inr (List.mem_singleton.mpr rfl)), rfl, rfl⟩
      · obtain ⟨r, hr, h⟩ := h2 hk x hx ht
        exact ⟨r, List.mem_append.mpr (.inl hr), h⟩
  | @more L c s e ty A L' c' _ ih =>
    obtain ⟨ns, e1, h1, h2⟩ := ih
    refine ⟨ns ++ [{ blk := c, s := s, e := e, ty := ty }], by rw [e1, List.append_assoc]; rfl, ?_, ?_⟩
    · intro r hr
      rcases List.mem_append.mp hr with hr | hr
      · exact h1 r hr
      · rw [List.mem_singleton.mp hr]; exact .inr ⟨_, List.mem_cons_self .., tag1_ne, rfl, rfl⟩
    · intro hk x hx ht
      obtain ⟨r, hr, h⟩ := h2 hk x hx ht
      exact ⟨r, List.mem_append.mpr (.inl hr), h⟩
  | @test L c x rs re ty c₁ A L' c' ht _ _ _ ih =>
    obtain ⟨ns, e1, h1, h2⟩ := ih
    refine ⟨ns ++ [{ blk := c, s := rs, e := re, ty := ty }], by rw [e1, List.append_assoc]; rfl, ?_, ?_⟩
    · intro r hr
      rcases List.mem_append.mp hr with hr | hr
      · exact (h1 r hr).imp id (fun ⟨x, hx, h⟩ => ⟨x, List.mem_cons_of_mem _ hx, h⟩)
      · rw [List.mem_singleton.mp hr]
        rcases ht with rfl | ⟨_, rfl, rfl⟩
        · exact .inr ⟨_, List.mem_cons_self .., tag0_ne, rfl, rfl⟩
        · exact .inl ⟨rfl, rfl⟩
    · intro hk y hy hty
      rcases List.mem_cons.mp hy with rfl | hy
      · rcases ht with rfl | ⟨h2', _, _⟩
        · exact ⟨_, List.mem_append.mpr (.inr (List.mem_singleton.mpr rfl)), rfl, rfl⟩
        · exact absurd h2' hty
      · obtain ⟨r, hr, h⟩ := h2 hk y hy hty
        exact ⟨r, List.mem_append.mpr (.inl hr), h⟩

/-- `ZF`: a record with end line 0 is the oldest of its block, if no located line ends at 0 and `elif` tests open their blocks -/
theorem Tr.zf (h : Tr true k L c A L' c') (hnz : ∀ x ∈ A, x.2.2 ≠ 2 → x.2.1 ≠ 0) (hz : ZF L) : ZF L' := by
  induction h with
  | nil => exact hz
  | move _ _ ih => exact ih hnz hz
  | skip _ _ ih => exact ih (fun x hx => hnz x (List.mem_cons_of_mem _ hx)) hz
  | one _ ih =>
    exact ih (fun x hx => hnz x (List.mem_cons_of_mem _ hx)) (hz.add_nz (hnz _ (List.mem_cons_self ..) tag1_ne))
  | more _ ih => exact ih hnz (hz.add_nz (hnz _ (List.mem_cons_self ..) tag1_ne))
  | test ht hf _ _ ih =>
    refine ih (fun x hx => hnz x (List.mem_cons_of_mem _ hx)) (hz.add_test ?_)
    rcases ht with rfl | ⟨h2, _, _⟩
    · exact .inl (hnz _ (List.mem_cons_self ..) tag0_ne)
    · exact .inr (hf rfl h2)

/-- `GC`: the records of a block are consecutive and a record with end line 0 is the newest of its block, if no located line that is
not an `if` ends at 0 -/
theorem Tr.gc (h : Tr z k L c A L' c') (hnz : ∀ x ∈ A, x.2.2 = 1 → x.2.1 ≠ 0) (hg : GC L c) : GC L' c' := by
  induction h with
  | nil => exact hg
  | move hn _ ih => exact ih hnz (GC.fresh hg.gz hn)
  | skip _ _ ih => exact ih (fun x hx => hnz x (List.mem_cons_of_mem _ hx)) hg
  | one _ ih => exact ih (fun x hx => hnz x (List.mem_cons_of_mem _ hx)) (hg.add_cur (hnz _ (List.mem_cons_self ..) rfl))
  | more _ ih => exact ih hnz (hg.add_cur (hnz _ (List.mem_cons_self ..) rfl))
  | test _ _ hn _ ih => exact ih (fun x hx => hnz x (List.mem_cons_of_mem _ hx)) (GC.fresh hg.gz_add_cur hn)

/-- `JP`: if the only line of `A` that starts at `t ≠ 0` is an `if` statement `t … e`, every record that starts at `t` ends at `e` and
stays the newest of its block, and none is in the current block -/
theorem Tr.jp {t e : Nat} (h : Tr z k L c A L' c') (ht : t ≠ 0) (hu : UT t e A) (hn : NW t e L) (hc : NoT t L c) :
    NW t e L' ∧ NoT t L' c' := by
  induction h with
  | nil => exact ⟨hn, hc⟩
  | move hm _ ih => exact ih hu hn (NoT.of_norec hm)
  | skip _ _ ih => exact ih hu.tail hn hc
  | one _ ih => exact ih hu.tail (hn.add hc (fun hh => absurd hh hu.head1)) (hc.cons (fun hh => absurd hh hu.head1))
  | more _ ih => exact ih hu (hn.add hc (fun hh => absurd hh hu.head1)) (hc.cons (fun hh => absurd hh hu.head1))
  | test hx _ hm _ ih =>
    refine ih hu.tail (hn.add hc ?_) (NoT.of_norec hm)
    rcases hx with rfl | ⟨_, rfl, rfl⟩
    · exact hu.head0
    · exact fun hh => absurd hh.symm ht
end tr

/-! ### `spansL`, `linesOfL`, `elifL` are projections of `tlL` -/
def spanOf (x : TLine) : Option (Nat × Nat) := if x.2.2 = 2 then none else some (x.1, x.2.1)
def elifOf (x : TLine) : Option Nat := if x.2.2 = 2 then some x.1 else none

structure Proj (T : List TLine) (sp : List (Nat × Nat)) (ls el : List Nat) : Prop where
  sp : sp = T.filterMap spanOf
  ls : ls = T.map (·.1)
  el : el = T.filterMap elifOf

theorem Proj.nil : Proj [] [] [] [] := ⟨rfl, rfl, rfl⟩
theorem Proj.app {T U sp sp' ls ls' el el'} (h : Proj T sp ls el) (h' : Proj U sp' ls' el') : Proj (T ++ U) (sp ++ sp') (ls ++ ls') (el ++ el') :=
  ⟨by rw [h.sp, h'.sp, List.filterMap_append], by rw [h.ls, h'.ls, List.map_append], by rw [h.el, h'.el, List.filterMap_append]⟩
theorem Proj.hdr {T sp ls el} (h : Proj T sp ls el) (s e : Nat) {tag : Nat} (ht : tag ≠ 2) : Proj ((s, e, tag) :: T) ((s, e) :: sp) (s :: ls) el :=
  ⟨by rw [h.sp, List.filterMap_cons]; simp only [spanOf, if_neg ht], by rw [h.ls, List.map_cons],
   by rw [h.el, List.filterMap_cons]; simp only [elifOf, if_neg ht]⟩
theorem Proj.elif {T sp ls el} (h : Proj T sp ls el) (s e : Nat) : Proj ((s, e, 2) :: T) sp (s :: ls) (s :: el) :=
  ⟨by rw [h.sp, List.filterMap_cons]; rfl, by rw [h.ls, List.map_cons], by rw [h.el, List.filterMap_cons]; rfl⟩

theorem proj_all : (∀ x : Stmt, Proj (tlS x) (spansS x) (linesOf x) (elifS x)) ∧ (∀ ss, Proj (tlL ss) (spansL ss) (linesOfL ss) (elifL ss)) := by
  have leaf : ∀ s e : Nat, Proj [(s, e, 1)] [(s, e)] [s] [] := fun s e => Proj.nil.hdr s e tag1_ne
  refine stmt_rs_ind ?_ ?_ ?_ ?_ ?_ ?_ ?_ ?_ ?_ ?_ ?_ ?_ ?_ ?_ ?_ ?_ ?_ ?_
  · intro s e c h; rw [tlS_simple, spansS_simple, linesOf_simple, elifS]; exact leaf s e
  · intro s e c h; rw [tlS_ret, spansS_ret, linesOf_ret, elifS]; exact leaf s e
  · intro s e; rw [tlS_brk, spansS_brk, linesOf_brk, elifS]; exact leaf s e
  · intro s e; rw [tlS_cont, spansS_cont, linesOf_cont, elifS]; exact leaf s e
  · intro s e; rw [tlS_raise, spansS_raise, linesOf_raise, elifS]; exact leaf s e
  · intro s e a b ha hb; rw [tlS_ite, spansS_ite, linesOf_ite, elifS_ite]; exact (ha.app hb).hdr s e tag0_ne
  · intro s e a b ha hb; rw [tlS_elifc, spansS_elifc, linesOf_elifc, elifS_elifc]; exact (ha.app hb).elif s e
  · intro s e a ha; rw [tlS_elsec, spansS_elsec, linesOf_elsec, elifS_elsec]; exact ha
  · intro s e a b ha hb; rw [tlS_loop, spansS_loop, linesOf_loop, elifS_loop]; exact (ha.app hb).hdr s e tag1_ne
  · intro s e a hs c d ha hh hc hd; rw [tlS_try, spansS_try, linesOf_try, elifS_try]; exact ((ha.app hh).app hc).app hd
  · intro s e a ha; rw [tlS_handler, spansS_handler, linesOf_handler, elifS_handler]; exact ha.hdr s e tag1_ne
  · intro s e a ha; rw [tlS_with, spansS_with, linesOf_with, elifS_with]; exact ha.hdr s e tag1_ne
  · intro s e a ha; rw [tlS_match, spansS_match, linesOf_match, elifS_match]; exact ha.hdr s e tag1_ne
  · intro s e a ha; rw [tlS_case, spansS_case, linesOf_case, elifS_case]; exact ha.hdr s e tag1_ne
  · intro s e a; rw [tlS_def, spansS_def, linesOf_def, elifS]; exact leaf s e
  · intro s e a ha; rw [tlS_class, spansS_class, linesOf_class, elifS_class]; exact ha.hdr s e tag1_ne
  · rw [tlL_nil, spansL_nil, linesOfL_nil, elifL_nil]; exact Proj.nil
  · intro x xs hx hxs; rw [tlL_cons, spansL_cons, linesOfL_cons, elifL_cons]; exact hx.app hxs

section proj
variable {T : List TLine} {sp : List (Nat × Nat)} {ls el : List Nat}
theorem Proj.span_mem (h : Proj T sp ls el) {x : TLine} (hx : x ∈ T) (ht : x.2.2 ≠ 2) : (x.1, x.2.1) ∈ sp := by
  rw [h.sp]; exact List.mem_filterMap.mpr ⟨x, hx, by simp only [spanOf, if_neg ht]⟩
theorem Proj.of_span (h : Proj T sp ls el) {p : Nat × Nat} (hp : p ∈ sp) : ∃ x ∈ T, x.2.2 ≠ 2 ∧ p = (x.1, x.2.1) := by
  rw [h.sp] at hp
  obtain ⟨x, hx, he⟩ := List.mem_filterMap.mp hp
  unfold spanOf at he
  split at he
  · cases he
  · next ht => exact ⟨x, hx, ht, (Option.some.inj he).symm⟩
theorem Proj.of_line (h : Proj T sp ls el) {l : Nat} (hl : l ∈ ls) : ∃ x ∈ T, x.1 = l ∧ (x.2.2 = 2 → l ∈ el) := by
  rw [h.ls] at hl
  obtain ⟨x, hx, rfl⟩ := List.mem_map.mp hl
  exact ⟨x, hx, rfl, fun ht => by rw [h.el]; exact List.mem_filterMap.mpr ⟨x, hx, by simp only [elifOf, if_pos ht]⟩⟩
theorem Proj.of_elif (h : Proj T sp ls el) {l : Nat} (hl : l ∈ el) : ∃ e, (l, e, 2) ∈ T := by
  rw [h.el] at hl
  obtain ⟨⟨s, e, tag⟩, hx, he⟩ := List.mem_filterMap.mp hl
  unfold elifOf at he
  split at he
  · next ht => cases ht; cases he; exact ⟨e, hx⟩
  · cases he
end proj

end PV.CFGSound
