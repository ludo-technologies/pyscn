import PV.Proofs.CFGComplexityScheme
/-!
Property C03 for the CFG mirror — what the walk over the builder's calls uses about single states: the count of a comprehension;
`Grow` (what a piece of the builder adds: the growth of the count together with the targets of the live new edges, one rule per kind of
step, so that a case of the walk is one chain) and `End` (the block a piece of code ends in, live or dead); the end of a terminator,
targets seen from inside and outside the context that a `try` pushes, the blocks a `try` allocates, the builder state of a definition.
-/
namespace PV.CFGSound
open PV.CFG PV.Dec PV.CFGFin

section
variable {E : List Edge}

theorem compClauses_nil : compClauses [] = 0 := rfl
theorem compClauses_false (rest : List Bool) : compClauses (false :: rest) = compClauses rest + 1 := by
  simp [compClauses]; omega
theorem compClauses_true (rest : List Bool) : compClauses (true :: rest) = compClauses rest + 2 := by
  simp [compClauses]; omega

/-- one clause without a filter -/
def goN (st : St) (s e cp : Nat) : St :=
  ((bump (((bump (((bump st).edge cp st.next .normal).add st.next s e .other)).edge st.next (st.next + 1) .condT).add
    (st.next + 1) s e .other)).edge (st.next + 1) (st.next + 2) .normal).edge (st.next + 2) st.next .loop

/-- one clause with a filter -/
def goF (st : St) (s e cp : Nat) : St :=
  ((bump ((((bump ((bump (((bump st).edge cp st.next .normal).add st.next s e .other)).edge st.next (st.next + 1) .condT)).edge
    (st.next + 1) (st.next + 2) .normal).add (st.next + 2) s e .other))).edge (st.next + 2) (st.next + 3) .condT |>.edge (st.next + 2) st.next .condF
      |>.add (st.next + 3) s e .other).edge (st.next + 3) st.next .loop

theorem go_cons' (s e : Nat) (b : Bool) (rest : List Bool) (st : St) (cp : Nat) :
    procComp.go s e (b :: rest) st cp = procComp.go s e rest (if b then goF st s e cp else goN st s e cp) st.next := by
  rw [go_cons]; cases b <;> rfl

theorem goN_edges (st : St) (s e cp : Nat) : (goN st s e cp).edges =
    (st.next + 2, st.next, .loop) :: (st.next + 1, st.next + 2, .normal) :: (st.next, st.next + 1, .condT) :: (cp, st.next, .normal) :: st.edges := rfl
theorem goN_next (st : St) (s e cp : Nat) : (goN st s e cp).next = st.next + 3 := rfl
theorem goF_edges (st : St) (s e cp : Nat) : (goF st s e cp).edges =
    (st.next + 3, st.next, .loop) :: (st.next + 2, st.next, .condF) :: (st.next + 2, st.next + 3, .condT) :: (st.next + 1, st.next + 2, .normal) ::
      (st.next, st.next + 1, .condT) :: (cp, st.next, .normal) :: st.edges := rfl
theorem goF_next (st : St) (s e cp : Nat) : (goF st s e cp).next = st.next + 4 := rfl

theorem go_sub (s e : Nat) : ∀ (cs : List Bool) (st : St) (cp : Nat), ∀ x ∈ st.edges, x ∈ (procComp.go s e cs st cp).1.edges
  | [], st, cp, x, h => by rw [go_nil]; exact h
  | b :: rest, st, cp, x, h => by
    rw [go_cons']
    apply go_sub s e rest
    cases b
    · simp only [Bool.false_eq_true, ↓reduceIte, goN_edges]; simp [h]
    · simp only [↓reduceIte, goF_edges]; simp [h]

theorem goN_cnt {st : St} {s e cp : Nat} (hsrc : ∀ x ∈ st.edges, x.1 < st.next) (hcp : cp < st.next) (hr : R E cp)
    (hmem : ∀ x ∈ (goN st s e cp).edges, x ∈ E) :
    cnt (rE E) (goN st s e cp).edges = cnt (rE E) st.edges + 1 ∧ R E st.next := by
  have r1 : R E st.next := R.step hr (hmem (cp, st.next, .normal) (by rw [goN_edges]; simp only [List.mem_cons, true_or, or_true]))
  refine ⟨?_, r1⟩
  rw [goN_edges, cnt_cons_plain isCond_loop loop_ne_exc, cnt_cons_plain isCond_normal normal_ne_exc,
    cnt_cons_cond_new (rE_true.mpr r1) (by rfl) ?_, cnt_cons_plain isCond_normal normal_ne_exc]
  intro x hx
  rcases List.mem_cons.mp hx with rfl | hx
  · exact Nat.ne_of_lt hcp
  · exact Nat.ne_of_lt (hsrc x hx)

theorem goF_cnt {st : St} {s e cp : Nat} (hsrc : ∀ x ∈ st.edges, x.1 < st.next) (hcp : cp < st.next) (hr : R E cp)
    (hmem : ∀ x ∈ (goF st s e cp).edges, x ∈ E) :
    cnt (rE E) (goF st s e cp).edges = cnt (rE E) st.edges + 2 ∧ R E st.next := by
  have r1 : R E st.next := R.step hr (hmem (cp, st.next, .normal) (by rw [goF_edges]; simp only [List.mem_cons, true_or, or_true]))
  have r2 : R E (st.next + 1) := R.step r1 (hmem (st.next, st.next + 1, .condT) (by rw [goF_edges]; simp only [List.mem_cons, true_or, or_true]))
  have r3 : R E (st.next + 2) := R.step r2 (hmem (st.next + 1, st.next + 2, .normal) (by rw [goF_edges]; simp only [List.mem_cons, true_or, or_true]))
  refine ⟨?_, r1⟩
  rw [goF_edges, cnt_cons_plain isCond_loop loop_ne_exc,
    cnt_cons_cond_old (b' := st.next + 3) (t' := .condT) (by rfl) (List.mem_cons_self ..) (by rfl),
    cnt_cons_cond_new (rE_true.mpr r3) (by rfl) ?_, cnt_cons_plain isCond_normal normal_ne_exc,
    cnt_cons_cond_new (rE_true.mpr r1) (by rfl) ?_, cnt_cons_plain isCond_normal normal_ne_exc]
  · intro x hx
    rcases List.mem_cons.mp hx with rfl | hx
    · exact Nat.ne_of_lt hcp
    · exact Nat.ne_of_lt (hsrc x hx)
  · intro x hx
    rcases List.mem_cons.mp hx with rfl | hx
    · exact Nat.ne_of_lt (Nat.lt_succ_self _)
    rcases List.mem_cons.mp hx with rfl | hx
    · exact Nat.ne_of_lt (Nat.lt_add_of_pos_right (Nat.succ_pos 1))
    rcases List.mem_cons.mp hx with rfl | hx
    · exact Nat.ne_of_lt (Nat.lt_add_right 2 hcp)
    · exact Nat.ne_of_lt (Nat.lt_add_right 2 (hsrc x hx))

theorem go_cnt (s e : Nat) : ∀ (cs : List Bool) (st : St) (cp : Nat),
    (∀ x ∈ st.edges, x.1 < st.next) → cp < st.next → (∀ x ∈ (procComp.go s e cs st cp).1.edges, x ∈ E) → R E cp →
    cnt (rE E) (procComp.go s e cs st cp).1.edges = cnt (rE E) st.edges + compClauses cs ∧
    R E (procComp.go s e cs st cp).2 ∧
    ((procComp.go s e cs st cp).2 = cp ∨ (st.next ≤ (procComp.go s e cs st cp).2 ∧
      ∃ b, ((procComp.go s e cs st cp).2, b, ETy.condT) ∈ (procComp.go s e cs st cp).1.edges))
  | [], st, cp, _, _, _, hr => by
    rw [go_nil]
    exact ⟨rfl, hr, .inl rfl⟩
  | b :: rest, st, cp, hsrc, hcp, hmem, hr => by
    -- the third conjunct: the block the walk ends in has a `condT` edge already, so the closing `condF` edge of `comp_cnt'` is no new source
    rw [go_cons'] at hmem ⊢
    cases b
    · simp only [Bool.false_eq_true, ↓reduceIte] at hmem ⊢
      have hsub := go_sub s e rest (goN st s e cp) st.next
      have h03 : st.next < st.next + 3 := Nat.lt_add_of_pos_right (Nat.succ_pos 2)
      obtain ⟨c1, r1⟩ := goN_cnt (s := s) (e := e) hsrc hcp hr (fun x hx => hmem x (hsub x hx))
      have hsrc' : ∀ x ∈ (goN st s e cp).edges, x.1 < (goN st s e cp).next := by
        intro x hx
        rw [goN_edges] at hx
        rw [goN_next]
        simp only [List.mem_cons] at hx
        rcases hx with rfl | rfl | rfl | rfl | hx
        · exact Nat.lt_succ_self _
        · exact Nat.lt_add_right 1 (Nat.lt_succ_self _)
        · exact h03
        · exact Nat.lt_add_right 3 hcp
        · exact Nat.lt_add_right 3 (hsrc x hx)
      obtain ⟨ic, ir, id⟩ := go_cnt s e rest (goN st s e cp) st.next hsrc' (by rw [goN_next]; exact h03) hmem r1
      refine ⟨by rw [ic, c1, compClauses_false]; omega, ir, .inr ?_⟩
      rcases id with id | ⟨id1, b, id2⟩
      · rw [id]
        exact ⟨Nat.le_refl _, st.next + 1, hsub _ (by rw [goN_edges]; simp only [List.mem_cons, true_or, or_true])⟩
      · rw [goN_next] at id1
        exact ⟨Nat.le_trans (Nat.le_of_lt h03) id1, b, id2⟩
    · simp only [↓reduceIte] at hmem ⊢
      have hsub := go_sub s e rest (goF st s e cp) st.next
      have h04 : st.next < st.next + 4 := Nat.lt_add_of_pos_right (Nat.succ_pos 3)
      obtain ⟨c1, r1⟩ := goF_cnt (s := s) (e := e) hsrc hcp hr (fun x hx => hmem x (hsub x hx))
      have hsrc' : ∀ x ∈ (goF st s e cp).edges, x.1 < (goF st s e cp).next := by
        intro x hx
        rw [goF_edges] at hx
        rw [goF_next]
        simp only [List.mem_cons] at hx
        rcases hx with rfl | rfl | rfl | rfl | rfl | rfl | hx
        · exact Nat.lt_succ_self _
        · exact Nat.lt_add_right 1 (Nat.lt_succ_self _)
        · exact Nat.lt_add_right 1 (Nat.lt_succ_self _)
        · exact Nat.lt_add_right 2 (Nat.lt_succ_self _)
        · exact h04
        · exact Nat.lt_add_right 4 hcp
        · exact Nat.lt_add_right 4 (hsrc x hx)
      obtain ⟨ic, ir, id⟩ := go_cnt s e rest (goF st s e cp) st.next hsrc' (by rw [goF_next]; exact h04) hmem r1
      refine ⟨by rw [ic, c1, compClauses_true]; omega, ir, .inr ?_⟩
      rcases id with id | ⟨id1, b, id2⟩
      · rw [id]
        exact ⟨Nat.le_refl _, st.next + 1, hsub _ (by rw [goF_edges]; simp only [List.mem_cons, true_or, or_true])⟩
      · rw [goF_next] at id1
        exact ⟨Nat.le_trans (Nat.le_of_lt h04) id1, b, id2⟩

/-- only the fact that the edges of the final state are in `E` is needed (`comp_cnt` takes a `Fut`) -/
theorem comp_cnt' (st : St) (s e : Nat) (comp : List Bool) (w : WF st) (hmem : ∀ x ∈ (procComp st s e comp).edges, x ∈ E)
    (he : EntryC E st) :
    cnt (rE E) (procComp st s e comp).edges = cnt (rE E) st.edges + compClauses comp ∧ EntryC E (procComp st s e comp) ∧
    LTI E (fun t => st.next ≤ t) st (procComp st s e comp) := by
  have hcur := w.cur
  have i1 := (stmtBlock_inv (c := st.cur) (n := st.next) w (.inl rfl) (Nat.le_refl _) s e).bump
  -- from the block `st.next` on, the comprehension is framed by that block and the blocks it allocates: `st.next + 1` stays untouched
  have hcalm : Calm (procComp st s e comp) (st.next + 1) :=
    ((comp_tail_frame (c := st.next) (n := st.next + 2) st s e comp i1.wf (.inl rfl) (Nat.le_refl _)).1.untouched
      (Nat.ne_of_gt (Nat.lt_succ_self _)) (Nat.lt_succ_self _) (by untt [w.untouched (m := st.next + 1) (Nat.le_succ _)])).calm
  suffices h : cnt (rE E) (procComp st s e comp).edges = cnt (rE E) st.edges + compClauses comp ∧ R E (procComp st s e comp).cur from
    ⟨h.1, ⟨h.2, hcalm⟩, (comp_T (fun _ h => h) (TS.refl' _ st) s e comp).ti.lti⟩
  rw [procComp_eq] at hmem ⊢
  simp only at hmem ⊢
  have hm1 : ∀ x ∈ (procComp.go s e comp (bump (((bump st).edge st.cur st.next .normal).add st.next s e .other)) st.next).1.edges, x ∈ E := by
    intro x hx
    split at hmem <;> exact hmem x (List.mem_cons_of_mem _ hx)
  have hsub := go_sub s e comp (bump (((bump st).edge st.cur st.next .normal).add st.next s e .other)) st.next
  have r1 : R E st.next := R.step he.reach (hm1 (st.cur, st.next, .normal) (hsub _ (by simp)))
  obtain ⟨ic, ir, id⟩ := go_cnt s e comp _ st.next (fun x hx => (i1.wf.edges x hx).1) (Nat.lt_add_of_pos_right (Nat.succ_pos 1)) hm1 r1
  have hc0 : cnt (rE E) (bump (((bump st).edge st.cur st.next .normal).add st.next s e .other)).edges = cnt (rE E) st.edges :=
    cnt_cons_plain isCond_normal normal_ne_exc
  simp only [bump_next, add_next, edge_next] at id
  generalize procComp.go s e comp (bump (((bump st).edge st.cur st.next .normal).add st.next s e .other)) st.next = r at *
  split
  · next hne =>
    have hne : r.2 ≠ st.next := by simpa using hne
    rcases id with id | ⟨id1, b, id2⟩
    · exact absurd id hne
    refine ⟨?_, R.step ir (hmem (r.2, st.next + 1, .condF) (by rw [if_pos (by simpa using hne)]; simp))⟩
    simp only [setCur_edges, edge_edges]
    rw [cnt_cons_cond_old (by rfl) id2 (by rfl), ic, hc0]
  · next hne =>
    have heq : r.2 = st.next := by simpa using hne
    rw [heq] at ir
    refine ⟨?_, R.step ir (hmem (st.next, st.next + 1, .normal) (by rw [if_neg hne]; simp))⟩
    simp only [setCur_edges, edge_edges]
    rw [cnt_cons_plain isCond_normal normal_ne_exc, ic, hc0]

theorem comp_cnt (st : St) (s e : Nat) (comp : List Bool) (w : WF st)
    (hf : Fut E st.next (procComp st s e comp).next (procComp st s e comp)) (he : EntryC E st) :
    cnt (rE E) (procComp st s e comp).edges = cnt (rE E) st.edges + compClauses comp ∧ EntryC E (procComp st s e comp) ∧
    LTI E (fun t => st.next ≤ t) st (procComp st s e comp) :=
  comp_cnt' st s e comp w (fun _ hx => hf.mem hx) he

/-- the block `a` in which a piece of code ended: reachable and calm if the code can fall through (`live`), unreachable otherwise -/
structure End (E : List Edge) (s : St) (a : Nat) (live : Bool) : Prop where
  on : live = true → R E a ∧ Calm s a
  off : live = false → ¬ R E a

structure Grow (E : List Edge) (G : Nat → Prop) (s0 s : St) (n : Nat) : Prop where
  cnt : cnt (rE E) s.edges = cnt (rE E) s0.edges + n
  tgt : LTI E G s0 s

section grow
variable {S : Sch} {G G' : Nat → Prop} {s0 s s' : St} {a b m n k : Nat} {t : ETy} {live : Bool}

theorem PostG.end_ {st st' : St} {ex : Ex} (h : PostG S E st st' ex n) : End E st' st'.cur ex.normal :=
  ⟨fun hn => ⟨(h.normal hn).reach, (h.normal hn).calm⟩, h.dead⟩

theorem End.step (h : End E s a live) (hE : ∀ e ∈ (s.edgeUnlessExit a m t).edges, e ∈ E) (hl : live = true) : R E m :=
  R.step (h.on hl).1 (hE _ (h.on hl).2.eue_self)

theorem End.live_of_reach (h : End E s a live) (hr : R E a) : live = true := by
  cases hl : live
  · exact absurd hr (h.off hl)
  · rfl

theorem End.eq (h : End E s a live) (he : s'.edges = s.edges) (hs : s'.stmts = s.stmts) : End E s' a live :=
  ⟨fun hl => ⟨(h.on hl).1, (h.on hl).2.congr he hs⟩, h.off⟩

theorem End.eue (h : End E s b live) (hab : a ≠ b) : End E (s.edgeUnlessExit a m t) b live :=
  ⟨fun hl => ⟨(h.on hl).1, (h.on hl).2.eue hab⟩, h.off⟩

theorem End.of_bt (h : End E s a live) (hbt : s.blockTerminates a = true) : live = false := by
  cases hl : live
  · rfl
  · rw [(h.on hl).2.2] at hbt; cases hbt

theorem Grow.refl (E : List Edge) (G : Nat → Prop) (s : St) : Grow E G s s 0 := ⟨rfl, LTI.refl _ _ _⟩

theorem Grow.eq (h : Grow E G s0 s n) (he : s'.edges = s.edges) : Grow E G s0 s' n := ⟨by rw [he]; exact h.cnt, h.tgt.of_edges_eq he⟩

theorem Grow.start {s0' : St} (h : Grow E G s0 s n) (he : s0'.edges = s0.edges) : Grow E G s0' s n :=
  ⟨by rw [he]; exact h.cnt, h.tgt.of_start_eq he⟩

theorem Grow.cast (h : Grow E G s0 s n) (hn : n = k) : Grow E G s0 s k := hn ▸ h

theorem Grow.mono (h : Grow E G s0 s n) (hg : ∀ x, G x → G' x) : Grow E G' s0 s n := ⟨h.cnt, h.tgt.mono hg⟩

theorem Grow.trans (h₁ : Grow E G s0 s n) (h₂ : Grow E G s s' k) : Grow E G s0 s' (n + k) :=
  ⟨by rw [h₂.cnt, h₁.cnt, Nat.add_assoc], h₁.tgt.trans h₂.tgt⟩

theorem Grow.plain (h : Grow E G s0 s n) (h1 : isCond t = false) (h2 : t ≠ .exc) (hg : G b) : Grow E G s0 (s.edge a b t) n :=
  ⟨(cnt_cons_plain h1 h2).trans h.cnt, h.tgt.edge fun _ => hg⟩

theorem Grow.normal (h : Grow E G s0 s n) (hg : G b) : Grow E G s0 (s.edge a b .normal) n := h.plain isCond_normal normal_ne_exc hg

theorem Grow.exc (h : Grow E G s0 s n) (hr : R E a) (hg : G b) : Grow E G s0 (s.edge a b .exc) (n + 1) :=
  ⟨by rw [edge_edges, cnt_cons_exc (rE_true.mpr hr), h.cnt, Nat.add_assoc], h.tgt.edge fun _ => hg⟩

theorem Grow.excs (h : Grow E G s0 s n) (hr : R E a) (hs : List Nat) (hg : ∀ x ∈ hs, G x) :
    Grow E G s0 (hs.foldl (fun st x => st.edge a x .exc) s) (n + hs.length) :=
  ⟨by rw [cnt_foldl_exc a (rE_true.mpr hr), h.cnt, Nat.add_assoc], LTI.foldl a .exc hs _ h.tgt fun _ => hg⟩

theorem Grow.condNew (h : Grow E G s0 s n) (hr : R E a) (hc : isCond t = true) (hn : ∀ e ∈ s.edges, e.1 ≠ a) (hg : G b) :
    Grow E G s0 (s.edge a b t) (n + 1) :=
  ⟨by rw [edge_edges, cnt_cons_cond_new (rE_true.mpr hr) hc hn, h.cnt, Nat.add_assoc], h.tgt.edge fun _ => hg⟩

theorem Grow.condOld (h : Grow E G s0 s n) (hc : isCond t = true) {b' : Nat} {t' : ETy} (ho : (a, b', t') ∈ s.edges) (hc' : isCond t' = true)
    (hg : G b) : Grow E G s0 (s.edge a b t) n :=
  ⟨(cnt_cons_cond_old hc ho hc').trans h.cnt, h.tgt.edge fun _ => hg⟩

/-- the plain edge out of the block in which a piece of code ended: it is live only if the end is -/
theorem Grow.exit (h : Grow E G s0 s n) (e : End E s a live) (h1 : isCond t = false) (h2 : t ≠ .exc) (hg : live = true → G m) :
    Grow E G s0 (s.edgeUnlessExit a m t) n :=
  ⟨(cnt_eue_plain _ _ _ _ h1 h2).trans h.cnt, h.tgt.eue fun hr => hg (e.live_of_reach hr)⟩

theorem PostG.grow {st st' : St} {ex : Ex} (h : PostG S E st st' ex n) : Grow E (TgG S st.next st.loops st.excs ex.brk) st st' n :=
  ⟨h.cnt, h.tgt⟩

theorem Grow.call {p : St} {ex : Ex} (h : Grow E G s0 p k) (hp : PostG S E p s ex n) (hg : ∀ x, TgG S p.next p.loops p.excs ex.brk x → G x) :
    Grow E G s0 s (k + n) := h.trans (hp.grow.mono hg)

theorem Grow.post {st st' : St} {ex : Ex} (g : Grow E (TgG S st.next st.loops st.excs ex.brk) st st' k) (hn : k = n)
    (e : End E st' st'.cur ex.normal) (hj : S.J E st.loops st.excs ex) : PostG S E st st' ex n :=
  hn ▸ ⟨g.cnt, fun h => ⟨(e.on h).1, (e.on h).2⟩, e.off, hj, g.tgt⟩
end grow

/-- the common end of every terminator: the new current block is fresh, hence unreachable -/
theorem term_post {S : Sch} {st st2 : St} {ex : Ex} {n : Nat} (hn : ex.normal = false) (w2 : WF st2) (hle : st.next ≤ st2.next)
    (hf : Fut E st.next (st2.next + 1) (setCur (bumpU st2) st2.next))
    (g : Grow E (TgG S st.next st.loops st.excs ex.brk) st st2 n) (hj : S.J E st.loops st.excs ex) :
    PostG S E st (setCur (bumpU st2) st2.next) ex n :=
  (g.eq (s' := setCur (bumpU st2) st2.next) rfl).post rfl ⟨fun h => (by rw [hn] at h; cases h), fun _ => fresh_dead w2 hle hf⟩ hj

/-- the edge of a jump goes to the pending `finally` block if there is one, else to the jump's own target -/
theorem _root_.PV.CFGFin.match_getD_edge (st1 : St) (a d : Nat) (t : ETy) (o : Option Nat) :
    (match o with
      | some f => st1.edge a f t
      | none => st1.edge a d t) = st1.edge a (o.getD d) t := by
  cases o <;> rfl

/-- `return` / `break` / `continue`: the statement is stored in the current block of `st0` (the state after an optional
comprehension) and one plain edge leaves that block for `g`: the jump's own target or the pending `finally` block -/
theorem jump_post {S : Sch} {st st0 : St} {s e g n : Nat} {ty : Ty} {t : ETy} {ex : Ex} (i0 : Inv st.cur st.next st st0)
    (hn : ex.normal = false) (ht1 : isCond t = false) (ht2 : t ≠ .exc) (hgl : g < st0.next)
    (hf : Fut E st.next (((st0.add st0.cur s e ty).edge st0.cur g t).next + 1)
      (setCur (bumpU ((st0.add st0.cur s e ty).edge st0.cur g t)) ((st0.add st0.cur s e ty).edge st0.cur g t).next))
    (g0 : Grow E (fun t => st.next ≤ t) st st0 n)
    (hj : (st0.cur, g, t) ∈ E → S.J E st.loops st.excs ex) (hg : TgG S st.next st.loops st.excs ex.brk g) :
    PostG S E st (setCur (bumpU ((st0.add st0.cur s e ty).edge st0.cur g t)) ((st0.add st0.cur s e ty).edge st0.cur g t).next) ex n := by
  have hcur := i0.wf.cur
  have i2 := (i0.add (b := st0.cur) (p := s) (q := e) (ty := ty) i0.own hcur).edge (a := st0.cur) (b := g) (t := t)
    i0.own hcur hgl
  exact term_post hn i2.wf i0.next_le hf (((g0.mono (fun t ht => .inl ht)).eq (s' := st0.add st0.cur s e ty) rfl).plain ht1 ht2 hg)
    (hj (hf.mem (List.mem_cons_self ..)))

/-- `break` (`tg` = exit block) and `continue` (`tg` = header) in the innermost loop `(h, x, d)`: the edge goes to `tg`, or to the
`finally` block pending inside the loop -/
theorem loop_jump {S : Sch} {fc : FC} {il : Bool} {st : St} (w : WF st) (hc : S.Ctx fc il st) (he : EntryC E st) (s e : Nat)
    {h x d : Nat} {rest : List (Nat × Nat × Nat)} (hll : st.loops = (h, x, d) :: rest) (ty : Ty) {t : ETy} (ht1 : isCond t = false)
    (ht2 : t ≠ .exc) {ex : Ex} (hn : ex.normal = false) (hret : ex.ret = false) (hrs : ex.raise = false) {tg : Nat}
    (htg : tg = h ∨ (tg = x ∧ ex.brk = true)) (hb : ex.brk = true → tg = x) (hcn : ex.cont = true → tg = h) {g : Nat}
    (hg : g = (targetFinallyLoop (st.add st.cur s e ty) d).getD tg)
    (hf : Fut E st.next (((st.add st.cur s e ty).edge st.cur g t).next + 1)
      (setCur (bumpU ((st.add st.cur s e ty).edge st.cur g t)) ((st.add st.cur s e ty).edge st.cur g t).next)) :
    PostG S E st (setCur (bumpU ((st.add st.cur s e ty).edge st.cur g t)) ((st.add st.cur s e ty).edge st.cur g t).next) ex 0 := by
  have hx := w.loops (h, x, d) (by rw [hll]; exact List.mem_cons_self ..)
  simp only at hx
  have hgo : ∀ o, pendO (st.excs.take (st.excs.length - d)) = some o → o.getD tg = g := by
    intro o ho
    have : targetFinallyLoop (st.add st.cur s e ty) d = o := pendO_tf ho
    rw [hg, this]
  have hcases : g = tg ∨ ∃ cx ∈ st.excs, cx.fin = some g := by
    cases htf : targetFinallyLoop (st.add st.cur s e ty) d with
    | none => rw [htf] at hg; exact .inl hg
    | some f =>
      rw [htf] at hg
      obtain ⟨cx, hcx, hfx⟩ := tfLoop_mem htf
      exact .inr ⟨cx, hcx, hg ▸ hfx⟩
  refine jump_post (Inv.refl w (.inl rfl)) hn ht1 ht2 ?_ hf (Grow.refl _ _ _) (fun hmemE => S.J_of_jmp hc ⟨fun hbk => ?_, fun hck => ?_,
    (fun h => by rw [hret] at h; cases h), (fun h => by rw [hrs] at h; cases h)⟩) ?_
  · rcases hcases with hgt | ⟨cx, hcx, hfx⟩
    · rcases htg with htg | ⟨htg, _⟩
      · rw [hgt, htg]; exact hx.1
      · rw [hgt, htg]; exact hx.2
    · exact (w.excs cx hcx).1 g hfx
  · intro h' x' d' rest' hl' o ho
    rw [hll] at hl'
    simp only [List.cons.injEq, Prod.mk.injEq] at hl'
    obtain ⟨⟨rfl, rfl, rfl⟩, _⟩ := hl'
    rw [← hb hbk, hgo o ho]
    exact R.step he.reach hmemE
  · intro h' x' d' rest' hl' o ho
    rw [hll] at hl'
    simp only [List.cons.injEq, Prod.mk.injEq] at hl'
    obtain ⟨⟨rfl, rfl, rfl⟩, _⟩ := hl'
    rw [← hcn hck, hgo o ho]
    exact R.step he.reach hmemE
  · rcases hcases with hgt | ⟨cx, hcx, hfx⟩
    · exact .inr (.inr (.inl ⟨h, x, d, rest, hll, hgt ▸ htg⟩))
    · exact .inr (.inr (.inr (S.TX_fin hc hcx hfx)))

/-- no context is processing its `finally`: the fallback context of a `raise` is the innermost one -/
theorem CtxC.fallback {nh : Nat} {il : Bool} {s : St} (h : CtxC nh il s) : fallbackExc s = s.excs.head? := by
  unfold fallbackExc
  cases hx : s.excs with
  | nil => rfl
  | cons c rest =>
    have := (h.nofin c (by rw [hx]; exact List.mem_cons_self ..)).2
    simp [List.find?, this]

end

section
variable {S : Sch} {E : List Edge}

/-- what the body of a loop contributes to the targets of the loop statement: the header and the exit block are fresh -/
theorem loop_body_tgt {st p s5 : St} {ex : Ex} {n : Nat} (post : PostG S E p s5 ex n) (hpn : st.next + 3 ≤ p.next)
    (hpl : p.loops = (st.next, st.next + 2, st.excs.length) :: st.loops) (hpx : p.excs = st.excs) (bk : Bool) :
    LTI E (TgG S st.next st.loops st.excs bk) p s5 := by
  refine post.tgt.mono (fun t h => ?_)
  rw [hpl, hpx] at h
  refine h.weaken (by omega) (fun hd x d rest hl ht => ?_) (fun h => .inr (.inr (.inr h)))
  simp only [List.cons.injEq, Prod.mk.injEq] at hl
  obtain ⟨⟨rfl, rfl, rfl⟩, rfl⟩ := hl
  rcases ht with rfl | ⟨rfl, _⟩
  · exact .inl (Nat.le_refl _)
  · exact .inl (by omega)

/-- the current block after the body (the body block itself, or one allocated after `x`) is none of the blocks in between -/
theorem cur_ne {cur b x m : Nat} (h : cur = b + 1 ∨ x < cur) (h1 : b + 2 ≤ m) (h2 : m ≤ x) : cur ≠ m :=
  h.elim (fun h => h ▸ Nat.ne_of_lt h1) (fun h => Nat.ne_of_gt (Nat.lt_of_le_of_lt h2 h))

/-- targets of code run under one more context `c0` seen from outside: the handler blocks of `c0` are fresh, its `finally` block is
listed separately -/
theorem tg_inner {n n' : Nat} {L : List (Nat × Nat × Nat)} {X0 : List Exc} {c0 : Exc} {b b' : Bool} {t : Nat}
    (h : TgG S n' L (c0 :: X0) b' t) (hn : n ≤ n') (hb : b' = true → b = true) (hh : ∀ y ∈ c0.handlers, n ≤ y) :
    TgG S n L X0 b t ∨ c0.fin = some t := by
  by_cases hc : c0.fin = some t
  · exact .inr hc
  · refine .inl (h.weaken hn (fun hd x d rest hl h => .inr (.inr (.inl ⟨hd, x, d, rest, hl, h.imp id (fun h => ⟨h.1, hb h.2⟩)⟩))) (fun hx => ?_))
    rcases S.TX_cons hx with h | h | h
    · exact .inl (hh _ h)
    · exact absurd h hc
    · exact .inr (.inr (.inr h))

/-- the end of a `try`: the block `st.next + 1` behind it becomes current; it is unreachable unless a live edge enters it -/
theorem try_finish {st s8 : St} (w : WF st) (ex : Ex) (n : Nat) (hlt : st.next + 1 < s8.next)
    (hf : Fut E st.next (setExcs (setCur s8 (st.next + 1)) st.excs).next (setExcs (setCur s8 (st.next + 1)) st.excs))
    (g : Grow E (fun t => TgG S st.next st.loops st.excs ex.brk t ∧ (ex.normal = false → t ≠ st.next + 1)) st s8 n)
    (hn : ex.normal = true → R E (st.next + 1)) (hcalm : Calm s8 (st.next + 1)) (hbrk : S.J E st.loops st.excs ex) :
    PostG S E st (setExcs (setCur s8 (st.next + 1)) st.excs) ex n :=
  ((g.mono fun _ h => h.1).eq (s' := setExcs (setCur s8 (st.next + 1)) st.excs) rfl).post rfl ⟨fun h => ⟨hn h, Calm.congr (s := s8) rfl rfl hcalm⟩, fun h =>
    dead_of_LTI (hf.mono (lo' := st.next + 1) (hi' := st.next + 2) (Nat.le_succ _) hlt) (Nat.le_refl _) (Nat.lt_succ_self _) w (Nat.le_succ _)
      ((g.tgt.mono (fun _ ht => ht.2 h)).of_edges_eq (s' := setExcs (setCur s8 (st.next + 1)) st.excs) rfl)⟩ hbrk

theorem tg_low {st : St} (w : WF st) {b : Bool} {t : Nat} (h : TgG S (st.next + 2) st.loops st.excs b t) :
    TgG S st.next st.loops st.excs b t ∧ t ≠ st.next + 1 := by
  refine ⟨TgG.mono h (by omega) id, TgG.ne h (m := st.next + 1) (by omega) (by have := w.two; unfold exitB; omega) ?_ (S.not_TX w (by omega))⟩
  intro hd x d rest hl
  have := w.loops (hd, x, d) (by rw [hl]; exact List.mem_cons_self ..)
  simp only at this
  exact ⟨by omega, fun _ => by omega⟩

/-- `tg_inner` seen from the state `st` in which the `try` started: the `finally` block of `c0` is fresh as well -/
theorem tg_outer {st : St} (w : WF st) {n' : Nat} {c0 : Exc} {b b' : Bool} {t : Nat}
    (h : TgG S n' st.loops (c0 :: st.excs) b' t) (hn : st.next + 2 ≤ n') (hb : b' = true → b = true)
    (hh : ∀ y ∈ c0.handlers, st.next + 2 ≤ y) (hcf : ∀ f, c0.fin = some f → st.next + 2 ≤ f) :
    TgG S st.next st.loops st.excs b t ∧ t ≠ st.next + 1 := by
  rcases tg_inner h hn hb hh with h | h
  · exact tg_low w h
  · exact tg_low w (.inl (hcf t h))

/-- a zone `[lo, hi)` of blocks allocated by a `try` statement that holds neither a handler block nor the `finally` block contains
no context block of a state that runs under the `try`'s context -/
theorem TG.tryZone {st s : St} (w : WF st) {lo hi : Nat} {c0 : Exc} (hlo : st.next ≤ lo) (hhi : hi ≤ s.next) (h2 : 2 ≤ lo)
    (hl : s.loops = st.loops) (hx : s.excs = c0 :: st.excs) (hf : ∀ f, c0.fin = some f → f < lo ∨ hi ≤ f)
    (hh : ∀ h ∈ c0.handlers, h < lo ∨ hi ≤ h) : TG (fun x => x < lo ∨ hi ≤ x) s := by
  refine ⟨fun x hx => .inr (by omega), .inl (by unfold exitB; omega), fun l hm => ?_, fun c hc => ?_⟩
  · rw [hl] at hm
    have := w.loops l hm
    exact ⟨.inl (by omega), .inl (by omega)⟩
  · rw [hx] at hc
    rcases List.mem_cons.mp hc with rfl | hc
    · exact ⟨hf, hh⟩
    · exact ⟨fun f hf => .inl (by have := (w.excs c hc).1 f hf; omega), fun h hh => .inl (by have := (w.excs c hc).2 h hh; omega)⟩

/-- the context a `try` pushes: its handler blocks are allocated from `s3.next` on -/
abbrev ctxOf (s3 : St) (cfin : Option Nat) (handlers : List Stmt) : Exc :=
  { fin := cfin, handlers := (List.range handlers.length).map (fun k => s3.next + k), processingFinally := false }

/-- the summary of the `else` part as far as it is live: it runs only if the body ends normally -/
abbrev elx (body orelse : List Stmt) : SX := if (sxL body).ex.normal = true then sxL orelse else ({} : SX)

/-- whether body + `else` part, or some handler, ends normally ("`try` part normal exit") -/
abbrev pnx (body handlers orelse : List Stmt) : Bool :=
  (if orelse.isEmpty = true then (sxL body).ex.normal else (elx body orelse).ex.normal) || (sxAlts handlers).ex.normal

/-- where the blocks that a `try` allocates lie: the join block `ah` behind the handlers, the block `nat` behind the body, the
`finally` block -/
theorem TryAlloc.blocks {st s3 : St} {hasFin hasElse : Bool} {finB elseB : Nat} {cfin : Option Nat} {nat ah : Nat}
    (ha : TryAlloc st hasFin hasElse s3 finB elseB cfin nat ah) :
    (st.next + 1 ≤ ah ∧ ah < s3.next ∧ (hasElse = true → ah ≠ elseB) ∧ (ah = st.next + 1 → hasFin = false)) ∧
    (nat < s3.next ∧ st.next + 1 ≤ nat ∧ (nat = st.next + 1 → hasFin = false ∧ hasElse = false)) ∧
    (∀ f, cfin = some f → f < s3.next ∧ st.next + 2 ≤ f ∧ (hasElse = true → f ≠ elseB)) := by
  have b3 := ha.allocated
  obtain ⟨-, hcfin, hah, hnat⟩ := ha
  have hn3 : st.next + 1 < s3.next := Nat.lt_of_succ_le b3.next_le
  have hlow : ∀ {x}, st.next + 2 ≤ x → st.next + 1 ≤ x ∧ x ≠ st.next + 1 := fun h => ⟨Nat.le_of_succ_le h, Nat.ne_of_gt (Nat.lt_of_succ_le h)⟩
  have hA : st.next + 1 ≤ ah ∧ ah < s3.next ∧ (hasElse = true → ah ≠ elseB) ∧ (ah = st.next + 1 → hasFin = false) := by
    rw [hah]; cases hasFin
    · simp only [Bool.false_eq_true, ↓reduceIte]
      exact ⟨Nat.le_refl _, hn3, fun h => (hlow (b3.els h).1).2.symm, fun _ => trivial⟩
    · simp only [↓reduceIte]
      have := b3.fin rfl
      exact ⟨(hlow this.1).1, this.2.1, fun _ => this.2.2, fun h => absurd h (hlow this.1).2⟩
  refine ⟨hA, ?_, ?_⟩
  · rw [hnat]; cases hasElse
    · simp only [Bool.false_eq_true, ↓reduceIte]
      exact ⟨hA.2.1, hA.1, fun h => ⟨hA.2.2.2 h, trivial⟩⟩
    · simp only [↓reduceIte]; have := b3.els rfl; exact ⟨this.2, (hlow this.1).1, fun h => absurd h (hlow this.1).2⟩
  · intro f hf'
    rw [hcfin] at hf'
    cases hasFin
    · simp at hf'
    · simp only [↓reduceIte, Option.some.injEq] at hf'
      rw [← hf']; exact ⟨(b3.fin rfl).2.1, (b3.fin rfl).1, fun _ => (b3.fin rfl).2.2⟩

end

theorem preB_entryC {E : List Edge} (k : Kind) (s e : Nat) (hE : ∀ x ∈ (preB k s e).edges, x ∈ E) : EntryC E (preB k s e) := by
  have hu0 : Untouched initSt 0 := ⟨(fun _ h => by cases h), (fun _ h => by cases h)⟩
  have hu2 : Untouched initSt 2 := ⟨(fun _ h => by cases h), (fun _ h => by cases h)⟩
  have hc : Calm (setCur ((bump initSt).edge 0 2 .normal) 2) 2 :=
    Untouched.calm ((unt_setCur ..).mpr ((unt_edge ..).mpr ⟨by decide, hu2⟩))
  cases k
  · exact ⟨R.step R.entry (hE (0, 2, .normal) (List.mem_cons_self ..)), hc⟩
  · exact ⟨R.step R.entry (hE (0, 2, .normal) (List.mem_cons_self ..)), hc.add_other⟩
  · exact ⟨R.entry, Untouched.calm hu0⟩

theorem preB_cnt (r : Nat → Bool) (k : Kind) (s e : Nat) : cnt r (preB k s e).edges = 0 := by
  cases k
  · exact (cnt_cons_plain isCond_normal normal_ne_exc).trans (cnt_nil r)
  · exact (cnt_cons_plain isCond_normal normal_ne_exc).trans (cnt_nil r)
  · exact cnt_nil r

end PV.CFGSound
