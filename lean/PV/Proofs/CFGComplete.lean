import PV.Proofs.CFGCalled
import PV.Proofs.CFGSound3
/-!
# Completeness of the CFG mirror for structurally dead code (property C02)

`build_complete`: for every program of the fragment `okLC false` the mirror of the CFG builder puts every structurally
dead statement (`PV.SD.structDead`: a statement that follows, in the same block, a `return` / `raise` / `break` /
`continue`, or an `if/elif/else` all of whose branches end in one) into a block that the mirror's own search does NOT
reach from ENTRY — except the heads of `elif` clauses (`elifL`), whose test the builder stores without a location.

Ingredients: the source frame (`Inv`; the walk `Run.frame`, CFGFrameA), the TARGET frame (`procList_target`: a builder
call only adds edges into blocks it allocates itself, EXIT, its explicit block parameters and the blocks named by the
context stacks), coverage (`procList_covers`: every line gets a record in an owned block) and the dead-zone argument
(`zone_dead`, `dead_of_DI`).  `complete_run` is the induction over the builder's calls (`Run`), for calls made within the convention
(`Called`, CFGCalled): what is assumed of the final graph is assumed of the state the call ends in; that it holds of the state each
nested call ends in is the inheritance lemma of the construct.  At the end: the whole definition (`build_complete`,
`build_complete_deadLines`) and the fragment compared with that of soundness (`okLC_eq_okL4`, `okLC_of_okL3`).
-/
namespace PV.CFGSound
open PV.CFG PV.SD

variable {E : List Edge} {S : List SRec}

/-! ### the first branch of an `if` / of a clause of the chain, and a plain `else` part: the edges into a merge block that exists
already -/
theorem ifHead_run {st s3 : St} {s e : Nat} {thn : List Stmt} (hr : Run (ifPre st s e) (.list thn) s3) (w : WF st) :
    DI E s3 (st.next + 1) :=
  have d1 : DI E (ifPre st s e) (st.next + 1) := DI.edge_ne (DI.of_wf w (Nat.le_succ _)) (Nat.succ_ne_self _).symm
  d1.run hr ((w.ctxLt (Nat.le_refl _)).of_eq rfl rfl) w.two (Nat.le_succ _) (Nat.lt_succ_self _)

theorem elifHead_run {st s3 : St} {s e : Nat} {thn : List Stmt} (hr : Run (elifPre st s e) (.list thn) s3) {m lo : Nat}
    (hctx : CtxLt st lo) (h2 : 2 ≤ lo) (hm : lo ≤ m) (hlt : m < st.next) (hd : DI E st m) : DI E s3 m :=
  have d1 : DI E (elifPre st s e) m := DI.edge_ne hd (Nat.ne_of_gt hlt)
  d1.run hr (hctx.of_eq rfl rfl) h2 hm (Nat.lt_succ_of_lt hlt)

/-- a plain `else` part, processed in a fresh block, adds no edge into a merge block `m` that lies above the context blocks -/
theorem elsePart_DI {s3 s5 : St} {cond m : Nat} {os : List Stmt}
    (hr : Run (setCur ((bump s3).edge cond s3.next .condF) s3.next) (.list os) s5) (hctx : CtxLt s3 m) (h2 : 2 ≤ m) (hlt : m < s3.next)
    (hd : DI E s3 m) : DI E s5 m :=
  have d4 : DI E (setCur ((bump s3).edge cond s3.next .condF) s3.next) m := DI.edge_ne hd (Nat.ne_of_gt hlt)
  d4.run hr (hctx.of_eq rfl rfl) h2 (Nat.le_refl _) (Nat.lt_succ_of_lt hlt)

/-- a first branch (ending in `s3`) followed by a plain `else` part (ending in `s5`), given what the induction says of both:
their dead lines, and that both end in unreachable blocks if both end with a terminator (`P`, `Q`: the other alternative under which
the induction hypotheses say so, not used here) -/
theorem thenElse_complete {thn os : List Stmt} {s3 s5 : St} {c : Nat} {P Q : Prop} (hne : ∀ s e a b, os ≠ [.elifc s e a b])
    (j : Inv 0 0 (setCur ((bump s3).edge c s3.next .condF) s3.next) s5)
    (hh : StS S s3 → DeadL E S (structDead thn) (elifL thn) ∧ ((P ∨ stopsL thn = true) → ¬ R E s3.cur))
    (he : StS S s5 → DeadL E S (structDead os) (elifL os) ∧ ((Q ∨ stopsL os = true) → ¬ R E s5.cur)) (hS5 : StS S s5) :
    DeadL E S (structDead thn ++ structDead os) (elifL thn ++ elifL os) ∧
      (endsTerm thn = true → elseEnds os = true → ¬ R E s3.cur ∧ ¬ R E s5.cur) :=
  have hh' := hh (hS5.of_inv j).back_setCur.back_edge.back_bump
  have he' := he hS5
  ⟨dead_app hh'.1 he'.1, fun het hee => ⟨hh'.2 (.inr (endsTerm_stopsL het)), he'.2 (.inr (elseEnds_stopsL hne hee))⟩⟩

/-- what the theorem says of each kind of call, made within the convention for a final edge list `E` (`Called`: `E` adds no edge into the
blocks of the call), for a final record list `S` (`StS`): the structurally dead lines of its parts are dead, and when the block that is
current at the end is unreachable.  For a clause of a chain that is said through the final merge block `fm`, which lies above the context
blocks: if all branches end with a terminator, every edge into `fm` starts in an unreachable block (`DI`), and the block that is current
afterwards is `fm` or an unreachable fresh block. -/
abbrev Complete (E : List Edge) (S : List SRec) (st st' : St) : Call → Prop
  | .stmt x => ∀ il, LoopOK il st → okSC il x = true → StS S st' → DeadL E S (inStmt x) (elifS x) ∧ (stopsE x = true → ¬ R E st'.cur)
  | .list ss => ∀ il, LoopOK il st → okLC il ss = true → StS S st' →
      DeadL E S (structDead ss) (elifL ss) ∧ ((¬ R E st.cur ∨ stopsL ss = true) → ¬ R E st'.cur)
  | .if_ _ _ thn orelse => ∀ il, LoopOK il st → okLC il thn = true → okLC il orelse = true → StS S st' →
      DeadL E S (structDead thn ++ structDead orelse) (elifL thn ++ elifL orelse) ∧
        (endsTerm thn = true → elseEnds orelse = true → ¬ R E st'.cur)
  | .elif _ _ thn orelse fm => ∀ il, LoopOK il st → okLC il thn = true → okLC il orelse = true → CtxLt st fm → 2 ≤ fm → StS S st' →
      DeadL E S (structDead thn ++ structDead orelse) (elifL thn ++ elifL orelse) ∧
        (endsTerm thn = true → elseEnds orelse = true → DI E st fm → DI E st' fm ∧ (st'.cur = fm ∨ ¬ R E st'.cur))
  | .elifTail _ te merge _ _ a b => ∀ il, LoopOK il st → okLC il a = true → okLC il b = true → CtxLt st merge → 2 ≤ merge → StS S st' →
      DeadL E S (structDead a ++ structDead b) (elifL a ++ elifL b) ∧
        (endsTerm a = true → elseEnds b = true → ¬ R E te → DI E st merge → ¬ R E st'.cur)
  | .cases cs _ _ => ∀ il, LoopOK il st → okCasesC il cs = true → StS S st' → DeadL E S (subDead cs) (elifL cs)
  | .handlers hs _ _ => ∀ il, LoopOK il st → okHsC il hs = true → StS S st' → DeadL E S (subDead hs) (elifL hs)
  | .tryMid _ _ _ _ _ body handlers => ∀ il, LoopOK il st → okLC il body = true → okHsC il handlers = true → StS S st' →
      DeadL E S (structDead body ++ subDead handlers) (elifL body ++ elifL handlers)
  | .tryElse hasElse _ _ orelse => ∀ il, LoopOK il st → okLC il orelse = true → (hasElse = false → orelse = []) → StS S st' →
      DeadL E S (structDead orelse) (elifL orelse)
  | .tryFin hasFin _ _ _ _ fin => ∀ il, LoopOK il st → okLC il fin = true → (hasFin = false → fin = []) → StS S st' →
      DeadL E S (structDead fin) (elifL fin)

theorem leaf_complete {x : Stmt} {P : Prop} (hin : inStmt x = []) (hp : stopsE x = true → P) :
    DeadL E S (inStmt x) (elifS x) ∧ (stopsE x = true → P) :=
  ⟨by rw [hin]; exact dead_nil, hp⟩

theorem complete_run {st st' : St} {cl : Call} (h : Run st cl st') : Called E st st' cl → Complete E S st st' cl := by
  induction h with
  | simple st s e cm hcm => exact fun _ il _ _ _ => leaf_complete (inStmt_simple ..) (no_stop rfl)
  | ret st s e cm hcm => exact fun hc il _ _ _ => leaf_complete (inStmt_ret ..) fun _ => shape_dead (ret_shape st s e cm hcm hc.wf) hc.fut
  | brk st s e =>
    exact fun hc il hl hok _ => leaf_complete (inStmt_brk ..) fun _ => shape_dead (brk_shape st s e hc.wf (hl ((okSC_brk ..).symm.trans hok))) hc.fut
  | cont st s e =>
    exact fun hc il hl hok _ => leaf_complete (inStmt_cont ..) fun _ => shape_dead (cont_shape st s e hc.wf (hl ((okSC_cont ..).symm.trans hok))) hc.fut
  | raise st s e => exact fun hc il _ _ _ => leaf_complete (inStmt_raise ..) fun _ => shape_dead (raise_shape st s e hc.wf) hc.fut
  | def_ st s e b => exact fun _ il _ _ _ => leaf_complete (inStmt_def ..) (no_stop rfl)
  | handler st s e b => exact fun _ il _ hok => by rw [okSC_handler] at hok; cases hok
  | case_ st s e b => exact fun _ il _ hok => by rw [okSC_case] at hok; cases hok
  | @class_ st s e body s1 _ ih =>
    intro hc il _ hok hS
    rw [okSC_class] at hok
    rw [inStmt_class, elifS_class]
    exact ⟨(ih hc.class_ false (LoopOK.false _) hok hS).1, no_stop rfl⟩
  | @ite st s e thn orelse s1 _ ih =>
    intro hc il hl hok hS
    rw [okSC_ite, Bool.and_eq_true] at hok
    rw [inStmt_ite, elifS_ite]
    have h := ih ⟨hc.wf, hc.fut⟩ il hl hok.1 hok.2 hS
    refine ⟨h.1, fun hs => ?_⟩
    have hs' : (endsTerm thn && elseEnds orelse) = true := (Bool.or_false _).symm.trans hs
    rw [Bool.and_eq_true] at hs'
    exact h.2 hs'.1 hs'.2
  | elifc _ ih =>
    intro hc il hl hok hS
    rw [okSC_elifc, Bool.and_eq_true] at hok
    rw [inStmt_elifc, elifS_elifc]
    exact ⟨fun l hl' => ((ih ⟨hc.wf, hc.fut⟩ il hl hok.1 hok.2 hS).1 l hl').imp_left (List.mem_cons_of_mem _), no_stop rfl⟩
  | elsec _ ih =>
    intro hc il hl hok hS
    rw [okSC_elsec] at hok
    rw [inStmt_elsec, elifS_elsec]
    have h := ih ⟨hc.wf, hc.fut⟩ il hl hok hS
    exact ⟨h.1, fun hs => h.2 (.inr (endsTerm_stopsL hs))⟩
  | @loop_nil st s e body s5 _ ih =>
    intro hc il _ hok hS
    rw [okSC_loop, Bool.and_eq_true] at hok
    rw [inStmt_loop, elifS_loop]
    exact ⟨dead_app (ih hc.loop_nil true (fun _ => List.cons_ne_nil _ _) hok.1 hS.back_setLoops.back_setCur.back_setLoops.back_eue).1
      dead_none, no_stop rfl⟩
  | @loop_cons st s e body o os s5 s8 hr1 hr2 ih1 ih2 =>
    intro hc il hl hok hS
    rw [okSC_loop, Bool.and_eq_true] at hok
    rw [inStmt_loop, elifS_loop]
    obtain ⟨c1, c2⟩ := hc.loop_cons hr1 hr2
    have hS8 := hS.back_setLoops.back_setCur.back_eue
    exact ⟨dead_app (ih1 c1 true (fun _ => List.cons_ne_nil _ _) hok.1 (hS8.of_inv (c2.conv.inv0 hr2)).back_setCur.back_setLoops.back_eue).1
      (ih2 c2 il (hl.of_eq rfl) hok.2 hS8).1, no_stop rfl⟩
  | @with_ st s e body s2 _ ih =>
    intro hc il hl hok hS
    rw [okSC_with] at hok
    rw [inStmt_with, elifS_with]
    exact ⟨(ih hc.with_ il (hl.of_eq rfl) hok hS.back_setCur.back_edge.back_edge.back_eue).1, no_stop rfl⟩
  | match_nil st s e => exact fun _ il _ _ _ => ⟨by rw [inStmt_match, subDead_nil]; exact dead_nil, no_stop rfl⟩
  | @match_cons st s e c0 cs s2 _ ih =>
    intro hc il hl hok hS
    rw [okSC_match] at hok
    rw [inStmt_match, elifS_match]
    exact ⟨ih hc.match_cons il (hl.of_eq rfl) hok hS.back_setCur.back_edge, no_stop rfl⟩
  | @try_ st s e body handlers orelse fin s3 finB elseB cfin nat ah s7 s8 s9 ha hr7 hr8 hr9 ih7 ih8 ih9 =>
    intro hc il hl hok hS
    rw [okSC_try, Bool.and_eq_true, Bool.and_eq_true, Bool.and_eq_true] at hok
    rw [inStmt_try, elifS_try]
    refine ⟨?_, no_stop rfl⟩
    obtain ⟨c7, c8, c9⟩ := hc.try_ ha hr7 hr8 hr9
    have sm3 := ha.allocated.same
    have hl7 : LoopOK il s7 := hl.of_eq ((c7.conv.loops_eq hr7).trans sm3.loops)
    have hS9 := hS.back_setExcs.back_setCur
    have hS8 := hS9.of_inv (c9.conv.inv0 hr9)
    exact dead_app (dead_app (ih7 c7 il (hl.same sm3) hok.1.1.1 hok.1.1.2 (hS8.of_inv (c8.conv.inv0 hr8)))
      (ih8 c8 il hl7 hok.1.2 (fun h => List.isEmpty_iff.mp (by simpa using h)) hS8))
      (ih9 c9 il (hl7.of_eq (c8.conv.loops_eq hr8)) hok.2 (fun h => List.isEmpty_iff.mp (by simpa using h)) hS9)
  | nil st => exact fun _ il _ _ _ => ⟨dead_none, fun h => h.elim id (fun h => nomatch h)⟩
  | @cons st x xs s1 s2 hr1 hr2 ih1 ih2 =>
    intro hc il hl hok hS
    rw [okLC_cons, Bool.and_eq_true] at hok
    obtain ⟨c1, c2⟩ := hc.cons hr1 hr2
    have w := hc.wf
    have j1 := hr1.frame st.cur st.next w (Nat.le_refl _) (.inl rfl)
    have j2 := c2.conv.own hr2
    have f1 : Fut E st.next s1.next s1 := c1.fut
    have f2 : Fut E s1.next s2.next s2 := c2.fut
    have hx := ih1 c1 il hl hok.1 (hS.of_inv j2)
    have hxs := ih2 c2 il (hl.same hr1.stacks) hok.2 hS
    have hd1 : ¬ R E s1.cur → ¬ R E s2.cur := dead_cur j1.wf j2 f2
    constructor
    · intro l hl'
      rw [structDead_eq', subDead_cons, deadInBlock_cons] at hl'
      rw [elifL_cons]
      rcases List.mem_append.mp hl' with hl' | hl'
      · by_cases hs : stops x = true
        · rw [if_pos hs] at hl'
          exact mem_app_r (dead_lines hok.2 hr2 j1.wf f2 hS (hx.2 (stopsE_of_stops hs)) l hl')
        · rw [if_neg hs] at hl'
          exact mem_app_r (hxs.1 l (by rw [structDead_eq']; exact List.mem_append.mpr (.inl hl')))
      · rcases List.mem_append.mp hl' with hl' | hl'
        · exact mem_app_l (hx.1 l hl')
        · exact mem_app_r (hxs.1 l (by rw [structDead_eq']; exact List.mem_append.mpr (.inr hl')))
    · intro h
      rcases h with h | h
      · exact hd1 (dead_cur w j1 f1 h)
      · have h' : (stopsE x || stopsL xs) = true := h
        rcases Bool.or_eq_true_iff.mp h' with h' | h'
        · exact hd1 (hx.2 h')
        · exact hxs.2 (.inr h')
  | @if_nil st s e thn s3 _ ih =>
    intro hc il hl hokt _ hS
    exact ⟨dead_app (ih hc.if_nil il (hl.of_eq rfl) hokt hS.back_setCur.back_eue.back_edge).1 dead_none, fun _ hee => elseEnds_nil hee⟩
  | @if_chain st s e thn l a b s' e' s3 s5 hch hr1 hr2 ih1 ih2 =>
    intro hc il hl hokt hoke hS
    obtain ⟨c1, c2⟩ := hc.if_chain hr1 hr2
    have w := hc.wf
    have sm := hr1.stacks
    have hokab := hch.okLC hoke
    have hh := ih1 c1 il (hl.of_eq rfl) hokt (hS.of_inv (c2.conv.inv0 hr2))
    have ht := ih2 c2 il (hl.of_eq sm.loops) hokab.1 hokab.2 ((w.ctxLt (Nat.le_succ _)).of_eq sm.loops sm.excs) (Nat.le_succ_of_le w.two) hS
    refine ⟨?_, fun het hee => ?_⟩
    · rw [hch.structDead]
      exact dead_app hh.1 (fun l hl' => (ht.1 l hl').imp_left (hch.elifL_sub l))
    · obtain ⟨hea, heb⟩ := hch.elseEnds hee
      exact ht.2 hea heb (hh.2 (.inr (endsTerm_stopsL het))) (ifHead_run hr1 w)
  | @if_else st s e thn o os s3 s5 hne1 _ hr1 hr2 ih1 ih2 =>
    intro hc il hl hokt hoke hS
    obtain ⟨c1, c2⟩ := hc.if_else hr1 hr2
    have w := hc.wf
    have sm := hr1.stacks
    have hf : Fut E st.next _ _ := hc.fut
    have hm3 : st.next + 1 < s3.next := c1.next_le hr1
    have l5 : s3.next ≤ s5.next := Nat.le_of_succ_le (c2.next_le hr2)
    have key := thenElse_complete hne1 (c2.conv.inv0 hr2) (ih1 c1 il (hl.of_eq rfl) hokt) (ih2 c2 il (hl.of_eq sm.loops) hoke)
    rcases elseJoin_cases s5 s3.cur _ with h | h <;> rw [h] at hf hS ⊢
    · exact ⟨(key hS.back_setCur.back_bumpU).1,
        fun _ _ => fresh_dead (c2.conv.wf' hr2) (Nat.le_trans (Nat.le_of_lt (Nat.lt_of_succ_lt hm3)) l5) hf⟩
    · simp only [setCur_next, edgeUnlessExit_next] at hf
      obtain ⟨hA, hC⟩ := key hS.back_setCur.back_eue.back_eue
      refine ⟨hA, fun het hee => ?_⟩
      obtain ⟨h3, h5⟩ := hC het hee
      -- every edge into the merge block starts in the last block of one of the two branches
      have d5 : DI E s5 (st.next + 1) :=
        elsePart_DI hr2 ((w.ctxLt (Nat.le_succ _)).of_eq sm.loops sm.excs) (Nat.le_succ_of_le w.two) hm3 (ifHead_run hr1 w)
      exact dead_of_DI hf.back_setCur (Nat.le_succ st.next) (Nat.lt_of_lt_of_le hm3 l5)
        ((d5.eue_dead h3).eue_dead (by rw [edgeUnlessExit_cur]; exact h5)) (Nat.succ_ne_zero _)
  | @elifTail st cond te merge s' e' a b s5 hr ih =>
    intro hc il hl hoka hokb hctx h2 hS
    have c1 := hc.elifTail
    have hml := hc.conv.tail_merge
    have hm5 : merge < s5.next := Nat.lt_of_lt_of_le (Nat.lt_succ_of_lt hml) (c1.next_le hr)
    have hf : Fut E merge _ _ := hc.fut
    have hm0 : merge ≠ 0 := Nat.ne_of_gt (Nat.lt_of_lt_of_le Nat.zero_lt_two h2)
    have hE := ih c1 il (hl.of_eq rfl) hoka hokb (hctx.of_eq rfl rfl) h2
    have hd4 : DI E st merge → DI E (setCur ((bump st).edge cond st.next .condF) st.next) merge := fun hd => DI.edge_ne hd (Nat.ne_of_gt hml)
    -- the three ways `procIfElifTail` ends (cfg_builder.go:518-549): both the chain and the `then` branch (`te`) end in an unreachable
    -- block, which stays current; the chain does, `te` does not; the chain does not
    rcases tailJoin_cases s5 te merge with h | h | h <;> rw [h] at hf hS ⊢
    · obtain ⟨hA, hC⟩ := hE hS
      refine ⟨hA, fun hea heb _ hd => ?_⟩
      obtain ⟨d5, hc5⟩ := hC hea heb (hd4 hd)
      rcases hc5 with h | h
      · rw [h]; exact dead_of_DI hf (Nat.le_refl _) hm5 d5 hm0
      · exact h
    · simp only [setCur_next, edgeUnlessExit_next] at hf
      obtain ⟨hA, hC⟩ := hE hS.back_setCur.back_eue.back_setCur
      refine ⟨hA, fun hea heb hte hd => ?_⟩
      obtain ⟨d5, -⟩ := hC hea heb (hd4 hd)
      exact dead_of_DI hf.back_setCur (Nat.le_refl _) hm5 ((d5.setCur merge).eue_dead hte) hm0
    · simp only [setCur_next, edgeUnlessExit_next] at hf
      obtain ⟨hA, hC⟩ := hE hS.back_setCur.back_eue
      refine ⟨hA, fun hea heb hte hd => ?_⟩
      obtain ⟨d5, -⟩ := hC hea heb (hd4 hd)
      exact dead_of_DI hf.back_setCur (Nat.le_refl _) hm5 (d5.eue_dead hte) hm0
  | @elif_nil st s e thn fm s3 _ ih =>
    intro hc il hl hokt _ _ _ hS
    unfold finishElif at hS
    exact ⟨dead_app (ih hc.elif_nil il (hl.of_eq rfl) hokt hS.back_setCur.back_eue.back_edge).1 dead_none, fun _ hee => elseEnds_nil hee⟩
  | @elif_chain st s e thn l a b fm s' e' s3 s5 hch hr1 hr2 ih1 ih2 =>
    intro hc il hl hokt hoke hctx h2 hS
    obtain ⟨c1, c2⟩ := hc.elif_chain hr1 hr2
    have hfl : fm < st.next := hc.conv.elif_fm
    have sm := hr1.stacks
    have hokab := hch.okLC hoke
    have hf3 : fm < s3.next := Nat.lt_of_lt_of_le (Nat.lt_succ_of_lt hfl) (c1.next_le hr1)
    unfold finishElif at hS ⊢
    have hS5 := hS.back_setCur.back_eue
    have hh := ih1 c1 il (hl.of_eq rfl) hokt (hS5.of_inv (c2.conv.inv0 hr2)).back_setCur.back_edge.back_bump
    obtain ⟨hr, hcc⟩ := ih2 c2 il (hl.of_eq sm.loops) hokab.1 hokab.2 (hctx.of_eq sm.loops sm.excs) h2 hS5
    refine ⟨?_, fun het hee hd => ?_⟩
    · rw [hch.structDead]
      exact dead_app hh.1 (fun l hl' => (hr l hl').imp_left (hch.elifL_sub l))
    · obtain ⟨hea, heb⟩ := hch.elseEnds hee
      have d3 : DI E s3 fm := elifHead_run hr1 hctx h2 (Nat.le_refl _) hfl hd
      obtain ⟨d5, -⟩ := hcc hea heb (DI.edge_ne d3 (Nat.ne_of_gt hf3))
      exact ⟨(d5.eue_dead (hh.2 (.inr (endsTerm_stopsL het)))).setCur fm, .inl rfl⟩
  | @elif_else st s e thn fm o os s3 s5 hne1 _ hr1 hr2 ih1 ih2 =>
    intro hc il hl hokt hoke hctx h2 hS
    obtain ⟨c1, c2⟩ := hc.elif_else hr1 hr2
    have hfl : fm < st.next := hc.conv.elif_fm
    have sm := hr1.stacks
    have hf : Fut E st.next _ _ := hc.fut
    have l3 : st.next ≤ s3.next := Nat.le_of_succ_le (c1.next_le hr1)
    have l5 : s3.next ≤ s5.next := Nat.le_of_succ_le (c2.next_le hr2)
    have key := thenElse_complete hne1 (c2.conv.inv0 hr2) (ih1 c1 il (hl.of_eq rfl) hokt) (ih2 c2 il (hl.of_eq sm.loops) hoke)
    have d5 : DI E st fm → DI E s5 fm := fun hd =>
      elsePart_DI hr2 (hctx.of_eq sm.loops sm.excs) h2 (Nat.lt_of_lt_of_le hfl l3) (elifHead_run hr1 hctx h2 (Nat.le_refl _) hfl hd)
    rcases elseJoin_cases s5 s3.cur _ with h | h <;> rw [h] at hf hS ⊢
    · exact ⟨(key hS.back_setCur.back_bumpU).1,
        fun _ _ hd => ⟨(d5 hd).bumpU.setCur _, .inr (fresh_dead (c2.conv.wf' hr2) (Nat.le_trans l3 l5) hf)⟩⟩
    · unfold finishElif at hS ⊢
      obtain ⟨hA, hC⟩ := key hS.back_setCur.back_eue.back_eue
      refine ⟨hA, fun het hee hd => ?_⟩
      obtain ⟨h3, h5⟩ := hC het hee
      exact ⟨(((d5 hd).eue_dead h5).eue_dead h3).setCur fm, .inl rfl⟩
  | cases_nil st mb merge => exact fun _ il _ _ _ => by rw [subDead_nil]; exact dead_nil
  | @cases_case st s e body cs mb merge s1 s2 hr1 hr2 ih1 ih2 =>
    intro hc il hl hok hS
    rw [okCasesC_case, Bool.and_eq_true] at hok
    rw [subDead_cons, inStmt_case, elifL_cons, elifS_case]
    obtain ⟨c1, c2⟩ := hc.cases_case hr1 hr2
    exact dead_app (ih1 c1 il (hl.of_eq rfl) hok.1 (hS.of_inv (c2.conv.inv0 hr2)).back_eue).1
      (ih2 c2 il (hl.of_eq ((edgeUnlessExit_loops ..).trans (c1.conv.loops_eq hr1))) hok.2 hS)
  | @cases_other st x cs mb merge s1 s2 hne _ _ _ _ =>
    intro _ il _ hok
    obtain ⟨s, e, a, rfl, -, -⟩ := okCasesC_cons hok
    exact absurd rfl (hne s e a)
  | handlers_nil_l st hbs after => exact fun _ il _ _ _ => by rw [subDead_nil]; exact dead_nil
  | handlers_nil_r st hs after =>
    intro hc il _ _ _
    rw [List.eq_nil_of_length_eq_zero (Nat.le_zero.mp hc.conv.handlers_len), subDead_nil]
    exact dead_nil
  | @handlers_handler st s e body hs hb hbs after s1 s2 hr1 hr2 ih1 ih2 =>
    intro hc il hl hok hS
    rw [okHsC_handler, Bool.and_eq_true] at hok
    rw [subDead_cons, inStmt_handler, elifL_cons, elifS_handler]
    obtain ⟨c1, c2⟩ := hc.handlers_handler hr1 hr2
    exact dead_app (ih1 c1 il (hl.of_eq rfl) hok.1 (hS.of_inv (c2.conv.inv0 hr2)).back_eue).1
      (ih2 c2 il (hl.of_eq ((edgeUnlessExit_loops ..).trans (c1.conv.loops_eq hr1))) hok.2 hS)
  | @handlers_other st x hs hb hbs after s1 s2 hne _ _ _ _ =>
    intro _ il _ hok
    obtain ⟨s, e, a, rfl, -, -⟩ := okHsC_cons hok
    exact absurd rfl (hne s e a)
  | @tryMid s3 tryB cfin excs0 nat ah body handlers s5 s7 hr1 hr2 ih1 ih2 =>
    intro hc il hl hokb hokh hS
    obtain ⟨c1, c2⟩ := hc.tryMid hr1 hr2
    exact dead_app (ih1 c1 il (hl.of_eq rfl) hokb (((hS.of_inv (c2.conv.inv0 hr2)).of_stmts_eq (foldl_edge_stmts ..)).back_eue)).1
      (ih2 c2 il (hl.of_eq ((foldl_edge_loops ..).trans ((edgeUnlessExit_loops ..).trans (c1.conv.loops_eq hr1)))) hokh hS)
  | tryElse_none s7 elseB ah orelse => exact fun _ il _ _ hE _ => by rw [hE rfl]; exact dead_none
  | @tryElse_some s7 elseB ah orelse s _ ih =>
    intro hc il hl hok _ hS
    exact (ih hc.tryElse_some il (hl.of_eq rfl) hok hS.back_eue).1
  | tryFin_none s8 finB exitBk ctx excs0 fin => exact fun _ il _ _ hF _ => by rw [hF rfl]; exact dead_none
  | @tryFin_some s8 finB exitBk ctx excs0 fin s hr ih =>
    intro hc il hl hok _ hS
    exact (ih (hc.tryFin_some hr) il (hl.of_eq rfl) hok
      (hS.of_stmts_eq ((finallyPropagation_stmts ..).trans (edgeUnlessExit_stmts ..))).back_setExcs).1

/-- **Completeness of the builder mirror for statement lists**: whatever the final graph `E ⊇ edges` looks like, as long as no later
edge targets a block allocated while `ss` was processed, every structurally dead line of `ss` has a record in an unreachable block. -/
theorem complete_list (ss : List Stmt) (il : Bool) (st : St) (w : WF st) (hl : il = true → st.loops ≠ []) (hok : okLC il ss = true)
    (E : List Edge) (S : List SRec) (hE : ∃ later, E = later ++ (procList st ss).edges ∧ ∀ e ∈ later, e.2.1 < st.next ∨ (procList st ss).next ≤ e.2.1)
    (hS : ∀ r ∈ (procList st ss).stmts, r ∈ S) :
    ∀ l ∈ structDead ss, l ∈ elifL ss ∨ ∃ r ∈ S, r.s = l ∧ ¬ R E r.blk :=
  (complete_run ((run_all.2 ss).list st) ⟨w, hE⟩ il hl hok hS).1

/-- the edges of the finished graph: those of the body plus, possibly, one edge into EXIT -/
theorem build_fut (k : Kind) (s e : Nat) (body : List Stmt) :
    Fut (build k s e body).edges (preB k s e).next (procList (preB k s e) body).next (procList (preB k s e) body) := by
  have hnext : 2 ≤ (preB k s e).next := (preB_inv k s e).wf.two
  rw [build_eq]; unfold finishB
  split
  · refine ⟨[((procList (preB k s e) body).cur, exitB, .normal)], rfl, ?_⟩
    intro x hx
    rw [List.mem_singleton.mp hx]
    exact .inl (by show exitB < _; unfold exitB; omega)
  · exact ⟨[], rfl, fun _ h => by cases h⟩

theorem build_complete (k : Kind) (s e : Nat) (body : List Stmt) (hok : okLC false body = true) :
    ∀ l ∈ structDead body, l ∈ elifL body ∨
      ∃ r ∈ (build k s e body).stmts, r.s = l ∧ r.blk ∉ reachable (build k s e body) := by
  intro l hl
  have hS : ∀ r ∈ (procList (preB k s e) body).stmts, r ∈ (build k s e body).stmts := by
    rw [build_eq]; unfold finishB
    split
    · exact fun _ h => h
    · exact fun _ h => h
  rcases complete_list body false (preB k s e) (preB_inv k s e).wf (fun h => by cases h) hok _ _ (build_fut k s e body) hS l hl with h | ⟨r, hr, hs, hd⟩
  · exact .inl h
  · exact .inr ⟨r, hr, hs, fun hm => hd (reachable_sound _ hm)⟩

theorem build_complete_deadLines (k : Kind) (s e : Nat) (body : List Stmt) (hok : okLC false body = true) :
    ∀ l ∈ structDead body, l ∈ elifL body ∨ l ∈ deadLines (build k s e body) := by
  intro l hl
  rcases build_complete k s e body hok l hl with h | ⟨r, hr, hs, hb⟩
  · exact .inl h
  · refine .inr ?_
    unfold deadLines
    exact List.mem_map.mpr ⟨r, List.mem_filter.mpr ⟨hr, by simpa using hb⟩, hs⟩

/-- `okLC` is `okL4`: the same recursion, clause by clause (`d.isEmpty || okL4 il d` is `okL4 il d`) -/
theorem okLC_eq_okL4 : (∀ il ss, okLC il ss = okL4 il ss) ∧ (∀ il x, okSC il x = okS4 il x) ∧
    (∀ il hs, okHsC il hs = okHs4 il hs) ∧ (∀ il cs, okCasesC il cs = okCases4 il cs) := by
  apply okL4.mutual_induct
  all_goals intros
  all_goals simp only [okLC, okSC, okHsC, okCasesC, okL4, okS4, okHs4, okCases4, *]
  rename_i d _ _ _ _
  cases d <;> simp [okL4]

theorem okLC_of_okL3 (ss : List Stmt) (il f : Bool) (h : okL3 il f ss = true) : okLC il ss = true :=
  (okLC_eq_okL4.1 il ss).trans (okL4_of_okL3 ss il f h)

end PV.CFGSound

#print axioms PV.CFGSound.build_complete
#print axioms PV.CFGSound.build_complete_deadLines
