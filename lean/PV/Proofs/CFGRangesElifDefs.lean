import PV.Proofs.CFGRangesDefs
/-!
Reported ranges for the heads of `elif` clauses: the fragment `okEL` (stated with `firstLoc`) and what the static argument delivers
for such a head (`ElifOK`).  The spans of the located statements, `spansL` / `spansS`, are in `CFGRecords`.
-/
namespace PV.CFGSound
open PV.CFG

/-- the start line of the located statement the list begins with (looking through `try:`) -/
def firstLoc : List Stmt → Option Nat
  | [] => none
  | .try_ _ _ a _ _ _ :: _ => firstLoc a
  | .elsec .. :: _ | .elifc .. :: _ => none
  | x :: _ => some x.span.1
termination_by l => sizeL l
decreasing_by
  all_goals (try simp_wf)
  all_goals (try simp only [Stmt.size, sizeL])
  all_goals omega

theorem firstLoc_nil : firstLoc [] = none := firstLoc.eq_1 ..
theorem firstLoc_try (s e : Nat) (a hs c d xs : List Stmt) : firstLoc (.try_ s e a hs c d :: xs) = firstLoc a := firstLoc.eq_2 ..
theorem firstLoc_elsec (s e : Nat) (a xs : List Stmt) : firstLoc (.elsec s e a :: xs) = none := firstLoc.eq_3 ..
theorem firstLoc_elifc (s e : Nat) (a b xs : List Stmt) : firstLoc (.elifc s e a b :: xs) = none := firstLoc.eq_4 ..
theorem firstLoc_other (x : Stmt) (xs : List Stmt) (h1 : ∀ s e a hs c d, x ≠ .try_ s e a hs c d) (h2 : ∀ s e a, x ≠ .elsec s e a)
    (h3 : ∀ s e a b, x ≠ .elifc s e a b) : firstLoc (x :: xs) = some x.span.1 := by
  unfold firstLoc
  split
  · rename_i h; cases h
  · rename_i h; cases h; exact absurd rfl (h1 _ _ _ _ _ _)
  · rename_i h; cases h; exact absurd rfl (h2 _ _ _)
  · rename_i h; cases h; exact absurd rfl (h3 _ _ _ _)
  · rename_i h; cases h; rfl

-- both `decreasing_by` blocks are written with the same `simp only` set, and each uses one of its two lemmas
set_option linter.unusedSimpArgs false in
mutual
  /-- every `elif` clause (at any depth) has a then-branch that begins with a located statement -/
  def okEL : List Stmt → Bool
    | [] => true
    | x :: xs => okES x && okEL xs
  termination_by l => 2 * sizeL l
  decreasing_by
    all_goals (try simp_wf)
    all_goals (try simp only [Stmt.size, sizeL])
    all_goals omega
  def okES : Stmt → Bool
    | .simple .. | .ret .. | .brk .. | .cont .. | .raise .. | .def_ .. => true
    | .elifc _ _ a b => (firstLoc a).isSome && okEL a && okEL b
    | .ite _ _ a b | .loop _ _ a b => okEL a && okEL b
    | .elsec _ _ a | .handler _ _ a | .with_ _ _ a | .match_ _ _ a | .case_ _ _ a | .class_ _ _ a => okEL a
    | .try_ _ _ a hs c d => okEL a && okEL hs && okEL c && okEL d
  termination_by x => 2 * x.size + 1
  decreasing_by
    all_goals (try simp_wf)
    all_goals (try simp only [Stmt.size, sizeL])
    all_goals omega
end

theorem okEL_nil : okEL [] = true := okEL.eq_1 ..
theorem okEL_cons (x : Stmt) (xs : List Stmt) : okEL (x :: xs) = (okES x && okEL xs) := okEL.eq_2 ..
theorem okES_elifc (s e : Nat) (a b : List Stmt) : okES (.elifc s e a b) = ((firstLoc a).isSome && okEL a && okEL b) := okES.eq_7 ..
theorem okES_ite (s e : Nat) (a b : List Stmt) : okES (.ite s e a b) = (okEL a && okEL b) := okES.eq_8 ..
theorem okES_loop (s e : Nat) (a b : List Stmt) : okES (.loop s e a b) = (okEL a && okEL b) := okES.eq_9 ..
theorem okES_elsec (s e : Nat) (a : List Stmt) : okES (.elsec s e a) = okEL a := okES.eq_10 ..
theorem okES_handler (s e : Nat) (a : List Stmt) : okES (.handler s e a) = okEL a := okES.eq_11 ..
theorem okES_with (s e : Nat) (a : List Stmt) : okES (.with_ s e a) = okEL a := okES.eq_12 ..
theorem okES_match (s e : Nat) (a : List Stmt) : okES (.match_ s e a) = okEL a := okES.eq_13 ..
theorem okES_case (s e : Nat) (a : List Stmt) : okES (.case_ s e a) = okEL a := okES.eq_14 ..
theorem okES_class (s e : Nat) (a : List Stmt) : okES (.class_ s e a) = okEL a := okES.eq_15 ..
theorem okES_try (s e : Nat) (a hs c d : List Stmt) : okES (.try_ s e a hs c d) = (okEL a && okEL hs && okEL c && okEL d) := okES.eq_16 ..

/-- what the static argument delivers for the head `l` of a live `elif` clause: a live located line `l₁` after it such that no
located statement starts at `l`, every located statement that starts before `l` and reaches `l` also covers `l₁`, and every
located statement after `l` starts at or after `l₁` -/
def ElifOK (spans : List (Nat × Nat)) (lines : List Nat) (l : Nat) : Prop :=
  ∃ l₁ ∈ lines, l < l₁ ∧ ∀ sp ∈ spans, sp.1 ≠ l ∧ (sp.1 < l → l ≤ sp.2 → l₁ ≤ sp.2) ∧ (l < sp.1 → l₁ ≤ sp.1)

end PV.CFGSound
