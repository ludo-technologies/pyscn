import PV.Model.UFArray
import PV.Proofs.UFCorrect
import PV.Properties.C11
/-!
The array implementation `PV.UF.Arr` computes the same states (through `AState.abs`), the same roots
and the same components as the function model `PV.UF`, for all inputs; hence the components are the classes of
mutual reachability of any graph whose mutual reachability the edge list generates (used for C10 and C14).
-/
namespace PV.UF.Arr

theorem getD_set (a : Array Nat) (d : Nat → Nat) (x v y : Nat) (hx : x < a.size) :
    (a.setIfInBounds x v).getD y (d y) = if y = x then v else a.getD y (d y) := by
  simp only [Array.getD_eq_getD_getElem?, Array.getElem?_setIfInBounds]
  by_cases h : y = x
  · subst h; simp [hx]
  · have : ¬ x = y := fun e => h e.symm
    simp [h, this]

theorem lt_size_of_nonroot (a : Array Nat) (x : Nat) (h : a.getD x x ≠ x) : x < a.size := by
  by_cases hx : x < a.size
  · exact hx
  · simp [Array.getD_eq_getD_getElem?, Array.getElem?_eq_none (Nat.le_of_not_lt hx)] at h

theorem abs_init (n : Nat) : (init n).abs = PV.UF.init := by
  simp only [AState.abs, init, PV.UF.init, State.mk.injEq]
  constructor
  · funext x
    simp only [Array.getD_eq_getD_getElem?, Array.getElem?_range]
    split <;> simp
  · funext x
    simp only [Array.getD_eq_getD_getElem?, Array.getElem?_replicate]
    split <;> simp

theorem abs_set_parent (p r : Array Nat) (x v : Nat) (hx : x < p.size) :
    (AState.mk (p.setIfInBounds x v) r).abs =
      ⟨upd (AState.mk p r).abs.parent x v, (AState.mk p r).abs.rank⟩ := by
  simp only [AState.abs, State.mk.injEq, and_true]
  funext y
  exact getD_set p (fun y => y) x v y hx

theorem abs_set_rank (p r : Array Nat) (x v : Nat) (hx : x < r.size) :
    (AState.mk p (r.setIfInBounds x v)).abs =
      ⟨(AState.mk p r).abs.parent, upd (AState.mk p r).abs.rank x v⟩ := by
  simp only [AState.abs, State.mk.injEq, true_and]
  funext y
  exact getD_set r (fun _ => 0) x v y hx

/-- `Arr.find` simulates `find` (unconditionally) and keeps the array sizes -/
theorem find_sim (fuel : Nat) : ∀ (a : AState) (x : Nat),
    (find fuel a x).2 = (PV.UF.find fuel a.abs x).2 ∧
    (find fuel a x).1.abs = (PV.UF.find fuel a.abs x).1 ∧
    (find fuel a x).1.parent.size = a.parent.size ∧ (find fuel a x).1.rank.size = a.rank.size := by
  induction fuel with
  | zero => intro a x; exact ⟨rfl, rfl, rfl, rfl⟩
  | succ f ih =>
    intro a x
    by_cases hx : a.parent.getD x x = x
    · have hx' : a.abs.parent x = x := hx
      simp [find, PV.UF.find, hx, hx']
    · have hx' : ¬ a.abs.parent x = x := hx
      obtain ⟨e1, e2, e3, e4⟩ := ih a (a.parent.getD x x)
      have hlt : x < (find f a (a.parent.getD x x)).1.parent.size := by
        rw [e3]; exact lt_size_of_nonroot _ _ hx
      simp only [find, PV.UF.find, hx, hx', if_false]
      refine ⟨e1, ?_, ?_, e4⟩
      · rw [abs_set_parent _ _ _ _ hlt, e1]
        show State.mk (upd (find f a (a.parent.getD x x)).1.abs.parent x _)
          (find f a (a.parent.getD x x)).1.abs.rank = _
        rw [e2]; rfl
      · rw [Array.size_setIfInBounds, e3]

theorem union_sim {n : Nat} {a : AState} (hp : a.parent.size = n) (hr : a.rank.size = n)
    (h : Inv n a.abs) {x y : Nat} (hx : x < n) (hy : y < n) :
    (union n a x y).abs = PV.UF.union n a.abs x y ∧
    (union n a x y).parent.size = n ∧ (union n a x y).rank.size = n := by
  obtain ⟨a1, a2, a3, a4⟩ := find_sim n a x
  obtain ⟨b1, b2, b3, b4⟩ := find_sim n (find n a x).1 y
  rw [a2] at b1 b2
  obtain ⟨r1, i1, _, _⟩ := find_inv h x
  obtain ⟨r2, i2, _, _⟩ := find_inv i1 y
  have hra : (find n a x).2 < n := a1 ▸ h.root_lt r1 hx
  have hrb : (find n (find n a x).1 y).2 < n := b1 ▸ i1.root_lt r2 hy
  have hps : (find n (find n a x).1 y).1.parent.size = n := by rw [b3, a3, hp]
  have hrs : (find n (find n a x).1 y).1.rank.size = n := by rw [b4, a4, hr]
  unfold union PV.UF.union
  dsimp only
  -- name the four `find` results: the case analysis below is about small terms
  generalize find n a x = fa at a1 b1 b2 hra hrb hps hrs ⊢
  generalize find n fa.1 y = fb at b1 b2 hrb hps hrs ⊢
  generalize PV.UF.find n a.abs x = ga at a1 b1 b2 ⊢
  generalize PV.UF.find n ga.1 y = gb at b1 b2 ⊢
  rw [← a1, ← b1, ← b2]
  have hrk : ∀ z, fb.1.abs.rank z = fb.1.rank.getD z 0 := fun _ => rfl
  simp only [hrk]
  have hsp : ∀ z v, (fb.1.parent.setIfInBounds z v).size = n := fun z v => by rw [Array.size_setIfInBounds]; exact hps
  by_cases h1 : fa.2 = fb.2
  · rw [if_pos h1, if_pos h1]
    exact ⟨rfl, hps, hrs⟩
  · rw [if_neg h1, if_neg h1]
    by_cases h2 : fb.1.rank.getD fa.2 0 < fb.1.rank.getD fb.2 0
    · rw [if_pos h2, if_pos h2]
      exact ⟨abs_set_parent _ _ _ _ (by rw [hps]; exact hra), hsp _ _, hrs⟩
    · rw [if_neg h2, if_neg h2]
      by_cases h3 : fb.1.rank.getD fa.2 0 > fb.1.rank.getD fb.2 0
      · rw [if_pos h3, if_pos h3]
        exact ⟨abs_set_parent _ _ _ _ (by rw [hps]; exact hrb), hsp _ _, hrs⟩
      · rw [if_neg h3, if_neg h3]
        refine ⟨?_, hsp _ _, by rw [Array.size_setIfInBounds]; exact hrs⟩
        rw [abs_set_parent _ _ _ _ (by rw [hps]; exact hrb), abs_set_rank _ _ _ _ (by rw [hrs]; exact hra)]

theorem run_sim (n : Nat) (edges : List (Nat × Nat)) : (run n edges).abs = PV.UF.run n edges := by
  refine (List.foldl_rel (r := fun (a : AState) (s : State) => a.abs = s ∧ a.parent.size = n ∧ a.rank.size = n ∧ Inv n s)
    ⟨abs_init n, by simp [init], by simp [init], inv_init n⟩ fun e _ a s ⟨ha, hp, hr, h⟩ => ?_).1
  subst ha
  unfold step PV.UF.step
  split
  · next hc =>
    obtain ⟨u1, u2, u3⟩ := union_sim hp hr h hc.1 hc.2
    exact ⟨u1, u2, u3, union_inv h hc.1 hc.2⟩
  · exact ⟨rfl, hp, hr, h⟩

theorem labelPass_sim (n : Nat) : ∀ (vs : List Nat) (a : AState),
    labelPass n a vs = PV.UF.labelPass n a.abs vs
  | [], _ => rfl
  | v :: vs, a => by
    obtain ⟨e1, e2, _, _⟩ := find_sim n a v
    simp only [labelPass, PV.UF.labelPass]
    rw [labelPass_sim n vs, e1, e2]

theorem components_eq (n : Nat) (edges : List (Nat × Nat)) :
    components n edges = PV.UF.components n edges := by
  rw [components, PV.UF.components, labelPass_sim, run_sim]

theorem same_class_iff_conn (n : Nat) (edges : List (Nat × Nat)) {u v : Nat} (hu : u < n)
    (hv : v < n) : (∃ c ∈ components n edges, u ∈ c ∧ v ∈ c) ↔ Conn n edges u v := by
  rw [components_eq]; exact PV.UF.same_class_iff_conn n edges hu hv

theorem components_perm (n : Nat) (edges : List (Nat × Nat)) :
    (components n edges).flatten.Perm (List.range n) := by
  rw [components_eq]; exact PV.UF.components_perm n edges

/-! ## the components are the classes of any graph whose mutual reachability the edge list generates -/

section classes
open PV.SCC PV.C11 PV.Classes

/-- `components g.n E` and `classes g` are the canonical listings of the classes of two relations that agree below `g.n` -/
theorem components_eq_classes (g : G) (E : List (Nat × Nat))
    (hconn : ∀ u v, u < g.n → v < g.n → (PV.UF.Conn g.n E u v ↔ Mutual g u v))
    (cs : List (List Nat)) (h : classes g = some cs) : components g.n E = cs := by
  cases (classes_eq g).symm.trans h
  rw [components_eq, PV.UF.components_eq_classes]
  refine classes_congr fun u v hu hv => ?_
  rw [Bool.eq_iff_iff, PV.UF.sameSet_iff_conn, hconn u v hu hv, mutualB_iff hu hv]

theorem class_eq_comp (g : G) (E : List (Nat × Nat))
    (hconn : ∀ u v, u < g.n → v < g.n → (PV.UF.Conn g.n E u v ↔ Mutual g u v)) (c : List Nat)
    (hc : c ∈ PV.UF.components g.n E) (u : Nat) (hu : u ∈ c) : u < g.n ∧ c = comp g (reachTable g) u := by
  rw [← components_eq, components_eq_classes g E hconn _ (classes_eq g)] at hc
  exact eq_cls_of_mem (equivOn_mutualB g) hc hu

end classes

example : components 5 [(0, 1), (3, 4), (1, 2)] = [[0, 1, 2], [3, 4]] := by
  rw [components_eq]; decide +kernel

#print axioms components_eq
#print axioms same_class_iff_conn

end PV.UF.Arr
