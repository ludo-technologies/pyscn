import PV.Proofs.CFGRanges
import PV.Proofs.CFGRangesSpans
import PV.Proofs.CFGRangesStatic
import PV.Proofs.CFGRangesElifDefs
import PV.Proofs.CFGRangesLeaf
/-!
Reported ranges, completeness (C02): every structurally dead line lies INSIDE a line range (start of the oldest record … end of the newest record)
that `findings` reports for an unreachable block.  From the facts about the final record list — `GZ`, pairwise `Rel`
(its `ord` part), `ZF` (a `0..0` record is the oldest of its block), `s ≤ e` for every record — the start line of EVERY record lies
inside the range of its block (`block_range`), so every record of an unreachable block starts inside a reported range
(`findings_cover`); `build_complete` provides such a record for a structurally dead line that is not the head of an `elif` clause
(`mirror_ranges_complete`).  `ranges_cover_records` / `ranges_cover_span` are the same for a span of lines (used for the heads of
`elif` clauses), `okC2` is the fragment of the statement.
-/
/-!
Reported ranges, completeness (C02): on the fragment without standalone `elif` clauses, every record with end line 0 is the OLDEST record
of its block (`ZF`).  Read off the record trace (`procList_tr`, `Tr.zf`): the only place where such a record is stored is the test of
an `elif` clause that continues a chain, and that is stored in a block that holds no record.
-/
namespace PV.CFGSound
open PV.CFG

def ZQL (ss : List Stmt) : Prop :=
  ∀ (il : Bool) (st : St), WF st → okLC il ss = true → noSEL ss = true → NZ (spansL ss) → ZF st.stmts → ZF (procList st ss).stmts

theorem procList_zf (ss : List Stmt) : ZQL ss := by
  intro il st w _ hno hnz hz
  exact (procList_tr ss true false il st w (fun _ => hno) (fun h => nomatch h)).zf
    (fun x hx ht => hnz _ ((proj_all.2 ss).span_mem hx ht)) hz

theorem build_zf (k : Kind) (s e : Nat) (body : List Stmt) (hok : okLC false body = true) (hno : noSEL body = true)
    (hnz : NZ (spansL body)) (hse : k = .cls → e ≠ 0) : ZF (build k s e body).stmts := by
  rw [build_eq, finishB_stmts]
  refine procList_zf body false _ (preB_inv k s e).wf hok hno hnz ?_
  cases k
  · trivial
  · exact ZF.add_nz (L := []) trivial (hse rfl)
  · trivial

end PV.CFGSound

#print axioms PV.CFGSound.procList_zf
#print axioms PV.CFGSound.build_zf

namespace PV.CFGSound
open PV.CFG PV.SD

theorem block_range {E : List Edge} {L : List SRec} (hgz : GZ L) (hpw : L.Pairwise (Rel E)) (hzf : ZF L)
    (hval : ∀ r ∈ L, r.s = 0 → r.e = 0) (hse : ∀ r ∈ L, r.s ≤ r.e) {r : SRec} (hr : r ∈ L) :
    (infoR r.blk L).nonEmpty = true ∧ (infoR r.blk L).start ≤ r.s ∧ r.s ≤ (infoR r.blk L).stop := by
  obtain ⟨a, h, t, c, hL, ha, hc, hh, ht, hz⟩ := GZ.decomp (b := r.blk) hgz ⟨r, hr, rfl⟩
  subst hL
  rw [infoR_append_norec _ ha]
  obtain ⟨i1, i2, fst, hfst, i3⟩ := infoR_seg hc t h hh ht
  have hrm : r ∈ h :: t := by
    rcases List.mem_append.mp hr with hra | hr
    · exact absurd rfl (ha r hra)
    · rcases List.mem_cons.mp hr with rfl | hr
      · exact List.mem_cons_self ..
      · rcases List.mem_append.mp hr with hr | hr
        · exact List.mem_cons_of_mem _ hr
        · exact absurd rfl (hc r hr)
  have hp1 : (h :: (t ++ c)).Pairwise (Rel E) := (List.pairwise_append.mp hpw).2.1
  have hp2 : (h :: t).Pairwise (Rel E) := (List.pairwise_append.mp (show ((h :: t) ++ c).Pairwise (Rel E) from hp1)).1
  have hp3 : (h :: t).Pairwise OrdR := hp2.imp (fun rel => rel.ord)
  have hzh : h.e = 0 → NoRec (t ++ c) h.blk := (ZF.suffix hzf).2
  have hhm : h ∈ a ++ h :: (t ++ c) := List.mem_append.mpr (.inr (List.mem_cons_self ..))
  refine ⟨i2, ?_, ?_⟩
  · by_cases h1 : 1 ≤ r.s
    · exact infoR_seg_start hc t h hh ht hp3 r hrm h1
    · -- a `0..0` record is alone in its block
      have hre : r.e = 0 := hval r hr (by omega)
      have hrh : r = h := by
        rcases List.mem_cons.mp hrm with e | hrt
        · exact e
        · exact absurd hre (hz r hrt)
      subst hrh
      have htn : t = [] := by
        rcases t with _ | ⟨y, t⟩
        · rfl
        · exact absurd ((ht y (List.mem_cons_self ..)).trans hh.symm) (hzh hre y (List.mem_cons_self ..))
      subst htn
      have hf : fst = r := List.mem_singleton.mp hfst
      rw [i3, hf]
      exact Nat.le_refl _
  · rw [i1]
    rcases List.mem_cons.mp hrm with e | hrt
    · rw [e]; exact hse h hhm
    · have hne : h.e ≠ 0 := fun h0 => hzh h0 r (List.mem_append.mpr (.inl hrt)) (hh.symm ▸ rfl)
      have hhs : 1 ≤ h.s := by
        apply Classical.byContradiction
        intro hn
        exact hne (hval h hhm (by omega))
      have := hse h hhm
      by_cases h1 : 1 ≤ r.s
      · have := ((List.pairwise_cons.mp hp2).1 r hrt).ord h1 hhs
        omega
      · omega

theorem findings_cover (st : St) (w : WF st) (hgz : GZ st.stmts) (hpw : st.stmts.Pairwise (Rel st.edges)) (hzf : ZF st.stmts)
    (hval : ∀ r ∈ st.stmts, r.s = 0 → r.e = 0) (hse : ∀ r ∈ st.stmts, r.s ≤ r.e) :
    ∀ r ∈ st.stmts, r.blk ∉ reachable st → ∃ f ∈ findings st, f.s ≤ r.s ∧ r.s ≤ f.e := by
  intro r hr hd
  have hb : r.blk < st.next := w.stmts r hr
  obtain ⟨h1, h2, h3⟩ := block_range hgz hpw hzf hval hse hr
  obtain ⟨f, hf, fs, fe⟩ := findings_intro hb hd h1
  exact ⟨f, hf, by rw [fs]; exact h2, by rw [fe]; exact h3⟩

/-- if `r` is the NEWEST record of its (unreachable) block, the range reported for the block ends exactly at the end line of `r`:
it covers the whole span `r.s … r.e` of the statement of `r` -/
theorem findings_cover_newest (st : St) (w : WF st) (hgz : GZ st.stmts) (hpw : st.stmts.Pairwise (Rel st.edges)) (hzf : ZF st.stmts)
    (hval : ∀ r ∈ st.stmts, r.s = 0 → r.e = 0) (hse : ∀ r ∈ st.stmts, r.s ≤ r.e) {a c : List SRec} {r : SRec}
    (hL : st.stmts = a ++ r :: c) (ha : NoRec a r.blk) (hd : r.blk ∉ reachable st) :
    ∃ f ∈ findings st, f.s ≤ r.s ∧ f.e = r.e := by
  have hr : r ∈ st.stmts := by rw [hL]; exact List.mem_append.mpr (.inr (List.mem_cons_self ..))
  have hb : r.blk < st.next := w.stmts r hr
  obtain ⟨h1, h2, _⟩ := block_range hgz hpw hzf hval hse hr
  have hstop : (infoR r.blk st.stmts).stop = r.e := by
    rw [hL, infoR_append_norec _ ha]
    show (if r.blk = r.blk then upd (infoR r.blk c) r else infoR r.blk c).stop = _
    rw [if_pos rfl, upd_stop]
  obtain ⟨f, hf, fs, fe⟩ := findings_intro hb hd h1
  exact ⟨f, hf, by rw [fs]; exact h2, by rw [fe]; exact hstop⟩

/-- the fragment of the range-level completeness theorem: that of the record-level theorem (`okLC false`), without standalone
`elif` clauses -/
def okC2 (body : List Stmt) : Bool := okLC false body && noSEL body

theorem build_nz {k : Kind} {s e : Nat} {body : List Stmt} (hwf : WFDef k s e body) : NZ (spansL body) := by
  intro sp hs
  have := spans_bounds body 1 hwf.wfl sp hs
  omega

/-- `ZF` for the final record list of a well-formed definition (`build_zf` with its side conditions discharged from `WFDef`) -/
theorem build_zf_wf (k : Kind) (s e : Nat) (body : List Stmt) (hok : okLC false body = true) (hno : noSEL body = true)
    (hwf : WFDef k s e body) : ZF (build k s e body).stmts :=
  build_zf k s e body hok hno (build_nz hwf) (fun hk => by subst hk; have := hwf.1; have := hwf.2.1; omega)

theorem build_se (k : Kind) (s e : Nat) (body : List Stmt) (hok : okLC false body = true) (hwf : WFDef k s e body) :
    ∀ r ∈ (build k s e body).stmts, r.s ≤ r.e := by
  intro r hr
  rcases build_spans k s e body hok r hr with hp | hz | hsp
  · obtain ⟨rfl, rfl⟩ := preB_stmts hp
    exact hwf.2.1
  · omega
  · have := spans_bounds body 1 hwf.wfl _ hsp
    exact this.2.1

theorem ranges_cover_records (k : Kind) (s e : Nat) (body : List Stmt) (hok : okLC false body = true) (hno : noSEL body = true)
    (hwf : WFDef k s e body) :
    ∀ r ∈ (build k s e body).stmts, r.blk ∉ reachable (build k s e body) →
      ∃ f ∈ findings (build k s e body), f.s ≤ r.s ∧ r.s ≤ f.e := by
  obtain ⟨hgz, hpw, hv⟩ := build_rq k s e body hok hwf
  have hzf := build_zf_wf k s e body hok hno hwf
  exact findings_cover _ (build_wf k s e body) hgz hpw hzf hv (build_se k s e body hok hwf)

/-- every line of the span of a statement whose record is the newest of an unreachable block lies inside a reported range
(this is how the head of an `elif` clause inside a dead `if` statement is covered: by the range of the block of the `if` test) -/
theorem ranges_cover_span (k : Kind) (s e : Nat) (body : List Stmt) (hok : okLC false body = true) (hno : noSEL body = true)
    (hwf : WFDef k s e body) {a c : List SRec} {r : SRec} (hL : (build k s e body).stmts = a ++ r :: c) (ha : NoRec a r.blk)
    (hd : r.blk ∉ reachable (build k s e body)) :
    ∀ l, r.s ≤ l → l ≤ r.e → ∃ f ∈ findings (build k s e body), f.s ≤ l ∧ l ≤ f.e := by
  obtain ⟨hgz, hpw, hv⟩ := build_rq k s e body hok hwf
  have hzf := build_zf_wf k s e body hok hno hwf
  obtain ⟨f, hf, h1, h2⟩ := findings_cover_newest _ (build_wf k s e body) hgz hpw hzf hv (build_se k s e body hok hwf) hL ha hd
  intro l hl1 hl2
  exact ⟨f, hf, by omega, by omega⟩

theorem mirror_ranges_complete (k : Kind) (s e : Nat) (body : List Stmt) (hok : okLC false body = true) (hno : noSEL body = true)
    (hwf : WFDef k s e body) :
    ∀ l ∈ structDead body, l ∈ elifL body ∨ ∃ f ∈ findings (build k s e body), f.s ≤ l ∧ l ≤ f.e := by
  intro l hl
  rcases build_complete k s e body hok l hl with h | ⟨r, hr, hs, hb⟩
  · exact .inl h
  · refine .inr ?_
    have := ranges_cover_records k s e body hok hno hwf r hr hb
    rwa [hs] at this

end PV.CFGSound

#print axioms PV.CFGSound.block_range
#print axioms PV.CFGSound.findings_cover
#print axioms PV.CFGSound.mirror_ranges_complete
#print axioms PV.CFGSound.ranges_cover_span
