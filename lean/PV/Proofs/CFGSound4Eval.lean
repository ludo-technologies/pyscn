import PV.Proofs.CFGSound4Defs
/-!
Evaluation (not imported by the proofs): is the mirror sound on programs with `try … finally` nested inside `finally` bodies?
For every generated program of the fragment `okL4 false`, every line of `sxL body` and every line of the semantic
over-approximation `live body` that is not an `elif` head must be among `liveLines (build .func …)`.
-/
namespace PV.CFGSound.Eval4
open PV.CFG PV.Py PV.CFGSound

-- renumber: one statement per line, in source order; a statement of any other kind (`.elsec` among them) is left as it is, with what is under it
mutual
  partial def renS (n : Nat) : Stmt → Stmt × Nat
    | .simple _ _ c h => (.simple n n c h, n + 1)
    | .ret _ _ c h => (.ret n n c h, n + 1)
    | .brk _ _ => (.brk n n, n + 1)
    | .cont _ _ => (.cont n n, n + 1)
    | .raise _ _ => (.raise n n, n + 1)
    | .ite _ _ a b => let (a', n1) := renL (n + 1) a; let (b', n2) := renL (if b.isEmpty then n1 else n1 + 1) b; (.ite n n2 a' b', n2)
    | .loop _ _ a b => let (a', n1) := renL (n + 1) a; let (b', n2) := renL (if b.isEmpty then n1 else n1 + 1) b; (.loop n n2 a' b', n2)
    | .try_ _ _ a hs c d =>
      let (a', n1) := renL (n + 1) a
      let (hs', n2) := renL n1 hs
      let (c', n3) := renL (if c.isEmpty then n2 else n2 + 1) c
      let (d', n4) := renL (if d.isEmpty then n3 else n3 + 1) d
      (.try_ n n4 a' hs' c' d', n4)
    | .handler _ _ a => let (a', n1) := renL (n + 1) a; (.handler n n1 a', n1)
    | .with_ _ _ a => let (a', n1) := renL (n + 1) a; (.with_ n n1 a', n1)
    | x => (x, n)
  partial def renL (n : Nat) : List Stmt → List Stmt × Nat
    | [] => ([], n)
    | x :: xs => let (x', n1) := renS n x; let (xs', n2) := renL n1 xs; (x' :: xs', n2)
end

def ren (b : List Stmt) : List Stmt := (renL 2 b).1

/-- lines claimed live (static summary, semantic over-approximation) that the mirror leaves in unreachable blocks -/
def bad (body : List Stmt) : List Nat :=
  let ll := liveLines (build .func 1 1 body)
  let sx := sxL body
  (sx.lines ++ ((live body).lines.filter (fun l => !sx.skipped.contains l))).filter (fun l => !ll.contains l)

def leaves : List (List Stmt) := [[.simple 0 0 [] false], [.ret 0 0 [] false], [.raise 0 0], [.brk 0 0], [.cont 0 0]]
def smp : Stmt := .simple 0 0 [] false

/-- compound statements over blocks `B` (handlers from `H`) -/
def stmtsOver (B H : List (List Stmt)) : List Stmt :=
  (B.flatMap fun b => B.map fun f => Stmt.try_ 0 0 b [] [] f) ++
  (B.flatMap fun b => B.flatMap fun f => H.map fun h => Stmt.try_ 0 0 b [.handler 0 0 h] [] f) ++
  (B.map fun b => Stmt.loop 0 0 b []) ++ (B.map fun b => Stmt.ite 0 0 b [])

def B0 := leaves
def S1 := stmtsOver B0 B0
def B1 : List (List Stmt) := B0 ++ S1.map (fun s => [s]) ++ S1.map (fun s => [s, smp])
def B1s : List (List Stmt) := B0 ++ S1.map (fun s => [s])

/-- run the test over a list of candidate bodies: (tested = in fragment, failures) -/
def runAll (cands : List (List Stmt)) : Nat × List (List Stmt) :=
  cands.foldl (fun (acc : Nat × List (List Stmt)) b =>
    let b := ren b
    if okL4 false b then (if (bad b).isEmpty then (acc.1 + 1, acc.2) else (acc.1 + 1, if acc.2.length < 5 then b :: acc.2 else acc.2)) else acc) (0, [])

#eval (B1.length, (runAll B1).1, (runAll B1).2.length)

def S2 := stmtsOver B1s B0
def runS (ss : List Stmt) : Nat × List (List Stmt) :=
  let a := runAll (ss.map fun s => [s])
  let b := runAll (ss.map fun s => [s, smp])
  let c := runAll (ss.map fun s => [Stmt.loop 0 0 [s] [], smp])
  (a.1 + b.1 + c.1, a.2 ++ b.2 ++ c.2)
#eval (S2.length, (runS S2).1, (runS S2).2)
