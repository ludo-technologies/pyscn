import PV.Proofs.CFGSoundSx
import PV.Proofs.CFGSound4Defs
import PV.Proofs.CFGEqns
/-!
The fragments on which the soundness of the builder mirror is proved, beyond the `try`-free `okL`:
`okL3 inLoop inFin` adds `try` statements whose handlers are `except` clauses, where a `try` with a non-empty `finally` must
not occur inside a `finally` body (flag `inFin`); `okL4 inLoop` drops that restriction; `S4.okL3 inLoop f` is `okL4` with an
inert flag, the form the induction of `CFGSound4` runs on.  `okL ⊆ okL3 ⊆ okL4 ⊆ S4.okL3`.
-/
namespace PV.CFGSound
open PV.CFG PV.Py

-- `decreasing_by` runs one `simp only` on every goal, and not every goal needs both of its lemmas
set_option linter.unusedSimpArgs false in
mutual
  def okL3 (il inFin : Bool) : List Stmt → Bool
    | [] => true
    | x :: xs => okS3 il inFin x && okL3 il inFin xs
  termination_by l => 2 * sizeL l
  decreasing_by
    all_goals (try simp_wf)
    all_goals (try simp only [Stmt.size, sizeL])
    all_goals omega
  def okS3 (il inFin : Bool) : Stmt → Bool
    | .simple .. | .def_ .. | .ret .. | .raise .. => true
    | .brk .. | .cont .. => il
    | .ite _ _ a b | .elifc _ _ a b => okL3 il inFin a && okL3 il inFin b
    | .elsec _ _ a => okL3 il inFin a
    | .loop _ _ a b => okL3 true inFin a && okL3 il inFin b
    | .with_ _ _ a => okL3 il inFin a
    | .match_ _ _ cs => okCases3 il inFin cs
    | .class_ _ _ a => okL3 false inFin a
    | .try_ _ _ a hs c d => okL3 il inFin a && okHs3 il inFin hs && okL3 il inFin c && (d.isEmpty || (!inFin && okL3 il true d))
    | .handler .. | .case_ .. => false
  termination_by x => 2 * x.size + 1
  decreasing_by
    all_goals (try simp_wf)
    all_goals (try simp only [Stmt.size, sizeL])
    all_goals omega
  def okCases3 (il inFin : Bool) : List Stmt → Bool
    | [] => true
    | .case_ _ _ a :: cs => okL3 il inFin a && okCases3 il inFin cs
    | _ :: _ => false
  termination_by l => 2 * sizeL l
  decreasing_by
    all_goals (try simp_wf)
    all_goals (try simp only [Stmt.size, sizeL])
    all_goals omega
  def okHs3 (il inFin : Bool) : List Stmt → Bool
    | [] => true
    | .handler _ _ a :: hs => okL3 il inFin a && okHs3 il inFin hs
    | _ :: _ => false
  termination_by l => 2 * sizeL l
  decreasing_by
    all_goals (try simp_wf)
    all_goals (try simp only [Stmt.size, sizeL])
    all_goals omega
end

theorem okL3_nil (il f : Bool) : okL3 il f [] = true := okL3.eq_1 ..
theorem okL3_cons (il f : Bool) (x : Stmt) (xs : List Stmt) : okL3 il f (x :: xs) = (okS3 il f x && okL3 il f xs) := okL3.eq_2 ..
theorem okS3_brk (il f : Bool) (s e : Nat) : okS3 il f (.brk s e) = il := okS3.eq_5 ..
theorem okS3_cont (il f : Bool) (s e : Nat) : okS3 il f (.cont s e) = il := okS3.eq_6 ..
theorem okS3_ite (il f : Bool) (s e : Nat) (a b : List Stmt) : okS3 il f (.ite s e a b) = (okL3 il f a && okL3 il f b) := okS3.eq_7 ..
theorem okS3_elifc (il f : Bool) (s e : Nat) (a b : List Stmt) : okS3 il f (.elifc s e a b) = (okL3 il f a && okL3 il f b) := okS3.eq_8 ..
theorem okS3_elsec (il f : Bool) (s e : Nat) (a : List Stmt) : okS3 il f (.elsec s e a) = okL3 il f a := okS3.eq_9 ..
theorem okS3_loop (il f : Bool) (s e : Nat) (a b : List Stmt) : okS3 il f (.loop s e a b) = (okL3 true f a && okL3 il f b) := okS3.eq_10 ..
theorem okS3_with (il f : Bool) (s e : Nat) (a : List Stmt) : okS3 il f (.with_ s e a) = okL3 il f a := okS3.eq_11 ..
theorem okS3_match (il f : Bool) (s e : Nat) (cs : List Stmt) : okS3 il f (.match_ s e cs) = okCases3 il f cs := okS3.eq_12 ..
theorem okS3_class (il f : Bool) (s e : Nat) (a : List Stmt) : okS3 il f (.class_ s e a) = okL3 false f a := okS3.eq_13 ..
theorem okS3_try (il f : Bool) (s e : Nat) (a hs c d : List Stmt) :
    okS3 il f (.try_ s e a hs c d) = (okL3 il f a && okHs3 il f hs && okL3 il f c && (d.isEmpty || (!f && okL3 il true d))) := okS3.eq_14 ..
theorem okS3_handler (il f : Bool) (s e : Nat) (a : List Stmt) : okS3 il f (.handler s e a) = false := okS3.eq_15 ..
theorem okS3_case (il f : Bool) (s e : Nat) (a : List Stmt) : okS3 il f (.case_ s e a) = false := okS3.eq_16 ..

theorem okCases3_nil (il f : Bool) : okCases3 il f [] = true := okCases3.eq_1 ..
theorem okCases3_case (il f : Bool) (s e : Nat) (a cs : List Stmt) :
    okCases3 il f (.case_ s e a :: cs) = (okL3 il f a && okCases3 il f cs) := okCases3.eq_2 ..
theorem okCases3_cons {il f : Bool} {x : Stmt} {cs : List Stmt} (h : okCases3 il f (x :: cs) = true) :
    ∃ s e a, x = .case_ s e a ∧ okL3 il f a = true ∧ okCases3 il f cs = true :=
  alts_cons (okCases3_case il f) (okCases3.eq_3 il f) h

theorem okHs3_nil (il f : Bool) : okHs3 il f [] = true := okHs3.eq_1 ..
theorem okHs3_handler (il f : Bool) (s e : Nat) (a hs : List Stmt) :
    okHs3 il f (.handler s e a :: hs) = (okL3 il f a && okHs3 il f hs) := okHs3.eq_2 ..
theorem okHs3_cons {il f : Bool} {x : Stmt} {hs : List Stmt} (h : okHs3 il f (x :: hs) = true) :
    ∃ s e a, x = .handler s e a ∧ okL3 il f a = true ∧ okHs3 il f hs = true :=
  alts_cons (okHs3_handler il f) (okHs3.eq_3 il f) h

theorem okL_le_okL3 : (∀ il ss, okL il ss = true → ∀ f, okL3 il f ss = true) ∧ (∀ il x, okS il x = true → ∀ f, okS3 il f x = true) ∧
    (∀ il cs, okCases il cs = true → ∀ f, okCases3 il f cs = true) := by
  apply okL.mutual_induct
  all_goals intros
  all_goals simp_all only [okL, okS, okCases, okL3, okS3, okCases3, Bool.and_eq_true, and_self, Bool.false_eq_true]

theorem okL3_of_okL (ss : List Stmt) (il f : Bool) (h : okL il ss = true) : okL3 il f ss = true :=
  okL_le_okL3.1 il ss h f

theorem okL3_le_okL4 : (∀ il f ss, okL3 il f ss = true → okL4 il ss = true) ∧ (∀ il f x, okS3 il f x = true → okS4 il x = true) ∧
    (∀ il f hs, okHs3 il f hs = true → okHs4 il hs = true) ∧ (∀ il f cs, okCases3 il f cs = true → okCases4 il cs = true) := by
  apply okL3.mutual_induct
  all_goals intros
  all_goals simp_all only [okL3, okS3, okHs3, okCases3, okL4, okS4, okHs4, okCases4, Bool.and_eq_true, and_self, Bool.false_eq_true]
  -- left: the `finally` part of a `try`, which `okS3` admits if it is empty or in `okL3 il true`
  rename_i ihd h
  refine ⟨trivial, ?_⟩
  rcases Bool.or_eq_true_iff.mp h.2 with hd | hd
  · rw [hd]; rfl
  · rw [ihd (Bool.and_eq_true_iff.mp hd).2, Bool.or_true]

theorem okL4_of_okL3 (ss : List Stmt) (il f : Bool) (h : okL3 il f ss = true) : okL4 il ss = true :=
  okL3_le_okL4.1 il f ss h

namespace S4
set_option linter.unusedSimpArgs false in
mutual
  def okL3 (il inFin : Bool) : List Stmt → Bool
    | [] => true
    | x :: xs => okS3 il inFin x && okL3 il inFin xs
  termination_by l => 2 * sizeL l
  decreasing_by
    all_goals (try simp_wf)
    all_goals (try simp only [Stmt.size, sizeL])
    all_goals omega
  def okS3 (il inFin : Bool) : Stmt → Bool
    | .simple .. | .def_ .. | .ret .. | .raise .. => true
    | .brk .. | .cont .. => il
    | .ite _ _ a b | .elifc _ _ a b => okL3 il inFin a && okL3 il inFin b
    | .elsec _ _ a => okL3 il inFin a
    | .loop _ _ a b => okL3 true inFin a && okL3 il inFin b
    | .with_ _ _ a => okL3 il inFin a
    | .match_ _ _ cs => okCases3 il inFin cs
    | .class_ _ _ a => okL3 false inFin a
    | .try_ _ _ a hs c d => okL3 il inFin a && okHs3 il inFin hs && okL3 il inFin c && (d.isEmpty || okL3 il true d)
    | .handler .. | .case_ .. => false
  termination_by x => 2 * x.size + 1
  decreasing_by
    all_goals (try simp_wf)
    all_goals (try simp only [Stmt.size, sizeL])
    all_goals omega
  def okCases3 (il inFin : Bool) : List Stmt → Bool
    | [] => true
    | .case_ _ _ a :: cs => okL3 il inFin a && okCases3 il inFin cs
    | _ :: _ => false
  termination_by l => 2 * sizeL l
  decreasing_by
    all_goals (try simp_wf)
    all_goals (try simp only [Stmt.size, sizeL])
    all_goals omega
  def okHs3 (il inFin : Bool) : List Stmt → Bool
    | [] => true
    | .handler _ _ a :: hs => okL3 il inFin a && okHs3 il inFin hs
    | _ :: _ => false
  termination_by l => 2 * sizeL l
  decreasing_by
    all_goals (try simp_wf)
    all_goals (try simp only [Stmt.size, sizeL])
    all_goals omega
end

theorem okL3_nil (il f : Bool) : okL3 il f [] = true := okL3.eq_1 ..
theorem okL3_cons (il f : Bool) (x : Stmt) (xs : List Stmt) : okL3 il f (x :: xs) = (okS3 il f x && okL3 il f xs) := okL3.eq_2 ..
theorem okS3_brk (il f : Bool) (s e : Nat) : okS3 il f (.brk s e) = il := okS3.eq_5 ..
theorem okS3_cont (il f : Bool) (s e : Nat) : okS3 il f (.cont s e) = il := okS3.eq_6 ..
theorem okS3_ite (il f : Bool) (s e : Nat) (a b : List Stmt) : okS3 il f (.ite s e a b) = (okL3 il f a && okL3 il f b) := okS3.eq_7 ..
theorem okS3_elifc (il f : Bool) (s e : Nat) (a b : List Stmt) : okS3 il f (.elifc s e a b) = (okL3 il f a && okL3 il f b) := okS3.eq_8 ..
theorem okS3_elsec (il f : Bool) (s e : Nat) (a : List Stmt) : okS3 il f (.elsec s e a) = okL3 il f a := okS3.eq_9 ..
theorem okS3_loop (il f : Bool) (s e : Nat) (a b : List Stmt) : okS3 il f (.loop s e a b) = (okL3 true f a && okL3 il f b) := okS3.eq_10 ..
theorem okS3_with (il f : Bool) (s e : Nat) (a : List Stmt) : okS3 il f (.with_ s e a) = okL3 il f a := okS3.eq_11 ..
theorem okS3_match (il f : Bool) (s e : Nat) (cs : List Stmt) : okS3 il f (.match_ s e cs) = okCases3 il f cs := okS3.eq_12 ..
theorem okS3_class (il f : Bool) (s e : Nat) (a : List Stmt) : okS3 il f (.class_ s e a) = okL3 false f a := okS3.eq_13 ..
theorem okS3_try (il f : Bool) (s e : Nat) (a hs c d : List Stmt) :
    okS3 il f (.try_ s e a hs c d) = (okL3 il f a && okHs3 il f hs && okL3 il f c && (d.isEmpty || okL3 il true d)) := okS3.eq_14 ..
theorem okS3_handler (il f : Bool) (s e : Nat) (a : List Stmt) : okS3 il f (.handler s e a) = false := okS3.eq_15 ..
theorem okS3_case (il f : Bool) (s e : Nat) (a : List Stmt) : okS3 il f (.case_ s e a) = false := okS3.eq_16 ..

theorem okCases3_nil (il f : Bool) : okCases3 il f [] = true := okCases3.eq_1 ..
theorem okCases3_case (il f : Bool) (s e : Nat) (a cs : List Stmt) :
    okCases3 il f (.case_ s e a :: cs) = (okL3 il f a && okCases3 il f cs) := okCases3.eq_2 ..
theorem okCases3_cons {il f : Bool} {x : Stmt} {cs : List Stmt} (h : okCases3 il f (x :: cs) = true) :
    ∃ s e a, x = .case_ s e a ∧ okL3 il f a = true ∧ okCases3 il f cs = true :=
  alts_cons (okCases3_case il f) (okCases3.eq_3 il f) h

theorem okHs3_nil (il f : Bool) : okHs3 il f [] = true := okHs3.eq_1 ..
theorem okHs3_handler (il f : Bool) (s e : Nat) (a hs : List Stmt) :
    okHs3 il f (.handler s e a :: hs) = (okL3 il f a && okHs3 il f hs) := okHs3.eq_2 ..
theorem okHs3_cons {il f : Bool} {x : Stmt} {hs : List Stmt} (h : okHs3 il f (x :: hs) = true) :
    ∃ s e a, x = .handler s e a ∧ okL3 il f a = true ∧ okHs3 il f hs = true :=
  alts_cons (okHs3_handler il f) (okHs3.eq_3 il f) h
end S4

theorem S4_eq_okL4 : (∀ il ss f, S4.okL3 il f ss = okL4 il ss) ∧ (∀ il x f, S4.okS3 il f x = okS4 il x) ∧
    (∀ il hs f, S4.okHs3 il f hs = okHs4 il hs) ∧ (∀ il cs f, S4.okCases3 il f cs = okCases4 il cs) := by
  apply okL4.mutual_induct
  all_goals intros
  all_goals simp only [S4.okL3, S4.okS3, S4.okHs3, S4.okCases3, okL4, okS4, okHs4, okCases4, *]

theorem S4_of_okL4 (ss : List Stmt) (il f : Bool) (h : okL4 il ss = true) : S4.okL3 il f ss = true :=
  (S4_eq_okL4.1 il ss f).trans h

namespace S4
theorem okL3_of_okL (ss : List Stmt) (il f : Bool) (h : okL il ss = true) : okL3 il f ss = true :=
  S4_of_okL4 ss il f (okL4_of_okL3 ss il false (CFGSound.okL3_of_okL ss il false h))
end S4

end PV.CFGSound
#print axioms PV.CFGSound.okL4_of_okL3
