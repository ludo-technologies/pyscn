import PV.Proofs.CFGComplexityInd
import PV.Proofs.CFGComplexitySyn
/-!
Property C03 for the CFG mirror, fragment `okCL`: the induction of `CFGComplexityInd` at the scheme `schC`, whose hypothesis
`TrySpec` holds since `okCL` has no `try` with a non-empty `finally` (`specC`).  On this fragment the count `ldLX` of the scheme is
`ldL` (`ldLX_eq_ldL`).
-/
namespace PV.CFGSound
open PV.CFG PV.CFGFin

theorem specC (E : List Edge) : TrySpec schC E := by
  intro st s3 s7 s8 s9 s e body handlers orelse fin finB elseB cfin nat ah hne _ _ _ _ _ _ _ _ fc il _ hok
  rw [show schC.okS il (.try_ s e body handlers orelse fin) = _ from okCS_try il s e body handlers orelse fin, Bool.and_eq_true, hne] at hok
  cases hok.2

theorem cnt_list (ss : List Stmt) (nh : Nat) (il : Bool) (st : St) (w : WF st) (hc : CtxC nh il st) (hok : okCL il ss = true)
    (E : List Edge) (hE : Fut E st.next (procList st ss).next (procList st ss)) (he : EntryC E st) :
    PostC E st (procList st ss) (sxL ss).ex (ldL nh ss) := by
  have p := (cnt_run (specC E) ((run_all.2 ss).list st) ⟨w, hE⟩ (FC.top nh) il ⟨hc, rfl⟩ hok he).toC
  rwa [ldLX_eq_ldL ss il hok (FC.top nh) rfl] at p

end PV.CFGSound
