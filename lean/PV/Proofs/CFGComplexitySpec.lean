import PV.Proofs.CFGComplexityDefs
import PV.Proofs.CFGSxLines
/-!
Property C03 — the structural live decision count `ldL` IS the specification's decision count `PV.Dec.decisions`
with "dead" read as "not live for the static summary `sxL`", on the strict fragment (the constructs the property names:
no `raise`, `with`, `match`).  Purely structural: no CFG builder involved.
-/
namespace PV.CFGSound
open PV.CFG PV.Dec PV.SD

-- the `decreasing_by` blocks share one `simp only [Stmt.size, sizeL]`; each needs only one of the two
set_option linter.unusedSimpArgs false in
mutual
  /-- no `.raise`, `.with_`, `.match_`, `.case_` anywhere (bodies of nested `def`s are not entered) -/
  def plainL : List Stmt → Bool
    | [] => true
    | x :: xs => plainS x && plainL xs
  termination_by l => 2 * sizeL l
  decreasing_by
    all_goals (try simp_wf)
    all_goals (try simp only [Stmt.size, sizeL])
    all_goals omega
  def plainS : Stmt → Bool
    | .simple .. | .def_ .. | .ret .. | .brk .. | .cont .. => true
    | .raise .. | .with_ .. | .match_ .. | .case_ .. => false
    | .ite _ _ a b | .elifc _ _ a b | .loop _ _ a b => plainL a && plainL b
    | .elsec _ _ a | .class_ _ _ a | .handler _ _ a => plainL a
    | .try_ _ _ a hs c d => plainL a && plainL hs && plainL c && plainL d
  termination_by x => 2 * x.size + 1
  decreasing_by
    all_goals (try simp_wf)
    all_goals (try simp only [Stmt.size, sizeL])
    all_goals omega
end

theorem plainL_nil : plainL [] = true := plainL.eq_1
theorem plainL_cons (x : Stmt) (xs : List Stmt) : plainL (x :: xs) = (plainS x && plainL xs) := plainL.eq_2 ..
theorem plainS_raise (s e : Nat) : plainS (.raise s e) = false := plainS.eq_6 ..
theorem plainS_with (s e : Nat) (a : List Stmt) : plainS (.with_ s e a) = false := plainS.eq_7 ..
theorem plainS_match (s e : Nat) (a : List Stmt) : plainS (.match_ s e a) = false := plainS.eq_8 ..
theorem plainS_case (s e : Nat) (a : List Stmt) : plainS (.case_ s e a) = false := plainS.eq_9 ..
theorem plainS_ite (s e : Nat) (a b : List Stmt) : plainS (.ite s e a b) = (plainL a && plainL b) := plainS.eq_10 ..
theorem plainS_elifc (s e : Nat) (a b : List Stmt) : plainS (.elifc s e a b) = (plainL a && plainL b) := plainS.eq_11 ..
theorem plainS_loop (s e : Nat) (a b : List Stmt) : plainS (.loop s e a b) = (plainL a && plainL b) := plainS.eq_12 ..
theorem plainS_elsec (s e : Nat) (a : List Stmt) : plainS (.elsec s e a) = plainL a := plainS.eq_13 ..
theorem plainS_class (s e : Nat) (a : List Stmt) : plainS (.class_ s e a) = plainL a := plainS.eq_14 ..
theorem plainS_handler (s e : Nat) (a : List Stmt) : plainS (.handler s e a) = plainL a := plainS.eq_15 ..
theorem plainS_try (s e : Nat) (a hs c d : List Stmt) :
    plainS (.try_ s e a hs c d) = (plainL a && plainL hs && plainL c && plainL d) := plainS.eq_16 ..

theorem decisions_nil (dead : Nat → Bool) : decisions dead [] = 0 := decisions.eq_1 ..
theorem decisions_cons (dead : Nat → Bool) (x : Stmt) (xs : List Stmt) :
    decisions dead (x :: xs) = decS dead x + decisions dead xs := decisions.eq_2 ..
theorem decS_simple (dead : Nat → Bool) (s e : Nat) (c : List Bool) (h : Bool) :
    decS dead (.simple s e c h) = if (h && !dead s) = true then compClauses c else 0 := decS.eq_1 ..
theorem decS_ret (dead : Nat → Bool) (s e : Nat) (c : List Bool) (h : Bool) :
    decS dead (.ret s e c h) = if (h && !dead s) = true then compClauses c else 0 := decS.eq_2 ..
theorem decS_brk (dead : Nat → Bool) (s e : Nat) : decS dead (.brk s e) = 0 := decS.eq_3 ..
theorem decS_cont (dead : Nat → Bool) (s e : Nat) : decS dead (.cont s e) = 0 := decS.eq_4 ..
theorem decS_raise (dead : Nat → Bool) (s e : Nat) : decS dead (.raise s e) = 0 := decS.eq_5 ..
theorem decS_def (dead : Nat → Bool) (s e : Nat) (b : List Stmt) : decS dead (.def_ s e b) = 0 := decS.eq_6 ..
theorem decS_ite (dead : Nat → Bool) (s e : Nat) (a b : List Stmt) :
    decS dead (.ite s e a b) = one dead s + decisions dead a + decisions dead b := decS.eq_7 ..
theorem decS_elifc (dead : Nat → Bool) (s e : Nat) (a b : List Stmt) :
    decS dead (.elifc s e a b) = one dead s + decisions dead a + decisions dead b := decS.eq_8 ..
theorem decS_loop (dead : Nat → Bool) (s e : Nat) (a b : List Stmt) :
    decS dead (.loop s e a b) = one dead s + decisions dead a + decisions dead b := decS.eq_9 ..
theorem decS_elsec (dead : Nat → Bool) (s e : Nat) (a : List Stmt) : decS dead (.elsec s e a) = decisions dead a := decS.eq_10 ..
theorem decS_with (dead : Nat → Bool) (s e : Nat) (a : List Stmt) : decS dead (.with_ s e a) = decisions dead a := decS.eq_11 ..
theorem decS_match (dead : Nat → Bool) (s e : Nat) (a : List Stmt) : decS dead (.match_ s e a) = decisions dead a := decS.eq_12 ..
theorem decS_case (dead : Nat → Bool) (s e : Nat) (a : List Stmt) : decS dead (.case_ s e a) = decisions dead a := decS.eq_13 ..
theorem decS_class (dead : Nat → Bool) (s e : Nat) (a : List Stmt) : decS dead (.class_ s e a) = decisions dead a := decS.eq_14 ..
theorem decS_handler (dead : Nat → Bool) (s e : Nat) (a : List Stmt) :
    decS dead (.handler s e a) = one dead s + decisions dead a := decS.eq_15 ..
theorem decS_try (dead : Nat → Bool) (s e : Nat) (a hs c d : List Stmt) :
    decS dead (.try_ s e a hs c d) = decisions dead a + decisions dead hs + decisions dead c + decisions dead d := decS.eq_16 ..

theorem dec_dead_all (dead : Nat → Bool) :
    (∀ x : Stmt, (∀ l ∈ linesOf x, dead l = true) → decS dead x = 0) ∧
    (∀ ss : List Stmt, (∀ l ∈ linesOfL ss, dead l = true) → decisions dead ss = 0) := by
  refine stmt_rs_ind ?_ ?_ ?_ ?_ ?_ ?_ ?_ ?_ ?_ ?_ ?_ ?_ ?_ ?_ ?_ ?_ ?_ ?_
  · intro s e c hc hd
    rw [linesOf_simple] at hd
    rw [decS_simple, hd s (by simp)]; simp
  · intro s e c hc hd
    rw [linesOf_ret] at hd
    rw [decS_ret, hd s (by simp)]; simp
  · exact fun s e _ => decS_brk ..
  · exact fun s e _ => decS_cont ..
  · exact fun s e _ => decS_raise ..
  · intro s e a b ha hb hd
    simp only [linesOf_ite, List.cons_append, List.forall_mem_cons, List.forall_mem_append] at hd
    rw [decS_ite, one, hd.1, ha hd.2.1, hb hd.2.2]; rfl
  · intro s e a b ha hb hd
    simp only [linesOf_elifc, List.cons_append, List.forall_mem_cons, List.forall_mem_append] at hd
    rw [decS_elifc, one, hd.1, ha hd.2.1, hb hd.2.2]; rfl
  · intro s e a ha hd
    rw [linesOf_elsec] at hd
    rw [decS_elsec, ha hd]
  · intro s e a b ha hb hd
    simp only [linesOf_loop, List.cons_append, List.forall_mem_cons, List.forall_mem_append] at hd
    rw [decS_loop, one, hd.1, ha hd.2.1, hb hd.2.2]; rfl
  · intro s e a hs c d ha hh hc hd' hd
    simp only [linesOf_try, List.forall_mem_append] at hd
    rw [decS_try, ha hd.1.1.1, hh hd.1.1.2, hc hd.1.2, hd' hd.2]
  · intro s e a ha hd
    simp only [linesOf_handler, List.forall_mem_cons] at hd
    rw [decS_handler, one, hd.1, ha hd.2]; rfl
  · intro s e a ha hd
    simp only [linesOf_with, List.forall_mem_cons] at hd
    rw [decS_with, ha hd.2]
  · intro s e a ha hd
    simp only [linesOf_match, List.forall_mem_cons] at hd
    rw [decS_match, ha hd.2]
  · intro s e a ha hd
    simp only [linesOf_case, List.forall_mem_cons] at hd
    rw [decS_case, ha hd.2]
  · exact fun s e b _ => decS_def ..
  · intro s e a ha hd
    simp only [linesOf_class, List.forall_mem_cons] at hd
    rw [decS_class, ha hd.2]
  · exact fun _ => decisions_nil dead
  · intro x xs hx hxs hd
    rw [linesOfL_cons, List.forall_mem_append] at hd
    rw [decisions_cons, hx hd.1, hxs hd.2]

theorem decisions_dead (dead : Nat → Bool) (ss : List Stmt) (h : ∀ l ∈ linesOfL ss, dead l = true) : decisions dead ss = 0 :=
  (dec_dead_all dead).2 ss h

/-- on the start lines `L`, `dead` is exactly the complement of `M` -/
def DF (dead : Nat → Bool) (M : Nat → Prop) (L : List Nat) : Prop := ∀ l ∈ L, (dead l = false ↔ M l)

section df
variable {dead : Nat → Bool} {M M' M1 M2 : Nat → Prop} {L L1 L2 : List Nat} {s : Nat}

theorem DF.congr (h : DF dead M L) (hM : ∀ l, M l ↔ M' l) : DF dead M' L := fun l hl => (h l hl).trans (hM l)

theorem DF.allDead (h : DF dead (fun _ => False) L) : ∀ l ∈ L, dead l = true := by
  intro l hl
  have := h l hl
  cases hd : dead l
  · exact (this.mp hd).elim
  · rfl

theorem DF.split (h : DF dead M (L1 ++ L2)) (hd : (L1 ++ L2).Nodup) (hM : ∀ l, M l ↔ M1 l ∨ M2 l)
    (h1 : ∀ l, M1 l → l ∈ L1) (h2 : ∀ l, M2 l → l ∈ L2) : DF dead M1 L1 ∧ DF dead M2 L2 := by
  obtain ⟨_, _, hdis⟩ := List.nodup_append.mp hd
  constructor
  · intro l hl
    rw [h l (List.mem_append.mpr (.inl hl)), hM l]
    exact ⟨fun h => h.elim id (fun h => absurd rfl (hdis l hl l (h2 l h))), .inl⟩
  · intro l hl
    rw [h l (List.mem_append.mpr (.inr hl)), hM l]
    exact ⟨fun h => h.elim (fun h => absurd rfl (hdis l (h1 l h) l hl)) id, .inr⟩

theorem DF.cons (h : DF dead M (s :: L)) (hd : (s :: L).Nodup) (hM : ∀ l, M l ↔ l = s ∨ M' l) (h2 : ∀ l, M' l → l ∈ L) :
    dead s = false ∧ DF dead M' L := by
  have := DF.split (L1 := [s]) (L2 := L) (M1 := fun l => l = s) h hd hM (fun l hl => by simp [hl]) h2
  exact ⟨(this.1 s (by simp)).mpr rfl, this.2⟩

theorem DF.head1 {A : List Stmt} (h : DF dead M (s :: linesOfL A)) (hd : (s :: linesOfL A).Nodup)
    (hM : ∀ l, M l ↔ l = s ∨ Mx (sxL A) l) :
    dead s = false ∧ DF dead (Mx (sxL A)) (linesOfL A) ∧ (linesOfL A).Nodup := by
  obtain ⟨h1, h2⟩ := h.cons hd hM (fun l => mx_sub_linesOfL A)
  exact ⟨h1, h2, (List.nodup_cons.mp hd).2⟩

theorem DF.two {A B : List Stmt} (h : DF dead M (linesOfL A ++ linesOfL B)) (hd : (linesOfL A ++ linesOfL B).Nodup)
    (hM : ∀ l, M l ↔ Mx (sxL A) l ∨ Mx (sxL B) l) :
    DF dead (Mx (sxL A)) (linesOfL A) ∧ DF dead (Mx (sxL B)) (linesOfL B) ∧ (linesOfL A).Nodup ∧ (linesOfL B).Nodup := by
  obtain ⟨h1, h2⟩ := h.split hd hM (fun l => mx_sub_linesOfL A) (fun l => mx_sub_linesOfL B)
  obtain ⟨n1, n2, _⟩ := List.nodup_append.mp hd
  exact ⟨h1, h2, n1, n2⟩

theorem DF.head2 {A B : List Stmt} (h : DF dead M (s :: linesOfL A ++ linesOfL B)) (hd : (s :: linesOfL A ++ linesOfL B).Nodup)
    (hM : ∀ l, M l ↔ l = s ∨ Mx (sxL A) l ∨ Mx (sxL B) l) :
    dead s = false ∧ DF dead (Mx (sxL A)) (linesOfL A) ∧ DF dead (Mx (sxL B)) (linesOfL B) ∧
      (linesOfL A).Nodup ∧ (linesOfL B).Nodup := by
  rw [List.cons_append] at h hd
  obtain ⟨h1, h2⟩ := h.cons (M' := fun l => Mx (sxL A) l ∨ Mx (sxL B) l) hd hM (fun l hl => by
    rcases hl with hl | hl
    · exact List.mem_append.mpr (.inl (mx_sub_linesOfL A hl))
    · exact List.mem_append.mpr (.inr (mx_sub_linesOfL B hl)))
  exact ⟨h1, DF.two h2 (List.nodup_cons.mp hd).2 (fun _ => Iff.rfl)⟩
end df

theorem one_live {dead : Nat → Bool} {s : Nat} (h : dead s = false) : one dead s = 1 := by rw [one, h]; rfl

/-- along the recursion of `okCL`; the `case` lists have nothing to show, `plainS` admits no `match` -/
theorem ld_eq_dec_all (dead : Nat → Bool) :
    (∀ il ss, okCL il ss = true → ∀ nh, plainL ss = true → (linesOfL ss).Nodup → DF dead (Mx (sxL ss)) (linesOfL ss) →
      ldL nh ss = decisions dead ss) ∧
    (∀ il x, okCS il x = true → ∀ nh, plainS x = true → (linesOf x).Nodup → DF dead (Mx (sxS x)) (linesOf x) →
      ldS nh x = decS dead x) ∧
    (∀ il hs, okCHs il hs = true → ∀ nh, plainL hs = true → (linesOfL hs).Nodup → DF dead (Mx (sxAlts hs)) (linesOfL hs) →
      ldAlts nh hs = decisions dead hs) ∧
    (∀ (_ : Bool) (_ : List Stmt), True) := by
  apply okCL.mutual_induct
  · intro il _ nh _ _ _
    rw [ldL_nil, decisions_nil]
  · intro il x xs hx hxs hok nh hp hnd hdf
    rw [okCL_cons, Bool.and_eq_true] at hok
    rw [plainL_cons, Bool.and_eq_true] at hp
    rw [linesOfL_cons] at hnd hdf
    obtain ⟨nd1, nd2, _⟩ := List.nodup_append.mp hnd
    rw [ldL_cons, decisions_cons]
    by_cases hn : (sxS x).ex.normal = true
    · obtain ⟨d1, d2⟩ := hdf.split hnd (fun l => Mx_sxL_cons_normal hn) (fun l => mx_sub_linesOf x) (fun l => mx_sub_linesOfL xs)
      rw [if_pos hn, hx hok.1 nh hp.1 nd1 d1, hxs hok.2 nh hp.2 nd2 d2]
    · rw [sxL_cons_stop hn] at hdf
      obtain ⟨d1, d2⟩ := hdf.split (M2 := fun _ => False) hnd (fun l => by simp) (fun l => mx_sub_linesOf x) (fun l h => h.elim)
      rw [if_neg hn, hx hok.1 nh hp.1 nd1 d1, decisions_dead dead xs d2.allDead]
  · intro il s e c hc _ nh _ _ hdf
    rw [linesOf_simple] at hdf
    have hs : dead s = false := (hdf s (by simp)).mpr (Mx_simple.mpr rfl)
    rw [ldS_simple, decS_simple, hs]; simp
  · intro il s e b _ nh _ _ _
    rw [ldS_def, decS_def]
  · intro il s e c hc _ nh _ _ hdf
    rw [linesOf_ret] at hdf
    have hs : dead s = false := (hdf s (by simp)).mpr (Mx_ret.mpr rfl)
    rw [ldS_ret, decS_ret, hs]; simp
  · intro il s e _ nh hp
    rw [plainS_raise] at hp; cases hp
  · intro il s e _ nh _ _ _
    rw [ldS_brk, decS_brk]
  · intro il s e _ nh _ _ _
    rw [ldS_cont, decS_cont]
  · intro il s e a b ha hb hok nh hp hnd hdf
    rw [okCS_ite, Bool.and_eq_true] at hok
    rw [plainS_ite, Bool.and_eq_true] at hp
    rw [linesOf_ite] at hnd hdf
    obtain ⟨hs, da, db, na, nb⟩ := hdf.head2 hnd (fun l => Mx_ite)
    rw [ldS_ite, decS_ite, one_live hs, ha hok.1 nh hp.1 na da, hb hok.2 nh hp.2 nb db]
  · intro il s e a b ha hb hok nh hp hnd hdf
    rw [okCS_elifc, Bool.and_eq_true] at hok
    rw [plainS_elifc, Bool.and_eq_true] at hp
    rw [linesOf_elifc] at hnd hdf
    obtain ⟨hs, da, db, na, nb⟩ := hdf.head2 hnd (fun l => Mx_elifc)
    rw [ldS_elifc, decS_elifc, one_live hs, ha hok.1 nh hp.1 na da, hb hok.2 nh hp.2 nb db]
  · intro il s e a ha hok nh hp hnd hdf
    rw [okCS_elsec] at hok
    rw [plainS_elsec] at hp
    rw [linesOf_elsec] at hnd hdf
    rw [ldS_elsec, decS_elsec, ha hok nh hp hnd (hdf.congr (fun l => Mx_elsec))]
  · intro il s e a b ha hb hok nh hp hnd hdf
    rw [okCS_loop, Bool.and_eq_true] at hok
    rw [plainS_loop, Bool.and_eq_true] at hp
    rw [linesOf_loop] at hnd hdf
    obtain ⟨hs, da, db, na, nb⟩ := hdf.head2 hnd (fun l => Mx_loop)
    rw [ldS_loop, decS_loop, one_live hs, ha hok.1 nh hp.1 na da, hb hok.2 nh hp.2 nb db]
  · intro il s e a _ _ nh hp
    rw [plainS_with] at hp; cases hp
  · intro il s e cs _ _ nh hp
    rw [plainS_match] at hp; cases hp
  · intro il s e a ha hok nh hp hnd hdf
    rw [okCS_class] at hok
    rw [plainS_class] at hp
    rw [linesOf_class] at hnd hdf
    obtain ⟨_, da, na⟩ := hdf.head1 hnd (fun l => Mx_class)
    rw [ldS_class, decS_class, ha hok nh hp na da]
  · intro il s e a hs c d ha hh hc hok nh hp hnd hdf
    rw [okCS_try] at hok
    simp only [Bool.and_eq_true] at hok
    obtain ⟨⟨⟨oka, okh⟩, okc⟩, hde⟩ := hok
    have hd0 : d = [] := List.isEmpty_iff.mp hde
    subst hd0
    rw [plainS_try] at hp
    simp only [Bool.and_eq_true] at hp
    obtain ⟨⟨⟨pa, ph⟩, pc⟩, _⟩ := hp
    rw [linesOf_try, linesOfL_nil, List.append_nil] at hnd hdf
    obtain ⟨dah, dc⟩ := hdf.split (M1 := fun l => Mx (sxL a) l ∨ Mx (sxAlts hs) l)
      (M2 := fun l => (sxL a).ex.normal = true ∧ Mx (sxL c) l) hnd (fun l => by rw [Mx_try_nofin, or_assoc])
      (fun l hl => by
        rcases hl with hl | hl
        · exact List.mem_append.mpr (.inl (mx_sub_linesOfL a hl))
        · exact List.mem_append.mpr (.inr (mx_sub_linesOfL_alts hs hl)))
      (fun l hl => mx_sub_linesOfL c hl.2)
    obtain ⟨ndah, ndc, _⟩ := List.nodup_append.mp hnd
    obtain ⟨da, dh⟩ := dah.split ndah (fun _ => Iff.rfl) (fun l => mx_sub_linesOfL a) (fun l => mx_sub_linesOfL_alts hs)
    obtain ⟨nda, ndh, _⟩ := List.nodup_append.mp ndah
    rw [ldS_try, decS_try, decisions_nil, Nat.add_zero, ha oka _ pa nda da, hh okh _ ph ndh dh]
    by_cases hn : (sxL a).ex.normal = true
    · rw [if_pos hn, hc okc _ pc ndc (dc.congr (fun l => by simp [hn]))]
    · rw [if_neg hn, decisions_dead dead c (DF.allDead (dc.congr (fun l => by simp [hn])))]
  · intro il s e a hok
    rw [okCS_handler] at hok; cases hok
  · intro il s e a hok
    rw [okCS_case] at hok; cases hok
  · intro il _ nh _ _ _
    rw [ldAlts_nil, decisions_nil]
  · intro il s e a hs ha hh hok nh hp hnd hdf
    rw [okCHs_handler, Bool.and_eq_true] at hok
    rw [plainL_cons, plainS_handler, Bool.and_eq_true] at hp
    rw [linesOfL_cons] at hnd hdf
    obtain ⟨nd1, nd2, _⟩ := List.nodup_append.mp hnd
    obtain ⟨d1, d2⟩ := hdf.split hnd (fun l => Mx_sxAlts_cons) (fun l => mx_sub_linesOf _) (fun l => mx_sub_linesOfL_alts hs)
    rw [linesOf_handler] at nd1 d1
    obtain ⟨hs', da, na⟩ := d1.head1 nd1 (fun l => Mx_handler)
    rw [ldAlts_cons, decisions_cons, ldS_handler, decS_handler, one_live hs', ha hok.1 nh hp.1 na da, hh hok.2 nh hp.2 nd2 d2]
  · intro il x xs hx hok
    rw [okCHs.eq_3 il x xs hx] at hok; cases hok
  all_goals intros
  all_goals trivial

/-- for an arbitrary `dead`: if, on the start lines of `ss`, `dead` is exactly "neither live nor a skipped `elif` head for
the static summary", the structural live decision count is the specification's decision count. -/
theorem ldL_eq_decisions_of (dead : Nat → Bool) (ss : List Stmt) (il : Bool) (nh : Nat) (hok : okCL il ss = true)
    (hp : plainL ss = true) (hd : (linesOfL ss).Nodup)
    (h1 : ∀ l ∈ (sxL ss).lines, dead l = false) (h2 : ∀ l ∈ (sxL ss).skipped, dead l = false)
    (h3 : ∀ l ∈ linesOfL ss, l ∉ (sxL ss).lines → l ∉ (sxL ss).skipped → dead l = true) :
    ldL nh ss = decisions dead ss := by
  refine (ld_eq_dec_all dead).1 il ss hok nh hp hd ?_
  intro l hl
  constructor
  · intro hf
    by_cases ha : l ∈ (sxL ss).lines
    · exact .inl ha
    · by_cases hb : l ∈ (sxL ss).skipped
      · exact .inr hb
      · rw [h3 l hl ha hb] at hf; cases hf
  · rintro (h | h)
    · exact h1 l h
    · exact h2 l h

/-- a line is dead iff the static summary neither lists it as live nor as a skipped `elif` head -/
def sxDead (body : List Stmt) (l : Nat) : Bool := !((sxL body).lines.contains l) && !((sxL body).skipped.contains l)

/-- **C03, structural half.** On the strict fragment the live decision count of the CFG mirror (`ldL`) is the decision count of
the specification, where the dead lines are those the static summary does not reach. -/
theorem ldL_eq_decisions (body : List Stmt) (il : Bool) (nh : Nat) (hok : okCL il body = true) (hp : plainL body = true)
    (hd : (linesOfL body).Nodup) : ldL nh body = decisions (sxDead body) body := by
  apply ldL_eq_decisions_of (sxDead body) body il nh hok hp hd
  · intro l hl; simp [sxDead, hl]
  · intro l hl; simp [sxDead, hl]
  · intro l _ h1 h2; simp [sxDead, h1, h2]

theorem ldL_eq_decisions_live (body : List Stmt) (il : Bool) (nh : Nat) (hok : okCL il body = true) (hp : plainL body = true)
    (hd : (linesOfL body).Nodup) (hlive : ∀ l ∈ linesOfL body, l ∈ (sxL body).lines ∨ l ∈ (sxL body).skipped) :
    ldL nh body = decisions (fun _ => false) body := by
  apply ldL_eq_decisions_of (fun _ => false) body il nh hok hp hd
  · intro _ _; rfl
  · intro _ _; rfl
  · intro l hl h1 h2
    rcases hlive l hl with h | h
    · exact absurd h h1
    · exact absurd h h2

end PV.CFGSound
