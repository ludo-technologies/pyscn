import PV.Proofs.CFGComplexityInd
import PV.Proofs.CFGComplexityFinTry
/-!
Property C03 for the CFG mirror, including NON-EMPTY `finally` clauses: the mirror's `complexity` of a definition is `1 +` the structural
live decision count `ldLF 1 body`, for every body of the fragment `okFL false` (everything except `break` / `continue` outside a loop
and stray `except` / `case` clauses).  `ldLF` gives a `try … finally` its true contribution: the decisions of body, handlers, `else`
and `finally`, plus the exception-typed propagation edges that the builder adds out of the `finally` block.

This file: the induction of `CFGComplexityInd` at the scheme `schF` and the theorem about `build`.
-/
namespace PV.CFGFin
open PV.CFG PV.CFGSound PV.Dec

theorem cnt_listF (ss : List Stmt) (fc : FC) (il : Bool) (st : St) (w : WF st) (hc : CtxF fc il st) (hok : okFL il ss = true)
    (E : List Edge) (hE : Fut E st.next (procList st ss).next (procList st ss)) (he : EntryC E st) :
    PostF E st (procList st ss) (sxL ss).ex (ldLX fc ss) :=
  (cnt_run try_cntFin ((run_all.2 ss).list st) ⟨w, hE⟩ fc il hc hok he).toF

theorem build_complexity_fin (k : Kind) (s e : Nat) (body : List Stmt) (hok : okFL false body = true) :
    complexity (build k s e body) = 1 + ldLF 1 body := by
  have ipre := preB_inv k s e
  have hnext : 2 ≤ (preB k s e).next := ipre.wf.two
  obtain ⟨j, sm⟩ := procList_frame body _ ipre.wf 0 0 (Or.inr (Nat.zero_le _)) (Nat.zero_le _)
  have hE := build_fut k s e body
  have hwf := build_wf k s e body
  have hx : (preB k s e).excs = [] := by cases k <;> rfl
  have hlp : (preB k s e).loops = [] := by cases k <;> rfl
  have hctx : CtxF (FC.top 1) false (preB k s e) := by
    refine ⟨(fun h => by cases h), ?_, ?_, ?_, ?_, ?_, ?_, ?_, ?_, ?_⟩
    · rw [hlp]; intro l hl; cases hl
    · rw [hlp]; intro l hl; cases hl
    · rw [hx]; rfl
    · rw [hx]; rfl
    · rw [hx]; rfl
    · rw [hx]; rfl
    · rw [hx]; intro c hc; cases hc
    · rw [hx]; intro c hc; cases hc
    · rw [hx]; intro c hc; cases hc
  have hent : EntryC (build k s e body).edges (preB k s e) := preB_entryC k s e (fun x h => hE.mem (j.sub.1 x h))
  have post := cnt_listF body (FC.top 1) false (preB k s e) ipre.wf hctx hok _ hE hent
  have hr : ∀ x, (reachable (build k s e body)).contains x = rE (build k s e body).edges x := by
    intro x
    rw [Bool.eq_iff_iff, List.contains_iff_mem, rE_true]
    exact ⟨fun h => reachable_sound _ h, fun h => reachable_complete _ (by have := hwf.two; omega) hwf.edges h⟩
  rw [complexity_eq_cnt, cnt_congr hr]
  have hfin : cnt (rE (build k s e body).edges) (build k s e body).edges = cnt (rE (build k s e body).edges) (procList (preB k s e) body).edges := by
    generalize rE (build k s e body).edges = r
    rw [build_eq]; unfold finishB
    split
    · exact cnt_cons_plain isCond_normal normal_ne_exc
    · rfl
  rw [hfin, post.cnt, preB_cnt]
  unfold ldLF
  omega


end PV.CFGFin

#print axioms PV.CFGFin.build_complexity_fin
