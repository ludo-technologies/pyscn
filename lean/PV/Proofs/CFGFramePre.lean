import PV.Proofs.CFGRun
/-!
What the walks over `Run` know of single states, before any of them: the targets a terminator reads off the context stacks are
entries of the stacks (`tfRet_mem` …), a run of edges from one source changes the edge list only (`foldl_edge_eq`), every named pre-body
state is framed (`classPre_inv`, `loopPre_inv`, … for arbitrary `c n`), where the blocks lie that a `try` allocates
(`TryAlloc.allocated`; those of its handlers are distinct, `nodup_map_add`), and `finallyPropagation` is a fold of `conn fin` over the explicit list `fpT` of its targets (`fp_ind`,
`fpT_mem`): whatever one conditional edge to each target preserves, the propagation edges preserve.
-/
namespace PV.CFGSound
open PV.CFG

theorem tfRet_mem {st : St} {f : Nat} (h : targetFinallyRet st = some f) : ∃ c ∈ st.excs, c.fin = some f := by
  unfold targetFinallyRet at h
  obtain ⟨c, hc, hf⟩ := List.exists_of_findSome?_eq_some h
  refine ⟨c, hc, ?_⟩
  cases hcf : c.fin with
  | none => simp [hcf] at hf
  | some g => simp only [hcf] at hf; split at hf <;> simp_all
theorem tf_mem {st : St} {f : Nat} (h : targetFinally st = some f) : ∃ c ∈ st.excs, c.fin = some f := by
  unfold targetFinally at h
  obtain ⟨c, hc, hf⟩ := List.exists_of_findSome?_eq_some h
  refine ⟨c, hc, ?_⟩
  split at hf <;> simp_all
theorem tfLoop_mem {st : St} {d f : Nat} (h : targetFinallyLoop st d = some f) : ∃ c ∈ st.excs, c.fin = some f := by
  unfold targetFinallyLoop at h
  obtain ⟨c, hc, hf⟩ := List.exists_of_findSome?_eq_some h
  refine ⟨c, List.mem_of_mem_take hc, ?_⟩
  split at hf <;> simp_all
theorem fallback_mem {st : St} {c : Exc} (h : fallbackExc st = some c) : c ∈ st.excs := by
  unfold fallbackExc at h
  exact List.mem_of_find?_eq_some h

/-- the edges of `procRaise` to the handlers have their source read from the current block, which they do not change: they are a
run of edges from one source -/
theorem foldl_cur_edges_eq (t : ETy) : ∀ (hs : List Nat) (s : St),
    hs.foldl (fun st h => st.edge st.cur h t) s = hs.foldl (fun st h => st.edge s.cur h t) s
  | [], _ => rfl
  | h :: hs, s => by
    simp only [List.foldl_cons]
    rw [foldl_cur_edges_eq t hs (s.edge s.cur h t)]
    rfl

theorem foldl_edge_eq (src : Nat) (t : ETy) : ∀ (hs : List Nat) (s : St),
    hs.foldl (fun st h => st.edge src h t) s = { s with edges := (hs.map (fun h => (src, h, t))).reverse ++ s.edges }
  | [], _ => rfl
  | h :: hs, s => by
    rw [List.foldl_cons, foldl_edge_eq src t hs, List.map_cons, List.reverse_cons, List.append_assoc]
    rfl

section
variable (src : Nat) (t : ETy) (hs : List Nat) (s : St)
theorem foldl_edge_next : (hs.foldl (fun st h => st.edge src h t) s).next = s.next := by rw [foldl_edge_eq]
theorem foldl_edge_cur : (hs.foldl (fun st h => st.edge src h t) s).cur = s.cur := by rw [foldl_edge_eq]
theorem foldl_edge_loops : (hs.foldl (fun st h => st.edge src h t) s).loops = s.loops := by rw [foldl_edge_eq]
theorem foldl_edge_excs : (hs.foldl (fun st h => st.edge src h t) s).excs = s.excs := by rw [foldl_edge_eq]
theorem foldl_edge_stmts : (hs.foldl (fun st h => st.edge src h t) s).stmts = s.stmts := by rw [foldl_edge_eq]
theorem foldl_edge_mem :
    (∀ e ∈ s.edges, e ∈ (hs.foldl (fun st h => st.edge src h t) s).edges) ∧
    (∀ h ∈ hs, (src, h, t) ∈ (hs.foldl (fun st h => st.edge src h t) s).edges) := by
  rw [foldl_edge_eq]
  exact ⟨fun e he => List.mem_append_right _ he, fun h hh => List.mem_append_left _ (List.mem_reverse.mpr (List.mem_map_of_mem hh))⟩
end

variable {c n : Nat}

theorem foldl_edges_frame {s0 : St} (src : Nat) (t : ETy) (hs : List Nat) (s : St) (i : Inv c n s0 s) (ho : Own c n src)
    (hlt : src < s.next) (hb : ∀ h ∈ hs, h < s.next) :
    Inv c n s0 (hs.foldl (fun st h => st.edge src h t) s) ∧ Same s (hs.foldl (fun st h => st.edge src h t) s) ∧
      (hs.foldl (fun st h => st.edge src h t) s).next = s.next ∧ (hs.foldl (fun st h => st.edge src h t) s).cur = s.cur := by
  refine ⟨?_, ⟨foldl_edge_loops .., foldl_edge_excs ..⟩, foldl_edge_next .., foldl_edge_cur ..⟩
  induction hs generalizing s with
  | nil => exact i
  | cons h hs ih =>
    exact ih _ (i.edge ho hlt (hb h (List.mem_cons_self ..))) hlt (fun x hx => hb x (List.mem_cons_of_mem _ hx))

/-- a fresh block after the current one, holding the statement `s`–`e` -/
theorem stmtBlock_inv {st : St} (w : WF st) (hc : Own c n st.cur) (hn : n ≤ st.next) (s e : Nat) :
    Inv c n st (((bump st).edge st.cur st.next .normal).add st.next s e .other) :=
  ((Inv.refl w hc).bump.edge hc (Nat.lt_succ_of_lt w.cur) (Nat.lt_succ_self _)).add (.inr hn) (Nat.lt_succ_self _)

section pre
variable {st : St}

/-- a fresh block becomes current, entered by an edge from the owned block `a` -/
theorem freshBranch_inv {s0 : St} (k : Ext c n s0 st) (hn : n ≤ s0.next) {a : Nat} (ha : Own c n a) (hlt : a < st.next) (t : ETy) :
    Inv c n s0 (setCur ((bump st).edge a st.next t) st.next) :=
  ((k.bump.edge ha (Nat.lt_succ_of_lt hlt) (Nat.lt_succ_self _)).setCur (Nat.lt_succ_self _)).inv (.inr (Nat.le_trans hn k.next_le))

theorem classPre_inv (w : WF st) (hc : Own c n st.cur) (hn : n ≤ st.next) (s e : Nat) : Inv c n st (classPre st s e) :=
  (freshBranch_inv (Ext.refl w) hn hc w.cur .normal).add (.inr hn) (Nat.lt_succ_self _)

-- with `c := 0`, `n := 0` every block is owned
theorem classPre_wf (w : WF st) (s e : Nat) : WF (classPre st s e) :=
  (classPre_inv (c := 0) w (.inr (Nat.zero_le _)) (Nat.zero_le _) s e).wf

theorem withPre_inv (w : WF st) (hc : Own c n st.cur) (hn : n ≤ st.next) (s e : Nat) : Inv c n st (withPre st s e) := by
  have l : ∀ a b, a < b → st.next + a < st.next + b := fun _ _ h => Nat.add_lt_add_left h _
  exact ((stmtBlock_inv w hc hn s e).bump.bump.bump.edge (a := st.next) (b := st.next + 1) (t := .normal) (.inr hn) (l 0 4 (by decide))
    (l 1 4 (by decide))).setCur (x := st.next + 1) (.inr (Nat.le_add_right_of_le hn)) (l 1 4 (by decide))

theorem withPre_wf (w : WF st) (s e : Nat) : WF (withPre st s e) :=
  (withPre_inv (c := 0) w (.inr (Nat.zero_le _)) (Nat.zero_le _) s e).wf

theorem loopPre_inv (w : WF st) (hc : Own c n st.cur) (hn : n ≤ st.next) (s e : Nat) (hasElse : Bool) :
    Inv c n st (loopPre st s e hasElse) := by
  have l : ∀ a b, a < b → st.next + a < st.next + b := fun _ _ h => Nat.add_lt_add_left h _
  have o1 : Own c n (st.next + 1) := .inr (Nat.le_add_right_of_le hn)
  have i1 := (stmtBlock_inv w hc hn s e).bump.bump
  have hl : ∀ m, st.next + 3 ≤ m → ∀ x ∈ (st.next, st.next + 2, st.excs.length) :: st.loops, x.1 < m ∧ x.2.1 < m := by
    intro m hm x hx
    rcases List.mem_cons.mp hx with rfl | hx
    · exact ⟨Nat.lt_of_lt_of_le (l 0 3 (by decide)) hm, Nat.lt_of_lt_of_le (l 2 3 (by decide)) hm⟩
    · exact w.loops_le (Nat.le_trans (Nat.le_add_right _ 3) hm) x hx
  cases hasElse
  · exact (((i1.setLoops (hl _ (Nat.le_refl _))).edge (a := st.next) (b := st.next + 1) (t := .condT) (.inr hn) (l 0 3 (by decide))
      (l 1 3 (by decide))).edge (a := st.next) (b := st.next + 2) (t := .condF) (.inr hn) (l 0 3 (by decide)) (l 2 3 (by decide))).setCur
      (x := st.next + 1) o1 (l 1 3 (by decide))
  · exact (((i1.bump.setLoops (hl _ (Nat.le_succ _))).edge (a := st.next) (b := st.next + 1) (t := .condT) (.inr hn) (l 0 4 (by decide))
      (l 1 4 (by decide))).edge (a := st.next) (b := st.next + 3) (t := .condF) (.inr hn) (l 0 4 (by decide)) (l 3 4 (by decide))).setCur
      (x := st.next + 1) o1 (l 1 4 (by decide))

theorem loopPre_wf (w : WF st) (s e : Nat) (hasElse : Bool) : WF (loopPre st s e hasElse) :=
  (loopPre_inv (c := 0) w (.inr (Nat.zero_le _)) (Nat.zero_le _) s e hasElse).wf

theorem loopElsePre_inv {s0 s5 : St} (w : WF st) (k : Inv c n s0 s5) (hn : n ≤ st.next) (h5 : st.next + 4 ≤ s5.next) :
    Inv c n s0 (loopElsePre st s5) := by
  have k1 := k.edgeUnlessExit (b := st.next) (t := .loop) k.own k.wf.cur (Nat.lt_of_lt_of_le (Nat.lt_add_of_pos_right (Nat.succ_pos 3)) h5)
  have h5' : st.next + 4 ≤ (s5.edgeUnlessExit s5.cur st.next .loop).next := Nat.le_trans h5 (Nat.le_of_eq (edgeUnlessExit_next ..).symm)
  exact (k1.setLoops (l := st.loops) (w.loops_le (Nat.le_trans (Nat.le_add_right _ 4) h5'))).setCur (x := st.next + 3)
    (.inr (Nat.le_add_right_of_le hn)) h5'

/-! from the end of the last nested call to the end of the construct, relative to any earlier state `s0`: the blocks the header has
allocated are owned as soon as `n ≤ st.next`, whoever owns the block the construct started in -/
theorem loop_nil_join {s0 s5 : St} (w : WF st) (j : Inv c n s0 s5) (hn : n ≤ st.next) (h3 : st.next + 3 ≤ s5.next) :
    Inv c n s0 (setLoops (setCur (setLoops (s5.edgeUnlessExit s5.cur st.next .loop) st.loops) (st.next + 2)) st.loops) := by
  have j1 := j.edgeUnlessExit (b := st.next) (t := .loop) j.own j.wf.cur (Nat.lt_of_lt_of_le (Nat.lt_add_of_pos_right (Nat.succ_pos 2)) h3)
  have h3' : st.next + 3 ≤ (s5.edgeUnlessExit s5.cur st.next .loop).next := Nat.le_trans h3 (Nat.le_of_eq (edgeUnlessExit_next ..).symm)
  have hl := w.loops_le (Nat.le_trans (Nat.le_add_right _ 3) h3')
  exact ((j1.setLoops (l := st.loops) hl).setCur (x := st.next + 2) (.inr (Nat.le_add_right_of_le hn)) h3').setLoops (l := st.loops) hl

theorem loop_cons_join {s0 s8 : St} (w : WF st) (k : Inv c n s0 s8) (hn : n ≤ st.next) (hm : st.next + 2 < s8.next) :
    Inv c n s0 (setLoops (setCur (s8.edgeUnlessExit s8.cur (st.next + 2) .normal) (st.next + 2)) st.loops) := by
  have k4 := k.edgeUnlessExit (b := st.next + 2) (t := .normal) k.own k.wf.cur hm
  have hm' : st.next + 2 < (s8.edgeUnlessExit s8.cur (st.next + 2) .normal).next := Nat.lt_of_lt_of_le hm (Nat.le_of_eq (edgeUnlessExit_next ..).symm)
  exact (k4.setCur (x := st.next + 2) (.inr (Nat.le_add_right_of_le hn)) hm').setLoops (l := st.loops)
    (w.loops_le (Nat.le_of_lt (Nat.lt_of_le_of_lt (Nat.le_add_right _ 2) hm')))

theorem with_join {s0 s2 : St} (j : Inv c n s0 s2) (hn : n ≤ st.next) (h4 : st.next + 4 ≤ s2.next) :
    Inv c n s0 (setCur (((s2.edgeUnlessExit s2.cur (st.next + 2) .normal).edge st.next (st.next + 2) .exc).edge (st.next + 2)
      (st.next + 3) .normal) (st.next + 3)) := by
  have h4' : st.next + 4 ≤ (s2.edgeUnlessExit s2.cur (st.next + 2) .normal).next := Nat.le_trans h4 (Nat.le_of_eq (edgeUnlessExit_next ..).symm)
  have up : ∀ a, a < 4 → st.next + a < (s2.edgeUnlessExit s2.cur (st.next + 2) .normal).next :=
    fun _ h => Nat.lt_of_lt_of_le (Nat.add_lt_add_left h _) h4'
  have o : ∀ k, Own c n (st.next + k) := fun _ => .inr (Nat.le_add_right_of_le hn)
  exact (((j.edgeUnlessExit (b := st.next + 2) (t := .normal) j.own j.wf.cur (Nat.lt_of_lt_of_le (Nat.add_lt_add_left (by decide) _) h4)).edge
    (a := st.next) (b := st.next + 2) (t := .exc) (o 0) (up 0 (by decide)) (up 2 (by decide))).edge (a := st.next + 2) (b := st.next + 3)
    (t := .normal) (o 2) (up 2 (by decide)) (up 3 (by decide))).setCur (x := st.next + 3) (o 3) (up 3 (by decide))

theorem matchPre_inv (w : WF st) (hc : Own c n st.cur) (hn : n ≤ st.next) (s e : Nat) : Inv c n st (matchPre st s e) :=
  (stmtBlock_inv w hc hn s e).bump

theorem matchPre_wf (w : WF st) (s e : Nat) : WF (matchPre st s e) :=
  (matchPre_inv (c := 0) w (.inr (Nat.zero_le _)) (Nat.zero_le _) s e).wf

variable {mb merge : Nat}

theorem casePre_inv (w : WF st) (hn : n ≤ st.next) (hmo : Own c n mb) (hmb : mb < st.next) (s e : Nat) :
    Inv c n st (casePre st mb s e) :=
  (freshBranch_inv (Ext.refl w) hn hmo hmb .condT).add (.inr hn) (Nat.lt_succ_self _)

theorem ifPre_inv (w : WF st) (hc : Own c n st.cur) (hn : n ≤ st.next) (s e : Nat) : Inv c n st (ifPre st s e) :=
  ((((Inv.refl w hc).add (b := st.cur) (p := s) (q := e) (ty := .other) hc w.cur).bump.bump).edge (a := st.cur) (b := st.next)
    (t := .condT) hc (Nat.lt_add_right 2 w.cur) (Nat.lt_succ_of_lt (Nat.lt_succ_self _))).setCur (x := st.next) (.inr hn)
    (Nat.lt_succ_of_lt (Nat.lt_succ_self _))

theorem elifPre_inv (w : WF st) (hc : Own c n st.cur) (hn : n ≤ st.next) (s e : Nat) : Inv c n st (elifPre st s e) :=
  freshBranch_inv ((Ext.refl w).add (b := st.cur) (p := s) (q := e) (ty := .other) hc w.cur) hn hc w.cur .condT

theorem ifPre_wf (w : WF st) (s e : Nat) : WF (ifPre st s e) :=
  (ifPre_inv (c := st.cur) w (.inl rfl) (Nat.le_refl _) s e).wf
theorem elifPre_wf (w : WF st) (s e : Nat) : WF (elifPre st s e) :=
  (elifPre_inv (c := st.cur) w (.inl rfl) (Nat.le_refl _) s e).wf

end pre

theorem handlerPre_inv {hb : Nat} {st : St} (w : WF st) (hbo : Own c n hb) (hbl : hb < st.next) (s e : Nat) :
    Inv c n st (handlerPre st hb s e) :=
  (((Ext.refl w).setCur hbl).inv hbo).add hbo hbl

/-! `finallyPropagation` in three steps: the `ret` edge (`fp1`), the `brk` and `cont` edges of the innermost loop (`fp2`), the `exc`
edges (`fp3`); `conn` is its edge that is added unless `fin` has that successor already -/
def conn (fin : Nat) (st : St) (b : Nat) (t : ETy) : St := if st.hasSucc fin b then st else st.edge fin b t

theorem conn_cases (fin : Nat) (st : St) (b : Nat) (t : ETy) : conn fin st b t = st ∨ conn fin st b t = st.edge fin b t := by
  unfold conn
  split
  · exact .inl rfl
  · exact .inr rfl

section conn
variable (fin : Nat) (st : St) (b : Nat) (t : ETy)
@[simp] theorem conn_loops : (conn fin st b t).loops = st.loops := by unfold conn; split <;> rfl
@[simp] theorem conn_excs : (conn fin st b t).excs = st.excs := by unfold conn; split <;> rfl
@[simp] theorem conn_cur : (conn fin st b t).cur = st.cur := by unfold conn; split <;> rfl
@[simp] theorem conn_stmts : (conn fin st b t).stmts = st.stmts := by unfold conn; split <;> rfl
end conn

def fp1 (fin : Nat) (nextOuter : Option Nat) (st : St) : St :=
  match nextOuter with
  | some o => conn fin st o .ret
  | none => conn fin st exitB .ret

def fp2 (fin : Nat) (outer : List Exc) (st : St) : St :=
  match st.loops with
  | [] => st
  | (hdr, ex, d) :: _ =>
    let nextLoop : Option Nat := (outer.take (st.excs.length - 1 - d)).findSome? (fun c => c.fin)
    let st := match nextLoop with
      | some o => conn fin st o .brk
      | none => conn fin st ex .brk
    match nextLoop with
      | some o => conn fin st o .cont
      | none => conn fin st hdr .cont

def fp3 (fin : Nat) (outer : List Exc) (nextOuter : Option Nat) (st : St) : St :=
  match nextOuter with
  | some o => conn fin st o .exc
  | none =>
    match outer with
    | c :: _ => c.handlers.foldl (fun st h => conn fin st h .exc) st
    | [] => conn fin st exitB .exc

theorem finallyPropagation_eq (st : St) (fin : Nat) :
    finallyPropagation st fin =
      fp3 fin (st.excs.drop 1) ((st.excs.drop 1).findSome? (fun c => c.fin))
        (fp2 fin (st.excs.drop 1) (fp1 fin ((st.excs.drop 1).findSome? (fun c => c.fin)) st)) := rfl

/-- the targets of the propagation edges out of a `finally` block, with the edge types, in the order in which they are added -/
def fpT (st : St) : List (Nat × ETy) :=
  let outer := st.excs.drop 1
  let no := outer.findSome? (fun c => c.fin)
  (no.getD exitB, ETy.ret) ::
  ((match st.loops with
    | [] => []
    | (hdr, ex, d) :: _ =>
      [(((outer.take (st.excs.length - 1 - d)).findSome? (fun c => c.fin)).getD ex, ETy.brk),
       (((outer.take (st.excs.length - 1 - d)).findSome? (fun c => c.fin)).getD hdr, ETy.cont)]) ++
   (match no with
    | some o => [(o, ETy.exc)]
    | none =>
      match outer with
      | c :: _ => c.handlers.map (fun h => (h, ETy.exc))
      | [] => [(exitB, ETy.exc)]))

theorem finallyPropagation_fold (st : St) (fin : Nat) :
    finallyPropagation st fin = (fpT st).foldl (fun s bt => conn fin s bt.1 bt.2) st := by
  rw [finallyPropagation_eq]
  unfold fpT
  simp only [List.foldl_cons, List.foldl_append]
  generalize (st.excs.drop 1).findSome? (fun c => c.fin) = no
  have h1 : fp1 fin no st = conn fin st (no.getD exitB) .ret := by
    unfold fp1; cases no <;> rfl
  rw [h1]
  have hc1 : (conn fin st (no.getD exitB) .ret).loops = st.loops ∧ (conn fin st (no.getD exitB) .ret).excs = st.excs := by
    rcases conn_cases fin st (no.getD exitB) .ret with h | h <;> rw [h] <;> exact ⟨rfl, rfl⟩
  generalize conn fin st (no.getD exitB) .ret = s1 at hc1 ⊢
  have h2 : fp2 fin (st.excs.drop 1) s1 = (match st.loops with
      | [] => ([] : List (Nat × ETy))
      | (hdr, ex, d) :: _ =>
        [(((List.take (st.excs.length - 1 - d) (st.excs.drop 1)).findSome? (fun c : Exc => c.fin)).getD ex, ETy.brk),
         (((List.take (st.excs.length - 1 - d) (st.excs.drop 1)).findSome? (fun c : Exc => c.fin)).getD hdr, ETy.cont)]).foldl
      (fun (s : St) (bt : Nat × ETy) => conn fin s bt.1 bt.2) s1 := by
    unfold fp2
    rw [hc1.1, hc1.2]
    cases st.loops with
    | nil => rfl
    | cons l rest =>
      obtain ⟨hdr, ex, d⟩ := l
      simp only [List.foldl_cons, List.foldl_nil]
      cases (List.take (st.excs.length - 1 - d) (st.excs.drop 1)).findSome? (fun c => c.fin) <;> rfl
  rw [h2]
  generalize List.foldl _ s1 _ = s2
  unfold fp3
  cases no with
  | some o => rfl
  | none =>
    cases st.excs.drop 1 with
    | nil => rfl
    | cons c rest => simp only [List.foldl_map]

theorem fp_ind {P : St → Prop} {st : St} {fin : Nat} (h0 : P st)
    (step : ∀ s b t, (b, t) ∈ fpT st → P s → P (conn fin s b t)) : P (finallyPropagation st fin) := by
  rw [finallyPropagation_fold]
  have : ∀ (l : List (Nat × ETy)) (s : St), (∀ bt ∈ l, bt ∈ fpT st) → P s → P (l.foldl (fun s bt => conn fin s bt.1 bt.2) s) := by
    intro l
    induction l with
    | nil => exact fun _ _ h => h
    | cons bt l ih =>
      intro s hm h
      exact ih _ (fun x hx => hm x (List.mem_cons_of_mem _ hx)) (step s bt.1 bt.2 (hm bt (List.mem_cons_self ..)) h)
  exact this _ st (fun _ h => h) h0

theorem fpT_mem {st : St} {b : Nat} {t : ETy} (h : (b, t) ∈ fpT st) :
    b = exitB ∨ (∃ c ∈ st.excs.drop 1, c.fin = some b ∨ b ∈ c.handlers) ∨ (∃ l rest, st.loops = l :: rest ∧ (b = l.1 ∨ b = l.2.1)) := by
  unfold fpT at h
  have fin_of : ∀ {Y : List Exc} {d : Nat}, (∀ c ∈ Y, c ∈ st.excs.drop 1) → (Y.findSome? (fun c => c.fin)).getD d = b →
      b = d ∨ ∃ c ∈ st.excs.drop 1, c.fin = some b ∨ b ∈ c.handlers := by
    intro Y d hY hb
    cases hf : Y.findSome? (fun c => c.fin) with
    | none => rw [hf] at hb; exact .inl hb.symm
    | some o =>
      rw [hf] at hb
      obtain ⟨c, hc, hcf⟩ := List.exists_of_findSome?_eq_some hf
      exact .inr ⟨c, hY c hc, .inl (by rw [hcf]; exact congrArg some hb)⟩
  simp only [List.mem_cons, List.mem_append, Prod.mk.injEq] at h
  rcases h with ⟨h, _⟩ | h | h
  · rcases fin_of (fun c hc => hc) h.symm with h | h
    · exact .inl h
    · exact .inr (.inl h)
  · split at h
    · cases h
    · next hdr ex d rest hl =>
      simp only [List.mem_cons, Prod.mk.injEq, List.not_mem_nil, or_false] at h
      rcases h with ⟨h, _⟩ | ⟨h, _⟩
      · rcases fin_of (fun c hc => List.mem_of_mem_take hc) h.symm with h | h
        · exact .inr (.inr ⟨_, rest, hl, .inr h⟩)
        · exact .inr (.inl h)
      · rcases fin_of (fun c hc => List.mem_of_mem_take hc) h.symm with h | h
        · exact .inr (.inr ⟨_, rest, hl, .inl h⟩)
        · exact .inr (.inl h)
  · split at h
    · next o ho =>
      simp only [List.mem_cons, Prod.mk.injEq, List.not_mem_nil, or_false] at h
      obtain ⟨c, hc, hcf⟩ := List.exists_of_findSome?_eq_some ho
      exact .inr (.inl ⟨c, hc, .inl (by rw [hcf, h.1])⟩)
    · split at h
      · next c rest hc =>
        simp only [List.mem_map, Prod.mk.injEq] at h
        obtain ⟨x, hx, rfl, _⟩ := h
        exact .inr (.inl ⟨c, by rw [hc]; exact List.mem_cons_self .., .inr hx⟩)
      · simp only [List.mem_cons, Prod.mk.injEq, List.not_mem_nil, or_false] at h
        exact .inl h.1

theorem fpT_sat {P : Nat → Prop} {st : St} (he : P exitB) (hl : ∀ l ∈ st.loops, P l.1 ∧ P l.2.1)
    (hx : ∀ c ∈ st.excs, (∀ f, c.fin = some f → P f) ∧ ∀ h ∈ c.handlers, P h) {b : Nat} {t : ETy} (h : (b, t) ∈ fpT st) : P b := by
  rcases fpT_mem h with rfl | ⟨c, hc, h | h⟩ | ⟨l, rest, hl', h⟩
  · exact he
  · exact (hx c (List.mem_of_mem_drop hc)).1 b h
  · exact (hx c (List.mem_of_mem_drop hc)).2 b h
  · have := hl l (hl' ▸ List.mem_cons_self ..)
    rcases h with rfl | rfl
    · exact this.1
    · exact this.2

theorem fpT_lt {st : St} (w : WF st) {b : Nat} {t : ETy} (h : (b, t) ∈ fpT st) : b < st.next :=
  fpT_sat (P := (· < st.next)) (Nat.lt_of_lt_of_le (by decide : exitB < 2) w.two) w.loops w.excs h

theorem finallyPropagation_stmts (st : St) (fin : Nat) : (finallyPropagation st fin).stmts = st.stmts :=
  fp_ind (P := fun s => s.stmts = st.stmts) rfl fun _ _ _ _ h => (conn_stmts ..).trans h

/-- the blocks allocated for the handlers of a `try` with `k` handlers, from `n` on -/
theorem handlerIds_mem {n k h : Nat} (hh : h ∈ (List.range k).map (fun i => n + i)) : n ≤ h ∧ h < n + k := by
  obtain ⟨i, hi, rfl⟩ := List.mem_map.mp hh
  have := List.mem_range.mp hi
  omega

theorem nodup_map_add (b n : Nat) : ((List.range n).map (fun k => b + k)).Nodup := by
  unfold List.Nodup
  rw [List.pairwise_map]
  exact List.Pairwise.imp (fun h => by omega) (List.nodup_range (n := n))

/-- the state in which the body of a `try` is processed: the handler blocks `hbs` are allocated and the new context is pushed -/
theorem tryMidPre_inv {st s3 : St} (k : Ext c n st s3) (tryB : Nat) (hto : Own c n tryB) (htl : tryB < s3.next)
    (cfin : Option Nat) (hcf : ∀ f, cfin = some f → f < s3.next) (excs0 : List Exc)
    (hx : ∀ cx ∈ excs0, (∀ f, cx.fin = some f → f < s3.next) ∧ ∀ h ∈ cx.handlers, h < s3.next)
    (hbs : List Nat) (len : Nat) (hmem : ∀ h ∈ hbs, h < s3.next + len) :
    Inv c n st (setCur (setExcs (bumpN s3 len) ({ fin := cfin, handlers := hbs, processingFinally := false } :: excs0)) tryB) := by
  refine (((k.bumpN len).setExcs (x := { fin := cfin, handlers := hbs, processingFinally := false } :: excs0) ?_).setCur
    (x := tryB) (Nat.lt_add_right _ htl)).inv hto
  intro cx hcx
  rcases List.mem_cons.mp hcx with rfl | hcx
  · exact ⟨fun f hf => Nat.lt_add_right _ (hcf f hf), hmem⟩
  · exact ⟨fun f hf => Nat.lt_add_right _ ((hx cx hcx).1 f hf), fun h hh => Nat.lt_add_right _ ((hx cx hcx).2 h hh)⟩

theorem tryPre_frame (st : St) (w : WF st) (hc : Own c n st.cur) (hasFin hasElse : Bool) : Inv c n st (tryPre st hasFin hasElse).1 := by
  have i1 := ((Inv.refl w hc).bump.edge (a := st.cur) (b := st.next) (t := .normal) hc (Nat.lt_succ_of_lt w.cur) (Nat.lt_succ_self _)).bump
  unfold tryPre
  cases hasFin <;> cases hasElse <;> simp only [Bool.false_eq_true, ↓reduceIte]
  · exact i1
  · exact i1.bump
  · exact i1.bump
  · exact i1.bump.bump

/-- what `procTry` has allocated in `s3`: the entry block `st.next` with its edge, the exit block `st.next + 1`, then `finB` and `elseB`
where they exist (in this order); nothing else has changed, and the targets handed to the stages exist -/
structure TryBlocks (st : St) (hasFin hasElse : Bool) (s3 : St) (finB elseB : Nat) (cfin : Option Nat) (nat ah : Nat) : Prop where
  loops : s3.loops = st.loops
  excs : s3.excs = st.excs
  next_le : st.next + 2 ≤ s3.next
  stmts : s3.stmts = st.stmts
  edges : s3.edges = (st.cur, st.next, ETy.normal) :: st.edges
  fin : hasFin = true → st.next + 2 ≤ finB ∧ finB < s3.next ∧ finB ≠ elseB
  els : hasElse = true → st.next + 2 ≤ elseB ∧ elseB < s3.next
  fin_ne : finB ≠ st.next + 1
  els_ne : elseB ≠ st.next + 1
  cfin_lt : ∀ f, cfin = some f → f < s3.next
  nat_lt : nat < s3.next
  ah_lt : ah < s3.next

section alloc
variable {st s3 : St} {hasFin hasElse : Bool} {finB elseB : Nat} {cfin : Option Nat} {nat ah : Nat}

theorem TryAlloc.inv (ha : TryAlloc st hasFin hasElse s3 finB elseB cfin nat ah) (w : WF st) (hc : Own c n st.cur) : Inv c n st s3 := by
  have k3 := tryPre_frame st w hc hasFin hasElse
  rwa [ha.pre] at k3

theorem TryBlocks.same (b : TryBlocks st hasFin hasElse s3 finB elseB cfin nat ah) : Same st s3 := ⟨b.loops, b.excs⟩

theorem TryAlloc.allocated (ha : TryAlloc st hasFin hasElse s3 finB elseB cfin nat ah) :
    TryBlocks st hasFin hasElse s3 finB elseB cfin nat ah := by
  obtain ⟨hp, rfl, rfl, rfl⟩ := ha
  cases hasFin <;> cases hasElse <;> simp [tryPre] at hp <;> obtain ⟨rfl, rfl, rfl⟩ := hp <;> constructor <;> simp <;> omega

end alloc

theorem finPre_inv {st s8 : St} (k : Ext c n st s8) {ctx : Exc} {excs0 : List Exc} (hex : s8.excs = ctx :: excs0) {finB : Nat}
    (hfo : Own c n finB) (hfl : finB < s8.next) : Inv c n st (finPre s8 finB ctx excs0) := by
  have hb := k.wf.excs
  rw [hex] at hb
  refine ((k.setCur hfl).inv hfo).setExcs (x := { ctx with processingFinally := true } :: excs0) ?_
  intro cx hcx
  rcases List.mem_cons.mp hcx with rfl | hcx
  · exact hb ctx (List.mem_cons_self ..)
  · exact hb cx (List.mem_cons_of_mem _ hcx)

end PV.CFGSound
