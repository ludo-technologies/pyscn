import PV.Proofs.CFGEqns
/-!
The builder as a relation.  `Run st c st'`: the call `c` of a builder function, started in `st`, ends in `st'`.  There is one
constructor per case of each function, written with the named state updates and, where `CFGEqns` names it, the pre-body state; the
state a nested call ends in is a variable of the constructor.  `run_all` shows that the functions of the mirror satisfy the relation;
the unfolding equations of the mutually recursive functions are used there, and elsewhere only to evaluate the builder on a given
program.  Every fact about all builder calls is then an induction over `Run`: the induction hypotheses for the nested calls, at
whatever state they start from, come with the case.  Also named here: the two ways an `if` ends (`elseJoin`, `tailJoin`, with their
cases) and what `procTry` allocates before its stages (`TryAlloc`).
-/
namespace PV.CFGSound
open PV.CFG

/-- the calls of the builder's mutually recursive functions, and of the stages `procTry` is cut into -/
inductive Call where
  | stmt (x : Stmt)
  | list (ss : List Stmt)
  | if_ (s e : Nat) (thn orelse : List Stmt)
  | elif (s e : Nat) (thn orelse : List Stmt) (fm : Nat)
  | elifTail (cond thenEnd merge s' e' : Nat) (thn' orelse' : List Stmt)
  | cases (cs : List Stmt) (mb merge : Nat)
  | handlers (hs : List Stmt) (hbs : List Nat) (after : Nat)
  | tryMid (tryB : Nat) (cfin : Option Nat) (excs0 : List Exc) (nat ah : Nat) (body handlers : List Stmt)
  | tryElse (hasElse : Bool) (elseB ah : Nat) (orelse : List Stmt)
  | tryFin (hasFin : Bool) (finB exitBk : Nat) (ctx : Exc) (excs0 : List Exc) (fin : List Stmt)

def Call.run (st : St) : Call → St
  | .stmt x => procStmt st x
  | .list ss => procList st ss
  | .if_ s e thn orelse => procIf st s e thn orelse
  | .elif s e thn orelse fm => procIfElif st s e thn orelse fm
  | .elifTail cond thenEnd merge s' e' thn' orelse' => procIfElifTail st cond thenEnd merge s' e' thn' orelse'
  | .cases cs mb merge => procCases st cs mb merge
  | .handlers hs hbs after => procHandlers st hs hbs after
  | .tryMid tryB cfin excs0 nat ah body hs => CFGSound.tryMid st tryB cfin excs0 nat ah body hs
  | .tryElse hasElse elseB ah orelse => CFGSound.tryElse st hasElse elseB ah orelse
  | .tryFin hasFin finB exitBk ctx excs0 fin => CFGSound.tryFin st hasFin finB exitBk ctx excs0 fin

/-- what `procIf` / `procIfElif` do after a plain `else` part (`s5`: the state after it, `te`: the last block of the first branch,
`join`: the edges to the merge block) -/
def elseJoin (s5 : St) (te : Nat) (join : St) : St :=
  if s5.blockTerminates te && s5.blockTerminates s5.cur then setCur (bumpU s5) s5.next else join

/-- what `procIfElifTail` does after the chain (`s5`: the state after it) -/
def tailJoin (s5 : St) (thenEnd merge : Nat) : St :=
  if s5.unreach.contains s5.cur then
    if s5.blockTerminates thenEnd then s5
    else setCur ((setCur s5 merge).edgeUnlessExit thenEnd merge .normal) merge
  else setCur (s5.edgeUnlessExit thenEnd merge .normal) merge

theorem elseJoin_cases (s5 : St) (te : Nat) (join : St) : elseJoin s5 te join = setCur (bumpU s5) s5.next ∨ elseJoin s5 te join = join := by
  unfold elseJoin
  split
  · exact .inl rfl
  · exact .inr rfl

theorem tailJoin_cases (s5 : St) (te merge : Nat) :
    tailJoin s5 te merge = s5 ∨ tailJoin s5 te merge = setCur ((setCur s5 merge).edgeUnlessExit te merge .normal) merge ∨
      tailJoin s5 te merge = setCur (s5.edgeUnlessExit te merge .normal) merge := by
  unfold tailJoin
  split
  · split
    · exact .inl rfl
    · exact .inr (.inl rfl)
  · exact .inr (.inr rfl)

theorem tailJoin_next (s5 : St) (te merge : Nat) : (tailJoin s5 te merge).next = s5.next := by
  rcases tailJoin_cases s5 te merge with h | h | h
  · rw [h]
  · rw [h, setCur_next, edgeUnlessExit_next, setCur_next]
  · rw [h, setCur_next, edgeUnlessExit_next]
theorem tailJoin_stmts (s5 : St) (te merge : Nat) : (tailJoin s5 te merge).stmts = s5.stmts := by
  rcases tailJoin_cases s5 te merge with h | h | h
  · rw [h]
  · rw [h, setCur_stmts, edgeUnlessExit_stmts, setCur_stmts]
  · rw [h, setCur_stmts, edgeUnlessExit_stmts]

theorem finishElif_next (s : St) (te fm : Nat) : (finishElif s te fm).next = s.next := by
  unfold finishElif
  rw [setCur_next, edgeUnlessExit_next]

/-- what `procTry` allocates before the body is processed: `finB` / `elseB` exist iff there is a `finally` / `else` part (and are `0`
otherwise); `cfin`, `nat`, `ah` are the targets handed to the stages -/
structure TryAlloc (st : St) (hasFin hasElse : Bool) (s3 : St) (finB elseB : Nat) (cfin : Option Nat) (nat ah : Nat) : Prop where
  pre : tryPre st hasFin hasElse = (s3, finB, elseB)
  cfin_eq : cfin = if hasFin = true then some finB else none
  ah_eq : ah = if hasFin = true then finB else st.next + 1
  nat_eq : nat = if hasElse = true then elseB else ah

inductive Run : St → Call → St → Prop
  | simple (st : St) (s e : Nat) (c : List Bool) (h : Bool) :
      Run st (.stmt (.simple s e c h))
        (if h then (procComp st s e c).add (procComp st s e c).cur s e .other else st.add st.cur s e .other)
  | ret (st : St) (s e : Nat) (c : List Bool) (h : Bool) : Run st (.stmt (.ret s e c h)) (procRet st s e c h)
  | brk (st : St) (s e : Nat) : Run st (.stmt (.brk s e)) (procBrk st s e)
  | cont (st : St) (s e : Nat) : Run st (.stmt (.cont s e)) (procCont st s e)
  | raise (st : St) (s e : Nat) : Run st (.stmt (.raise s e)) (procRaise st s e)
  | def_ (st : St) (s e : Nat) (b : List Stmt) : Run st (.stmt (.def_ s e b)) (st.add st.cur s e .other)
  | handler (st : St) (s e : Nat) (b : List Stmt) : Run st (.stmt (.handler s e b)) (st.add st.cur s e .other)
  | case_ (st : St) (s e : Nat) (b : List Stmt) : Run st (.stmt (.case_ s e b)) (st.add st.cur s e .other)
  | class_ {st : St} {s e : Nat} {body : List Stmt} {s1 : St} :
      Run (classPre st s e) (.list body) s1 → Run st (.stmt (.class_ s e body)) s1
  | ite {st : St} {s e : Nat} {a b : List Stmt} {s1 : St} : Run st (.if_ s e a b) s1 → Run st (.stmt (.ite s e a b)) s1
  | elifc {st : St} {s e : Nat} {a b : List Stmt} {s1 : St} : Run st (.if_ 0 0 a b) s1 → Run st (.stmt (.elifc s e a b)) s1
  | elsec {st : St} {s e : Nat} {b : List Stmt} {s1 : St} : Run st (.list b) s1 → Run st (.stmt (.elsec s e b)) s1
  | loop_nil {st : St} {s e : Nat} {body : List Stmt} {s5 : St} :
      Run (loopPre st s e false) (.list body) s5 →
      Run st (.stmt (.loop s e body []))
        (setLoops (setCur (setLoops (s5.edgeUnlessExit s5.cur st.next .loop) st.loops) (st.next + 2)) st.loops)
  | loop_cons {st : St} {s e : Nat} {body : List Stmt} {o : Stmt} {os : List Stmt} {s5 s8 : St} :
      Run (loopPre st s e true) (.list body) s5 → Run (loopElsePre st s5) (.list (o :: os)) s8 →
      Run st (.stmt (.loop s e body (o :: os))) (setLoops (setCur (s8.edgeUnlessExit s8.cur (st.next + 2) .normal) (st.next + 2)) st.loops)
  | with_ {st : St} {s e : Nat} {body : List Stmt} {s2 : St} :
      Run (withPre st s e) (.list body) s2 →
      Run st (.stmt (.with_ s e body))
        (setCur (((s2.edgeUnlessExit s2.cur (st.next + 2) .normal).edge st.next (st.next + 2) .exc).edge (st.next + 2) (st.next + 3) .normal)
          (st.next + 3))
  | match_nil (st : St) (s e : Nat) :
      Run st (.stmt (.match_ s e [])) (setCur ((matchPre st s e).edge st.next (st.next + 1) .normal) (st.next + 1))
  | match_cons {st : St} {s e : Nat} {c : Stmt} {cs : List Stmt} {s2 : St} :
      Run (matchPre st s e) (.cases (c :: cs) st.next (st.next + 1)) s2 →
      Run st (.stmt (.match_ s e (c :: cs))) (setCur (s2.edge st.next (st.next + 1) .condF) (st.next + 1))
  | try_ {st : St} {s e : Nat} {body handlers orelse fin : List Stmt} {s3 : St} {finB elseB : Nat} {cfin : Option Nat} {nat ah : Nat}
      {s7 s8 s9 : St} :
      TryAlloc st (!fin.isEmpty) (!orelse.isEmpty) s3 finB elseB cfin nat ah →
      Run s3 (.tryMid st.next cfin st.excs nat ah body handlers) s7 → Run s7 (.tryElse (!orelse.isEmpty) elseB ah orelse) s8 →
      Run s8 (.tryFin (!fin.isEmpty) finB (st.next + 1)
        { fin := cfin, handlers := (List.range handlers.length).map (fun k => s3.next + k), processingFinally := false } st.excs fin) s9 →
      Run st (.stmt (.try_ s e body handlers orelse fin)) (setExcs (setCur s9 (st.next + 1)) st.excs)
  | nil (st : St) : Run st (.list []) st
  | cons {st : St} {x : Stmt} {xs : List Stmt} {s1 s2 : St} : Run st (.stmt x) s1 → Run s1 (.list xs) s2 → Run st (.list (x :: xs)) s2
  | if_nil {st : St} {s e : Nat} {thn : List Stmt} {s3 : St} :
      Run (ifPre st s e) (.list thn) s3 →
      Run st (.if_ s e thn []) (setCur ((s3.edge st.cur (st.next + 1) .condF).edgeUnlessExit s3.cur (st.next + 1) .normal) (st.next + 1))
  | if_chain {st : St} {s e : Nat} {thn l a b : List Stmt} {s' e' : Nat} {s3 s5 : St} :
      Chain l s' e' a b → Run (ifPre st s e) (.list thn) s3 → Run s3 (.elifTail st.cur s3.cur (st.next + 1) s' e' a b) s5 →
      Run st (.if_ s e thn l) s5
  | if_else {st : St} {s e : Nat} {thn : List Stmt} {o : Stmt} {os : List Stmt} {s3 s5 : St} :
      (∀ s' e' a b, o :: os ≠ [.elifc s' e' a b]) → (∀ s' e' a b, o :: os ≠ [.ite s' e' a b]) →
      Run (ifPre st s e) (.list thn) s3 → Run (setCur ((bump s3).edge st.cur s3.next .condF) s3.next) (.list (o :: os)) s5 →
      Run st (.if_ s e thn (o :: os))
        (elseJoin s5 s3.cur (setCur ((s5.edgeUnlessExit s3.cur (st.next + 1) .normal).edgeUnlessExit
          (s5.edgeUnlessExit s3.cur (st.next + 1) .normal).cur (st.next + 1) .normal) (st.next + 1)))
  | elifTail {st : St} {cond thenEnd merge s' e' : Nat} {thn' orelse' : List Stmt} {s5 : St} :
      Run (setCur ((bump st).edge cond st.next .condF) st.next) (.elif s' e' thn' orelse' merge) s5 →
      Run st (.elifTail cond thenEnd merge s' e' thn' orelse') (tailJoin s5 thenEnd merge)
  | elif_nil {st : St} {s e : Nat} {thn : List Stmt} {fm : Nat} {s3 : St} :
      Run (elifPre st s e) (.list thn) s3 → Run st (.elif s e thn [] fm) (finishElif (s3.edge st.cur fm .condF) s3.cur fm)
  | elif_chain {st : St} {s e : Nat} {thn l a b : List Stmt} {fm s' e' : Nat} {s3 s5 : St} :
      Chain l s' e' a b → Run (elifPre st s e) (.list thn) s3 →
      Run (setCur ((bump s3).edge st.cur s3.next .condF) s3.next) (.elif s' e' a b fm) s5 →
      Run st (.elif s e thn l fm) (finishElif s5 s3.cur fm)
  | elif_else {st : St} {s e : Nat} {thn : List Stmt} {fm : Nat} {o : Stmt} {os : List Stmt} {s3 s5 : St} :
      (∀ s' e' a b, o :: os ≠ [.elifc s' e' a b]) → (∀ s' e' a b, o :: os ≠ [.ite s' e' a b]) →
      Run (elifPre st s e) (.list thn) s3 → Run (setCur ((bump s3).edge st.cur s3.next .condF) s3.next) (.list (o :: os)) s5 →
      Run st (.elif s e thn (o :: os) fm) (elseJoin s5 s3.cur (finishElif (s5.edgeUnlessExit s5.cur fm .normal) s3.cur fm))
  | cases_nil (st : St) (mb merge : Nat) : Run st (.cases [] mb merge) st
  | cases_case {st : St} {s e : Nat} {body cs : List Stmt} {mb merge : Nat} {s1 s2 : St} :
      Run (casePre st mb s e) (.list body) s1 → Run (s1.edgeUnlessExit s1.cur merge .normal) (.cases cs mb merge) s2 →
      Run st (.cases (.case_ s e body :: cs) mb merge) s2
  | cases_other {st : St} {x : Stmt} {cs : List Stmt} {mb merge : Nat} {s1 s2 : St} :
      (∀ s e b, x ≠ .case_ s e b) → Run (setCur ((bump st).edge mb st.next .condT) st.next) (.stmt x) s1 →
      Run (s1.edgeUnlessExit s1.cur merge .normal) (.cases cs mb merge) s2 → Run st (.cases (x :: cs) mb merge) s2
  | handlers_nil_l (st : St) (hbs : List Nat) (after : Nat) : Run st (.handlers [] hbs after) st
  | handlers_nil_r (st : St) (hs : List Stmt) (after : Nat) : Run st (.handlers hs [] after) st
  | handlers_handler {st : St} {s e : Nat} {body hs : List Stmt} {hb : Nat} {hbs : List Nat} {after : Nat} {s1 s2 : St} :
      Run (handlerPre st hb s e) (.list body) s1 → Run (s1.edgeUnlessExit s1.cur after .normal) (.handlers hs hbs after) s2 →
      Run st (.handlers (.handler s e body :: hs) (hb :: hbs) after) s2
  | handlers_other {st : St} {x : Stmt} {hs : List Stmt} {hb : Nat} {hbs : List Nat} {after : Nat} {s1 s2 : St} :
      (∀ s e b, x ≠ .handler s e b) → Run (setCur st hb) (.stmt x) s1 →
      Run (s1.edgeUnlessExit s1.cur after .normal) (.handlers hs hbs after) s2 → Run st (.handlers (x :: hs) (hb :: hbs) after) s2
  | tryMid {s3 : St} {tryB : Nat} {cfin : Option Nat} {excs0 : List Exc} {nat ah : Nat} {body handlers : List Stmt} {s5 s7 : St} :
      Run (setCur (setExcs (bumpN s3 handlers.length)
        ({ fin := cfin, handlers := (List.range handlers.length).map (fun k => s3.next + k), processingFinally := false } :: excs0)) tryB)
        (.list body) s5 →
      Run (((List.range handlers.length).map (fun k => s3.next + k)).foldl (fun st h => st.edge tryB h .exc)
        (s5.edgeUnlessExit s5.cur nat .normal)) (.handlers handlers ((List.range handlers.length).map (fun k => s3.next + k)) ah) s7 →
      Run s3 (.tryMid tryB cfin excs0 nat ah body handlers) s7
  | tryElse_none (s7 : St) (elseB ah : Nat) (orelse : List Stmt) : Run s7 (.tryElse false elseB ah orelse) s7
  | tryElse_some {s7 : St} {elseB ah : Nat} {orelse : List Stmt} {s : St} :
      Run (setCur s7 elseB) (.list orelse) s → Run s7 (.tryElse true elseB ah orelse) (s.edgeUnlessExit s.cur ah .normal)
  | tryFin_none (s8 : St) (finB exitBk : Nat) (ctx : Exc) (excs0 : List Exc) (fin : List Stmt) :
      Run s8 (.tryFin false finB exitBk ctx excs0 fin) s8
  | tryFin_some {s8 : St} {finB exitBk : Nat} {ctx : Exc} {excs0 : List Exc} {fin : List Stmt} {s : St} :
      Run (finPre s8 finB ctx excs0) (.list fin) s →
      Run s8 (.tryFin true finB exitBk ctx excs0 fin)
        (finallyPropagation ((setExcs s (ctx :: excs0)).edgeUnlessExit (setExcs s (ctx :: excs0)).cur exitBk .normal) finB)

theorem case_cases (x : Stmt) : (∃ s e b, x = .case_ s e b) ∨ (∀ s e b, x ≠ .case_ s e b) := by
  cases x
  case case_ s e b => exact .inl ⟨s, e, b, rfl⟩
  all_goals (right; intro _ _ _ h; cases h)

theorem handler_cases (x : Stmt) : (∃ s e b, x = .handler s e b) ∨ (∀ s e b, x ≠ .handler s e b) := by
  cases x
  case handler s e b => exact .inl ⟨s, e, b, rfl⟩
  all_goals (right; intro _ _ _ h; cases h)

def ElifRuns (a b : List Stmt) : Prop := ∀ (st : St) (s e fm : Nat), Run st (.elif s e a b fm) (procIfElif st s e a b fm)

structure RunsL (l : List Stmt) : Prop where
  list : ∀ st, Run st (.list l) (procList st l)
  chain : ∀ {s' e' a b}, Chain l s' e' a b → ElifRuns a b
  cases : ∀ st mb merge, Run st (.cases l mb merge) (procCases st l mb merge)
  handlers : ∀ st hbs after, Run st (.handlers l hbs after) (procHandlers st l hbs after)

/-- the lists inside `x` that the CALLER of `x` processes: the branches of an `if` that continues a chain, the body of a `case` or
`except` clause (the statement `x` itself does not process the latter) -/
inductive Part : Stmt → List Stmt → Prop
  | ite_l (s e a b) : Part (.ite s e a b) a
  | ite_r (s e a b) : Part (.ite s e a b) b
  | elifc_l (s e a b) : Part (.elifc s e a b) a
  | elifc_r (s e a b) : Part (.elifc s e a b) b
  | case_ (s e a) : Part (.case_ s e a) a
  | handler (s e a) : Part (.handler s e a) a

structure RunsS (x : Stmt) : Prop where
  stmt : ∀ st, Run st (.stmt x) (procStmt st x)
  parts : ∀ {p}, Part x p → RunsL p

theorem run_elif {thn orelse : List Stmt} (h1 : RunsL thn) (h2 : RunsL orelse) : ElifRuns thn orelse := by
  intro st s e fm
  have r3 := h1.list (elifPre st s e)
  rcases chain_cases orelse with rfl | ⟨s', e', a, b, hch⟩ | ⟨o, os, rfl, hne1, hne2⟩
  · rw [procIfElif_nil]; exact .elif_nil r3
  · rw [hch.procIfElif]; exact .elif_chain hch r3 (h2.chain hch _ s' e' fm)
  · rw [procIfElif_else _ _ _ _ _ _ _ hne1 hne2]; exact .elif_else hne1 hne2 r3 (h2.list _)

theorem run_elifTail {thn' orelse' : List Stmt} (h : ElifRuns thn' orelse') (st : St) (cond thenEnd merge s' e' : Nat) :
    Run st (.elifTail cond thenEnd merge s' e' thn' orelse') (procIfElifTail st cond thenEnd merge s' e' thn' orelse') := by
  rw [procIfElifTail_eq]; exact .elifTail (h _ s' e' merge)

theorem run_if {thn orelse : List Stmt} (h1 : RunsL thn) (h2 : RunsL orelse) (st : St) (s e : Nat) :
    Run st (.if_ s e thn orelse) (procIf st s e thn orelse) := by
  have r3 := h1.list (ifPre st s e)
  rcases chain_cases orelse with rfl | ⟨s', e', a, b, hch⟩ | ⟨o, os, rfl, hne1, hne2⟩
  · rw [procIf_nil]; exact .if_nil r3
  · rw [hch.procIf]; exact .if_chain hch r3 (run_elifTail (h2.chain hch) ..)
  · rw [procIf_else _ _ _ _ _ _ hne1 hne2]; exact .if_else hne1 hne2 r3 (h2.list _)

theorem run_tryElse {orelse : List Stmt} (ho : RunsL orelse) (hasElse : Bool) (elseB ah : Nat) (s7 : St) :
    Run s7 (.tryElse hasElse elseB ah orelse) (tryElse s7 hasElse elseB ah orelse) := by
  cases hasElse
  · exact .tryElse_none ..
  · exact .tryElse_some (ho.list _)

theorem run_tryFin {fin : List Stmt} (hf : RunsL fin) (hasFin : Bool) (finB exitBk : Nat) (ctx : Exc) (excs0 : List Exc) (s8 : St) :
    Run s8 (.tryFin hasFin finB exitBk ctx excs0 fin) (tryFin s8 hasFin finB exitBk ctx excs0 fin) := by
  cases hasFin
  · exact .tryFin_none ..
  · exact .tryFin_some (hf.list _)

theorem run_all : (∀ x, RunsS x) ∧ (∀ ss, RunsL ss) := by
  refine stmt_rs_ind ?_ ?_ ?_ ?_ ?_ ?_ ?_ ?_ ?_ ?_ ?_ ?_ ?_ ?_ ?_ ?_ ?_ ?_
  · exact fun s e c h => ⟨fun st => by rw [procStmt_simple]; exact .simple .., nofun⟩
  · exact fun s e c h => ⟨fun st => by rw [procStmt_ret]; exact .ret .., nofun⟩
  · exact fun s e => ⟨fun st => by rw [procStmt_brk]; exact .brk .., nofun⟩
  · exact fun s e => ⟨fun st => by rw [procStmt_cont]; exact .cont .., nofun⟩
  · exact fun s e => ⟨fun st => by rw [procStmt_raise]; exact .raise .., nofun⟩
  · exact fun s e a b ha hb => ⟨fun st => by rw [procStmt_ite]; exact .ite (run_if ha hb st s e), fun h => by cases h <;> assumption⟩
  · exact fun s e a b ha hb => ⟨fun st => by rw [procStmt_elifc]; exact .elifc (run_if ha hb st 0 0), fun h => by cases h <;> assumption⟩
  · exact fun s e a ha => ⟨fun st => by rw [procStmt_elsec]; exact .elsec (ha.list st), nofun⟩
  · intro s e a b ha hb
    refine ⟨fun st => ?_, nofun⟩
    rw [procStmt_loop]
    rcases b with _ | ⟨o, os⟩
    · rw [procLoop_nil]; exact .loop_nil (ha.list _)
    · rw [procLoop_cons]; exact .loop_cons (ha.list _) (hb.list _)
  · intro s e a hs c d ha hh hc hd
    refine ⟨fun st => ?_, nofun⟩
    rw [procStmt_try, procTry_eq]
    exact .try_ ⟨rfl, rfl, rfl, rfl⟩ (.tryMid (ha.list _) (hh.handlers ..)) (run_tryElse hc ..) (run_tryFin hd ..)
  · exact fun s e a ha => ⟨fun st => by rw [procStmt_handler]; exact .handler .., fun h => by cases h; exact ha⟩
  · exact fun s e a ha => ⟨fun st => by rw [procStmt_with, procWith_pre]; exact .with_ (ha.list _), nofun⟩
  · intro s e cs hcs
    refine ⟨fun st => ?_, nofun⟩
    rw [procStmt_match, procMatch_pre]
    rcases cs with _ | ⟨c, cs⟩
    · exact .match_nil ..
    · exact .match_cons (hcs.cases ..)
  · exact fun s e a ha => ⟨fun st => by rw [procStmt_case]; exact .case_ .., fun h => by cases h; exact ha⟩
  · exact fun s e a => ⟨fun st => by rw [procStmt_def]; exact .def_ .., nofun⟩
  · exact fun s e a ha => ⟨fun st => by rw [procStmt_class, procClass_pre]; exact .class_ (ha.list _), nofun⟩
  · exact ⟨fun st => by rw [procList_nil]; exact .nil st, nofun, fun st mb merge => by rw [procCases_nil]; exact .cases_nil ..,
      fun st hbs after => by rw [procHandlers_nil_l]; exact .handlers_nil_l ..⟩
  · intro x xs hx hxs
    refine ⟨fun st => by rw [procList_cons]; exact .cons (hx.stmt st) (hxs.list _), fun hch => ?_, fun st mb merge => ?_, fun st hbs after => ?_⟩
    · cases hch
      · exact run_elif (hx.parts (.elifc_l ..)) (hx.parts (.elifc_r ..))
      · exact run_elif (hx.parts (.ite_l ..)) (hx.parts (.ite_r ..))
    · rcases case_cases x with ⟨s, e, b, rfl⟩ | hne
      · rw [procCases_pre]; exact .cases_case ((hx.parts (.case_ ..)).list _) (hxs.cases ..)
      · rw [procCases_other _ _ _ _ _ hne]; exact .cases_other hne (hx.stmt _) (hxs.cases ..)
    · rcases hbs with _ | ⟨hb, hbs⟩
      · rw [procHandlers_nil_r]; exact .handlers_nil_r ..
      · rcases handler_cases x with ⟨s, e, b, rfl⟩ | hne
        · rw [procHandlers_pre]; exact .handlers_handler ((hx.parts (.handler ..)).list _) (hxs.handlers ..)
        · rw [procHandlers_other _ _ _ _ _ _ hne]; exact .handlers_other hne (hx.stmt _) (hxs.handlers ..)

theorem run_call (c : Call) (st : St) : Run st c (c.run st) := by
  cases c with
  | stmt x => exact (run_all.1 x).stmt st
  | list ss => exact (run_all.2 ss).list st
  | if_ s e thn orelse => exact run_if (run_all.2 thn) (run_all.2 orelse) st s e
  | elif s e thn orelse fm => exact run_elif (run_all.2 thn) (run_all.2 orelse) st s e fm
  | elifTail cond thenEnd merge s' e' thn' orelse' => exact run_elifTail (run_elif (run_all.2 thn') (run_all.2 orelse')) ..
  | cases cs mb merge => exact (run_all.2 cs).cases st mb merge
  | handlers hs hbs after => exact (run_all.2 hs).handlers st hbs after
  | tryMid tryB cfin excs0 nat ah body handlers => exact .tryMid ((run_all.2 body).list _) ((run_all.2 handlers).handlers ..)
  | tryElse hasElse elseB ah orelse => exact run_tryElse (run_all.2 orelse) ..
  | tryFin hasFin finB exitBk ctx excs0 fin => exact run_tryFin (run_all.2 fin) ..

end PV.CFGSound
