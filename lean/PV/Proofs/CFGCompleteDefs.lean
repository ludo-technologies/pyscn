import PV.Proofs.CFGFrameA
import PV.Properties.C02
/-!
Completeness of the CFG mirror for structurally dead code (property C02) — shared definitions: the fragment predicate `okLC`, the
exempt lines `elifL` (heads of `elif` clauses: the builder stores the test of a converted `elif` with line 0), and the unfolding
equations of both and of the specification `PV.SD`.
-/
namespace PV.CFGSound
open PV.CFG PV.SD

/-! ### the fragment: `break`/`continue` only inside a loop of the same definition (flag `il`), `except` / `case`
clauses only as members of `try` / `match` (and nothing else there) -/
-- the termination proofs of a block all read `simp only [Stmt.size, sizeL]`, and each needs only one of the two
set_option linter.unusedSimpArgs false in
mutual
  def okLC (il : Bool) : List Stmt → Bool
    | [] => true
    | x :: xs => okSC il x && okLC il xs
  termination_by l => 2 * sizeL l
  decreasing_by
    all_goals (try simp_wf)
    all_goals (try simp only [Stmt.size, sizeL])
    all_goals omega
  def okSC (il : Bool) : Stmt → Bool
    | .simple .. | .def_ .. | .ret .. | .raise .. => true
    | .brk .. | .cont .. => il
    | .ite _ _ a b | .elifc _ _ a b => okLC il a && okLC il b
    | .elsec _ _ a => okLC il a
    | .loop _ _ a b => okLC true a && okLC il b
    | .with_ _ _ a => okLC il a
    | .match_ _ _ cs => okCasesC il cs
    | .class_ _ _ a => okLC false a
    | .try_ _ _ a hs c d => okLC il a && okHsC il hs && okLC il c && okLC il d
    | .handler .. | .case_ .. => false
  termination_by x => 2 * x.size + 1
  decreasing_by
    all_goals (try simp_wf)
    all_goals (try simp only [Stmt.size, sizeL])
    all_goals omega
  def okCasesC (il : Bool) : List Stmt → Bool
    | [] => true
    | .case_ _ _ a :: cs => okLC il a && okCasesC il cs
    | _ :: _ => false
  termination_by l => 2 * sizeL l
  decreasing_by
    all_goals (try simp_wf)
    all_goals (try simp only [Stmt.size, sizeL])
    all_goals omega
  def okHsC (il : Bool) : List Stmt → Bool
    | [] => true
    | .handler _ _ a :: hs => okLC il a && okHsC il hs
    | _ :: _ => false
  termination_by l => 2 * sizeL l
  decreasing_by
    all_goals (try simp_wf)
    all_goals (try simp only [Stmt.size, sizeL])
    all_goals omega
end

theorem okLC_nil (il : Bool) : okLC il [] = true := okLC.eq_1 ..
theorem okLC_cons (il : Bool) (x : Stmt) (xs : List Stmt) : okLC il (x :: xs) = (okSC il x && okLC il xs) := okLC.eq_2 ..
theorem okSC_brk (il : Bool) (s e : Nat) : okSC il (.brk s e) = il := okSC.eq_5 ..
theorem okSC_cont (il : Bool) (s e : Nat) : okSC il (.cont s e) = il := okSC.eq_6 ..
theorem okSC_ite (il : Bool) (s e : Nat) (a b : List Stmt) : okSC il (.ite s e a b) = (okLC il a && okLC il b) := okSC.eq_7 ..
theorem okSC_elifc (il : Bool) (s e : Nat) (a b : List Stmt) : okSC il (.elifc s e a b) = (okLC il a && okLC il b) := okSC.eq_8 ..
theorem okSC_elsec (il : Bool) (s e : Nat) (a : List Stmt) : okSC il (.elsec s e a) = okLC il a := okSC.eq_9 ..
theorem okSC_loop (il : Bool) (s e : Nat) (a b : List Stmt) : okSC il (.loop s e a b) = (okLC true a && okLC il b) := okSC.eq_10 ..
theorem okSC_with (il : Bool) (s e : Nat) (a : List Stmt) : okSC il (.with_ s e a) = okLC il a := okSC.eq_11 ..
theorem okSC_match (il : Bool) (s e : Nat) (cs : List Stmt) : okSC il (.match_ s e cs) = okCasesC il cs := okSC.eq_12 ..
theorem okSC_class (il : Bool) (s e : Nat) (a : List Stmt) : okSC il (.class_ s e a) = okLC false a := okSC.eq_13 ..
theorem okSC_try (il : Bool) (s e : Nat) (a hs c d : List Stmt) :
    okSC il (.try_ s e a hs c d) = (okLC il a && okHsC il hs && okLC il c && okLC il d) := okSC.eq_14 ..
theorem okSC_handler (il : Bool) (s e : Nat) (a : List Stmt) : okSC il (.handler s e a) = false := okSC.eq_15 ..
theorem okSC_case (il : Bool) (s e : Nat) (a : List Stmt) : okSC il (.case_ s e a) = false := okSC.eq_16 ..

theorem okCasesC_nil (il : Bool) : okCasesC il [] = true := okCasesC.eq_1 ..
theorem okCasesC_case (il : Bool) (s e : Nat) (a cs : List Stmt) :
    okCasesC il (.case_ s e a :: cs) = (okLC il a && okCasesC il cs) := okCasesC.eq_2 ..
theorem okCasesC_cons {il : Bool} {x : Stmt} {cs : List Stmt} (h : okCasesC il (x :: cs) = true) :
    ∃ s e a, x = .case_ s e a ∧ okLC il a = true ∧ okCasesC il cs = true :=
  alts_cons (okCasesC_case il) (okCasesC.eq_3 il) h

theorem okHsC_nil (il : Bool) : okHsC il [] = true := okHsC.eq_1 ..
theorem okHsC_handler (il : Bool) (s e : Nat) (a hs : List Stmt) :
    okHsC il (.handler s e a :: hs) = (okLC il a && okHsC il hs) := okHsC.eq_2 ..
theorem okHsC_cons {il : Bool} {x : Stmt} {hs : List Stmt} (h : okHsC il (x :: hs) = true) :
    ∃ s e a, x = .handler s e a ∧ okLC il a = true ∧ okHsC il hs = true :=
  alts_cons (okHsC_handler il) (okHsC.eq_3 il) h

/-! ### exempt lines: the heads of `elif` clauses (nested definitions are not entered) -/
set_option linter.unusedSimpArgs false in
mutual
  def elifL : List Stmt → List Nat
    | [] => []
    | x :: xs => elifS x ++ elifL xs
  termination_by l => 2 * sizeL l
  decreasing_by
    all_goals (try simp_wf)
    all_goals (try simp only [Stmt.size, sizeL])
    all_goals omega
  def elifS : Stmt → List Nat
    | .elifc s _ a b => s :: elifL a ++ elifL b
    | .ite _ _ a b | .loop _ _ a b => elifL a ++ elifL b
    | .try_ _ _ a hs c d => elifL a ++ elifL hs ++ elifL c ++ elifL d
    | .elsec _ _ a | .handler _ _ a | .with_ _ _ a | .match_ _ _ a | .case_ _ _ a | .class_ _ _ a => elifL a
    | .def_ .. => []
    | .simple .. | .ret .. | .brk .. | .cont .. | .raise .. => []
  termination_by x => 2 * x.size + 1
  decreasing_by
    all_goals (try simp_wf)
    all_goals (try simp only [Stmt.size, sizeL])
    all_goals omega
end

theorem elifL_nil : elifL [] = [] := elifL.eq_1 ..
theorem elifL_cons (x : Stmt) (xs : List Stmt) : elifL (x :: xs) = elifS x ++ elifL xs := elifL.eq_2 ..
theorem elifS_elifc (s e : Nat) (a b : List Stmt) : elifS (.elifc s e a b) = s :: elifL a ++ elifL b := elifS.eq_1 ..
theorem elifS_ite (s e : Nat) (a b : List Stmt) : elifS (.ite s e a b) = elifL a ++ elifL b := elifS.eq_2 ..
theorem elifS_loop (s e : Nat) (a b : List Stmt) : elifS (.loop s e a b) = elifL a ++ elifL b := elifS.eq_3 ..
theorem elifS_try (s e : Nat) (a hs c d : List Stmt) : elifS (.try_ s e a hs c d) = elifL a ++ elifL hs ++ elifL c ++ elifL d := elifS.eq_4 ..
theorem elifS_elsec (s e : Nat) (a : List Stmt) : elifS (.elsec s e a) = elifL a := elifS.eq_5 ..
theorem elifS_handler (s e : Nat) (a : List Stmt) : elifS (.handler s e a) = elifL a := elifS.eq_6 ..
theorem elifS_with (s e : Nat) (a : List Stmt) : elifS (.with_ s e a) = elifL a := elifS.eq_7 ..
theorem elifS_match (s e : Nat) (a : List Stmt) : elifS (.match_ s e a) = elifL a := elifS.eq_8 ..
theorem elifS_case (s e : Nat) (a : List Stmt) : elifS (.case_ s e a) = elifL a := elifS.eq_9 ..
theorem elifS_class (s e : Nat) (a : List Stmt) : elifS (.class_ s e a) = elifL a := elifS.eq_10 ..

theorem linesOfL_nil : linesOfL [] = [] := linesOfL.eq_1 ..
theorem linesOfL_cons (x : Stmt) (xs : List Stmt) : linesOfL (x :: xs) = linesOf x ++ linesOfL xs := linesOfL.eq_2 ..
theorem linesOf_simple (s e : Nat) (c : List Bool) (h : Bool) : linesOf (.simple s e c h) = [s] := linesOf.eq_12 ..
theorem linesOf_ret (s e : Nat) (c : List Bool) (h : Bool) : linesOf (.ret s e c h) = [s] := linesOf.eq_13 ..
theorem linesOf_brk (s e : Nat) : linesOf (.brk s e) = [s] := linesOf.eq_14 ..
theorem linesOf_cont (s e : Nat) : linesOf (.cont s e) = [s] := linesOf.eq_15 ..
theorem linesOf_raise (s e : Nat) : linesOf (.raise s e) = [s] := linesOf.eq_16 ..
theorem linesOf_def (s e : Nat) (b : List Stmt) : linesOf (.def_ s e b) = [s] := linesOf.eq_11 ..
theorem linesOf_ite (s e : Nat) (a b : List Stmt) : linesOf (.ite s e a b) = s :: linesOfL a ++ linesOfL b := linesOf.eq_3 ..
theorem linesOf_elifc (s e : Nat) (a b : List Stmt) : linesOf (.elifc s e a b) = s :: linesOfL a ++ linesOfL b := linesOf.eq_4 ..
theorem linesOf_loop (s e : Nat) (a b : List Stmt) : linesOf (.loop s e a b) = s :: linesOfL a ++ linesOfL b := linesOf.eq_5 ..
theorem linesOf_elsec (s e : Nat) (a : List Stmt) : linesOf (.elsec s e a) = linesOfL a := linesOf.eq_2 ..
theorem linesOf_try (s e : Nat) (a hs c d : List Stmt) :
    linesOf (.try_ s e a hs c d) = linesOfL a ++ linesOfL hs ++ linesOfL c ++ linesOfL d := linesOf.eq_1 ..
theorem linesOf_handler (s e : Nat) (a : List Stmt) : linesOf (.handler s e a) = s :: linesOfL a := linesOf.eq_6 ..
theorem linesOf_with (s e : Nat) (a : List Stmt) : linesOf (.with_ s e a) = s :: linesOfL a := linesOf.eq_7 ..
theorem linesOf_match (s e : Nat) (a : List Stmt) : linesOf (.match_ s e a) = s :: linesOfL a := linesOf.eq_8 ..
theorem linesOf_case (s e : Nat) (a : List Stmt) : linesOf (.case_ s e a) = s :: linesOfL a := linesOf.eq_9 ..
theorem linesOf_class (s e : Nat) (a : List Stmt) : linesOf (.class_ s e a) = s :: linesOfL a := linesOf.eq_10 ..

theorem structDead_eq' (l : List Stmt) : structDead l = deadInBlock l ++ subDead l := PV.C02.structDead_eq l
theorem subDead_nil : subDead [] = [] := subDead.eq_1 ..
theorem structDead_nil : structDead [] = [] := by rw [structDead_eq', subDead_nil]; rfl
theorem subDead_cons (x : Stmt) (xs : List Stmt) : subDead (x :: xs) = inStmt x ++ subDead xs := subDead.eq_2 ..
theorem deadInBlock_nil : deadInBlock [] = [] := rfl
theorem deadInBlock_cons (x : Stmt) (xs : List Stmt) : deadInBlock (x :: xs) = if stops x then linesOfL xs else deadInBlock xs := rfl
-- the leaves fall under the catch-all clause of `inStmt`, whose equation has one side condition per constructor matched before it
theorem inStmt_simple (s e : Nat) (c : List Bool) (h : Bool) : inStmt (.simple s e c h) = [] := by rw [inStmt] <;> (intros; contradiction)
theorem inStmt_ret (s e : Nat) (c : List Bool) (h : Bool) : inStmt (.ret s e c h) = [] := by rw [inStmt] <;> (intros; contradiction)
theorem inStmt_brk (s e : Nat) : inStmt (.brk s e) = [] := by rw [inStmt] <;> (intros; contradiction)
theorem inStmt_cont (s e : Nat) : inStmt (.cont s e) = [] := by rw [inStmt] <;> (intros; contradiction)
theorem inStmt_raise (s e : Nat) : inStmt (.raise s e) = [] := by rw [inStmt] <;> (intros; contradiction)
theorem inStmt_def (s e : Nat) (b : List Stmt) : inStmt (.def_ s e b) = [] := inStmt.eq_11 ..
theorem inStmt_ite (s e : Nat) (a b : List Stmt) : inStmt (.ite s e a b) = structDead a ++ structDead b := inStmt.eq_1 ..
theorem inStmt_elifc (s e : Nat) (a b : List Stmt) : inStmt (.elifc s e a b) = structDead a ++ structDead b := inStmt.eq_2 ..
theorem inStmt_loop (s e : Nat) (a b : List Stmt) : inStmt (.loop s e a b) = structDead a ++ structDead b := inStmt.eq_3 ..
theorem inStmt_elsec (s e : Nat) (a : List Stmt) : inStmt (.elsec s e a) = structDead a := inStmt.eq_4 ..
theorem inStmt_handler (s e : Nat) (a : List Stmt) : inStmt (.handler s e a) = structDead a := inStmt.eq_5 ..
theorem inStmt_with (s e : Nat) (a : List Stmt) : inStmt (.with_ s e a) = structDead a := inStmt.eq_6 ..
theorem inStmt_case (s e : Nat) (a : List Stmt) : inStmt (.case_ s e a) = structDead a := inStmt.eq_7 ..
theorem inStmt_class (s e : Nat) (a : List Stmt) : inStmt (.class_ s e a) = structDead a := inStmt.eq_8 ..
theorem inStmt_match (s e : Nat) (a : List Stmt) : inStmt (.match_ s e a) = subDead a := inStmt.eq_9 ..
theorem inStmt_try (s e : Nat) (a hs c d : List Stmt) :
    inStmt (.try_ s e a hs c d) = structDead a ++ subDead hs ++ structDead c ++ structDead d := inStmt.eq_10 ..

section chain
variable {l a b : List Stmt} {s' e' : Nat} (h : Chain l s' e' a b)
include h

theorem Chain.okLC {il : Bool} (hok : okLC il l = true) : okLC il a = true ∧ okLC il b = true := by
  cases h
  · rw [okLC_cons, okLC_nil, Bool.and_true, okSC_elifc, Bool.and_eq_true] at hok; exact hok
  · rw [okLC_cons, okLC_nil, Bool.and_true, okSC_ite, Bool.and_eq_true] at hok; exact hok

theorem Chain.elifL_sub : ∀ x ∈ elifL a ++ elifL b, x ∈ elifL l := by
  intro x hx
  cases h
  · rw [elifL_cons, elifL_nil, elifS_elifc, List.append_nil]; exact List.mem_cons_of_mem _ hx
  · rw [elifL_cons, elifL_nil, elifS_ite, List.append_nil]; exact hx

theorem Chain.structDead : structDead l = structDead a ++ structDead b := by
  cases h
  · rw [structDead_eq', subDead_cons, subDead_nil, inStmt_elifc, deadInBlock_cons, deadInBlock_nil, linesOfL_nil, ite_self,
      List.nil_append, List.append_nil]
  · rw [structDead_eq', subDead_cons, subDead_nil, inStmt_ite, deadInBlock_cons, deadInBlock_nil, linesOfL_nil, ite_self,
      List.nil_append, List.append_nil]
end chain

end PV.CFGSound
