import PV.Generated.Score
import PV.Proofs.ArithLemmas
/-!
Helper lemmas about the TRANSLATED scoring functions (`PV.Generated.Score`, regenerated from
`/repo/domain/analyze.go` on every run).  Property theorems are in `PV/Properties/C15.lean`.
-/
namespace PV.Score
open PV PV.MA PV.Generated.Score Arith
variable {F : Type} [MonoArith F]

/-- Inputs the real pipeline can produce: counts are lengths/counters, hence non-negative. A hypothesis of the C15 theorems
(`PV/Properties/C15.lean`). -/
structure CountsNonneg (s : AnalyzeSummary F) : Prop where
  crit : 0 ≤ s.CriticalDeadCode
  warn : 0 ≤ s.WarningDeadCode
  info : 0 ≤ s.InfoDeadCode
  cboC : 0 ≤ s.CBOClasses
  cboH : 0 ≤ s.HighCouplingClasses
  cboM : 0 ≤ s.MediumCouplingClasses
  lcomC : 0 ≤ s.LCOMClasses
  lcomH : 0 ≤ s.HighLCOMClasses
  lcomM : 0 ≤ s.MediumLCOMClasses
  mods : 0 ≤ s.DepsTotalModules
  cyc : 0 ≤ s.DepsModulesInCycles
  depth : 0 ≤ s.DepsMaxDepth

/-- the normalization factor `CalculateHealthScore` computes from `TotalFiles` -/
def normFactor (s : AnalyzeSummary F) : F :=
  if s.TotalFiles > 10 then (Arith.lit 1 1 : F) + Arith.log10 ((Arith.ofInt s.TotalFiles : F) / (Arith.lit 10 1 : F))
  else (Arith.lit 1 1 : F)

theorem normFactor_pos (s : AnalyzeSummary F) : (z : F) < normFactor s := by
  unfold normFactor
  split
  · next h =>
    apply add_pos_l (lit_pos (by decide) (by decide))
    apply MonoArith.log10_nonneg
    -- `1 = 10/10 ≤ files/10`: division by 10 is monotone and `10 ≤ files`
    have h10 : (Arith.lit 10 1 : F) ≤ Arith.ofInt s.TotalFiles := by
      rw [MonoArith.ofInt_lit]; exact lit_le (by decide) (by decide) (by omega)
    have hpos : (z : F) < (Arith.lit 10 1 : F) := lit_pos (by decide) (by decide)
    have := div_le_div_l (Arith.lit 10 1 : F) hpos h10
    rw [show (Arith.lit 10 1 : F) / (Arith.lit 10 1 : F) = Arith.lit 1 1 from MonoArith.div_self _ hpos] at this
    exact this
  · exact lit_pos (by decide) (by decide)


/-! ### normal forms of the translated penalties (`rfl`, so a changed formula breaks it; `dep_eq` regroups the running sum of `dep_eq_acc`) -/

/-- shared shape of the complexity and duplication penalties -/
def rampPenalty (x lo width : F) : Int :=
  if x ≤ lo then 0 else roundI (capHi ((x - lo) / width * Arith.lit 20 1) (Arith.lit 20 1))

theorem cx_eq (s : AnalyzeSummary F) :
    calculateComplexityPenalty F s = rampPenalty s.AverageComplexity (Arith.lit 2 1) (Arith.lit 13 1) := rfl

theorem dup_eq (s : AnalyzeSummary F) :
    calculateDuplicationPenalty F s = rampPenalty s.CodeDuplication (Arith.lit 0 1) (Arith.lit 10 1) := rfl

theorem ramp_nonneg (x lo width : F) (hw : (z : F) < width) : 0 ≤ rampPenalty x lo width := by
  unfold rampPenalty; split
  · exact Int.le_refl 0
  · next h =>
    apply roundI_nonneg
    apply le_capHi _ lit_nonneg
    exact mul_nonneg (div_nonneg (sub_nonneg (le_of_not_le h)) hw) lit_nonneg

theorem ramp_le (x lo width : F) : rampPenalty x lo width ≤ 20 := by
  unfold rampPenalty; split
  · decide
  · exact roundI_capHi_le _ (by decide)

theorem ramp_mono {x y : F} (lo width : F) (hw : (z : F) < width) (h : x ≤ y) :
    rampPenalty x lo width ≤ rampPenalty y lo width := by
  unfold rampPenalty; split <;> split
  · exact Int.le_refl 0
  · next h₁ h₂ =>
    have := ramp_nonneg y lo width hw
    unfold rampPenalty at this; rwa [if_neg h₂] at this
  · next h₁ h₂ => exact absurd (le_tr h h₂) h₁
  · apply roundI_mono; apply capHi_mono
    exact mul_le_mul_l _ lit_nonneg (div_le_div_l _ hw (sub_le_sub_l lo h))


/-! ### dead-code penalty -/

/-- `3602879701896397 / 18014398509481984` is the float64 nearest to `0.2` (the translator writes constants as exact fractions) -/
def deadWeight (c w i : Int) : F :=
  (Arith.ofInt c : F) * Arith.lit 1 1 + (Arith.ofInt w : F) * Arith.lit 1 2 +
    (Arith.ofInt i : F) * Arith.lit 3602879701896397 18014398509481984

def dcPenalty (w n : F) : Int :=
  if w ≤ (Arith.lit 0 1 : F) then 0 else Arith.trunc (Arith.fmin (Arith.lit 20 1 : F) (w / n))

theorem dc_eq (s : AnalyzeSummary F) (n : F) : calculateDeadCodePenalty F s n =
    dcPenalty (deadWeight s.CriticalDeadCode s.WarningDeadCode s.InfoDeadCode) n := rfl

theorem deadWeight_mono {c c' w w' i i' : Int} (hc : c ≤ c') (hw : w ≤ w') (hi : i ≤ i') :
    (deadWeight c w i : F) ≤ deadWeight c' w' i' := by
  unfold deadWeight
  exact add_le_add (add_le_add
    (mul_le_mul_l _ lit_nonneg (ofInt_le hc))
    (mul_le_mul_l _ lit_nonneg (ofInt_le hw)))
    (mul_le_mul_l _ lit_nonneg (ofInt_le hi))

theorem dc_nonneg (w n : F) (hn : (z : F) < n) : 0 ≤ dcPenalty w n := by
  unfold dcPenalty; split
  · exact Int.le_refl 0
  · next h =>
    apply trunc_nonneg
    exact MonoArith.le_fmin _ _ _ lit_nonneg (div_nonneg (le_of_not_le h) hn)

theorem dc_le (w n : F) : dcPenalty w n ≤ 20 := by
  unfold dcPenalty; split
  · decide
  · have := MonoArith.trunc_mono _ _ (MonoArith.fmin_le_l (Arith.lit 20 1 : F) (w / n))
    rwa [trunc_lit' (by decide)] at this

theorem dc_mono {w w' : F} (n : F) (hn : (z : F) < n) (h : w ≤ w') : dcPenalty w n ≤ dcPenalty w' n := by
  unfold dcPenalty; split <;> split
  · exact Int.le_refl 0
  · next h₁ h₂ =>
    have := dc_nonneg w' n hn
    unfold dcPenalty at this; rwa [if_neg h₂] at this
  · next h₁ h₂ => exact absurd (le_tr h h₂) h₁
  · exact MonoArith.trunc_mono _ _ (fmin_mono_r _ (div_le_div_l _ hn h))

/-! ### coupling / cohesion penalty -/

def ratioPenalty (h m c : Int) (k : F) : Int :=
  if c = 0 then 0
  else roundI (capHi (((Arith.ofInt h : F) + Arith.lit 1 2 * (Arith.ofInt m : F)) / (Arith.ofInt c : F) / k * Arith.lit 20 1)
                     (Arith.lit 20 1))

theorem cpl_eq (s : AnalyzeSummary F) : calculateCouplingPenalty F s =
    ratioPenalty s.HighCouplingClasses s.MediumCouplingClasses s.CBOClasses (Arith.lit 1 4 : F) := rfl
/-- `5404319552844595 / 18014398509481984` is the float64 nearest to `0.3` -/
theorem coh_eq (s : AnalyzeSummary F) : calculateCohesionPenalty F s =
    ratioPenalty s.HighLCOMClasses s.MediumLCOMClasses s.LCOMClasses (Arith.lit 5404319552844595 18014398509481984 : F) := rfl

theorem ratio_le (h m c : Int) (k : F) : ratioPenalty h m c k ≤ 20 := by
  unfold ratioPenalty; split
  · decide
  · exact roundI_capHi_le _ (by decide)

theorem ratio_nonneg {h m c : Int} (k : F) (hk : (z : F) < k) (hh : 0 ≤ h) (hm : 0 ≤ m) (hc : 0 ≤ c) :
    0 ≤ ratioPenalty h m c k := by
  unfold ratioPenalty; split
  · exact Int.le_refl 0
  · next h0 =>
    apply roundI_nonneg
    apply le_capHi _ lit_nonneg
    apply mul_nonneg _ lit_nonneg
    apply div_nonneg _ hk
    apply div_nonneg _ (ofInt_pos (by omega))
    exact add_nonneg (ofInt_nonneg hh) (mul_nonneg lit_nonneg (ofInt_nonneg hm))

/-- the block is absent on the left (`c = 0`: penalty 0), or has the same class count and no smaller numerators -/
theorem ratio_mono {h h' m m' c c' : Int} (k : F) (hk : (z : F) < k) (hc : 0 ≤ c)
    (H : (c = 0 ∧ 0 ≤ c' ∧ 0 ≤ h' ∧ 0 ≤ m') ∨ (c = c' ∧ h ≤ h' ∧ m ≤ m')) :
    ratioPenalty h m c k ≤ ratioPenalty h' m' c' k := by
  rcases H with ⟨h0, hc', hh, hm⟩ | ⟨rfl, hh, hm⟩
  · rw [ratioPenalty, if_pos h0]; exact ratio_nonneg k hk hh hm hc'
  · unfold ratioPenalty; split
    · exact Int.le_refl 0
    · next h0 =>
      apply roundI_mono; apply capHi_mono
      apply mul_le_mul_l _ lit_nonneg
      apply div_le_div_l _ hk
      apply div_le_div_l _ (ofInt_pos (by omega))
      exact add_le_add (ofInt_le hh) (mul_le_mul_r _ lit_nonneg (ofInt_le hm))


/-! ### dependency penalty = cycles part + depth part + main-sequence-deviation part -/

def cycPart (cyc total : Int) : Int :=
  if total > 0 then
    roundI ((Arith.lit 10 1 : F) * capHi (capLo ((Arith.ofInt cyc : F) / (Arith.ofInt total : F)) (Arith.lit 0 1)) (Arith.lit 1 1))
  else 0

def expectedDepth (total : Int) : Int :=
  Arith.trunc (Arith.fmax (Arith.lit 3 1 : F)
    (Arith.ceil (Arith.log2 ((Arith.ofInt total : F) + Arith.lit 1 1)) + Arith.lit 1 1))

def clampI (x lo hi : Int) : Int :=
  let x := if x < lo then lo else x
  if x > hi then hi else x

def depthPart (depth total : Int) : Int :=
  if total > 0 then clampI (depth - expectedDepth (F := F) total) 0 3 else 0

def msdPart (msd : F) : Int :=
  if msd > (Arith.lit 0 1 : F) then roundI (capHi (capLo msd (Arith.lit 0 1)) (Arith.lit 1 1) * Arith.lit 3 1) else 0

theorem dep_eq_acc (s : AnalyzeSummary F) : calculateDependencyPenalty F s =
    if ¬ (s.DepsEnabled = true) then 0
    else
      let p0 : Int := 0
      let p1 := if s.DepsTotalModules > 0 then
          p0 + roundI ((Arith.lit 10 1 : F) * capHi (capLo ((Arith.ofInt s.DepsModulesInCycles : F) / (Arith.ofInt s.DepsTotalModules : F)) (Arith.lit 0 1)) (Arith.lit 1 1))
        else p0
      let p2 := if s.DepsTotalModules > 0 then p1 + clampI (s.DepsMaxDepth - expectedDepth (F := F) s.DepsTotalModules) 0 3 else p1
      let p3 := if s.DepsMainSequenceDeviation > (Arith.lit 0 1 : F) then
          p2 + roundI (capHi (capLo s.DepsMainSequenceDeviation (Arith.lit 0 1)) (Arith.lit 1 1) * Arith.lit 3 1)
        else p2
      p3 := rfl

theorem dep_eq (s : AnalyzeSummary F) : calculateDependencyPenalty F s =
    if ¬ (s.DepsEnabled = true) then 0
    else cycPart (F := F) s.DepsModulesInCycles s.DepsTotalModules
           + depthPart (F := F) s.DepsMaxDepth s.DepsTotalModules + msdPart s.DepsMainSequenceDeviation := by
  rw [dep_eq_acc]; unfold cycPart depthPart msdPart
  split
  · rfl
  · simp only []
    split <;> split <;> omega

theorem clampI_eq (x lo hi : Int) : clampI x lo hi = min (max x lo) hi := by
  unfold clampI; simp only []; split <;> split <;> omega

theorem unit_clamp_bounds (a : F) : (z : F) ≤ capHi (capLo a (Arith.lit 0 1)) (Arith.lit 1 1) ∧
    capHi (capLo a (Arith.lit 0 1)) (Arith.lit 1 1) ≤ (Arith.lit 1 1 : F) :=
  ⟨le_capHi (capLo_ge _ _) lit_nonneg, capHi_le _ _⟩
theorem unit_clamp_mono {a b : F} (h : a ≤ b) :
    capHi (capLo a (Arith.lit 0 1)) (Arith.lit 1 1 : F) ≤ capHi (capLo b (Arith.lit 0 1)) (Arith.lit 1 1) :=
  capHi_mono _ (capLo_mono _ h)

theorem cyc_bounds (cyc total : Int) : 0 ≤ cycPart (F := F) cyc total ∧ cycPart (F := F) cyc total ≤ 10 := by
  unfold cycPart; split
  · have hb := unit_clamp_bounds ((Arith.ofInt cyc : F) / (Arith.ofInt total : F))
    exact roundI_scale_l (by decide) (by decide) hb.1 hb.2
  · exact ⟨Int.le_refl 0, by decide⟩

theorem cyc_mono {cyc cyc' : Int} (total : Int) (h : cyc ≤ cyc') : cycPart (F := F) cyc total ≤ cycPart (F := F) cyc' total := by
  unfold cycPart; split
  · next ht =>
    apply roundI_mono
    apply mul_le_mul_r _ lit_nonneg
    exact unit_clamp_mono (div_le_div_l _ (ofInt_pos ht) (ofInt_le h))
  · exact Int.le_refl 0

theorem depth_bounds (d total : Int) : 0 ≤ depthPart (F := F) d total ∧ depthPart (F := F) d total ≤ 3 := by
  unfold depthPart; rw [clampI_eq]; split <;> omega
theorem depth_mono {d d' : Int} (total : Int) (h : d ≤ d') : depthPart (F := F) d total ≤ depthPart (F := F) d' total := by
  unfold depthPart; rw [clampI_eq, clampI_eq]; split <;> omega

theorem msd_bounds (m : F) : 0 ≤ msdPart m ∧ msdPart m ≤ 3 := by
  unfold msdPart; split
  · have hb := unit_clamp_bounds m
    exact roundI_scale_r (by decide) (by decide) hb.1 hb.2
  · exact ⟨Int.le_refl 0, by decide⟩
theorem msd_mono {m m' : F} (h : m ≤ m') : msdPart m ≤ msdPart m' := by
  unfold msdPart; split <;> split
  · exact roundI_mono (mul_le_mul_l _ lit_nonneg (unit_clamp_mono h))
  · next h₁ h₂ => exact absurd (lt_of_lt_of_le (show (Arith.lit 0 1 : F) < m from h₁) h) h₂
  · next h₁ h₂ =>
    have := (msd_bounds m').1
    unfold msdPart at this; rwa [if_pos h₂] at this
  · exact Int.le_refl 0

/-! ### architecture penalty -/

def archPart (comp : F) : Int :=
  roundI ((Arith.lit 12 1 : F) * ((Arith.lit 1 1 : F) - capHi (capLo comp (Arith.lit 0 1)) (Arith.lit 1 1)))

theorem arch_eq (s : AnalyzeSummary F) : calculateArchitecturePenalty F s =
    if ¬ (s.ArchEnabled = true) then 0 else archPart s.ArchCompliance := rfl

theorem arch_bounds (c : F) : 0 ≤ archPart c ∧ archPart c ≤ 12 := by
  unfold archPart
  have hb := unit_clamp_bounds c
  have h1 : (Arith.lit 1 1 : F) - capHi (capLo c (Arith.lit 0 1)) (Arith.lit 1 1) ≤ (Arith.lit 1 1 : F) - Arith.lit 0 1 :=
    sub_le_sub_r _ hb.1
  rw [sub_zero'] at h1
  exact roundI_scale_l (by decide) (by decide) (sub_nonneg hb.2) h1
/-- lower compliance ⇒ higher penalty -/
theorem arch_anti {c c' : F} (h : c' ≤ c) : archPart c ≤ archPart c' := by
  unfold archPart
  exact roundI_mono (mul_le_mul_r _ lit_nonneg (sub_le_sub_r _ (unit_clamp_mono h)))

end PV.Score
