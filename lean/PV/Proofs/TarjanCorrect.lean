import PV.Model.Tarjan
import PV.Properties.C11
import Mathlib.Logic.Relation
/-!
# Tarjan's algorithm (the executable mirror `PV.Tarjan`) emits exactly the strongly connected
components with at least two vertices — for every graph, no bound on the size.

The proof follows the functional formulation of Chen, Cohen, Lévy, Merz, Théry (ITP 2019) but needs no
ghost colouring: the invariant `Inv` speaks about the state only (visited / on the stack / done =
visited and popped), and the specification of one call (`Post`) describes the stack segment the call leaves
behind.
-/
namespace PV.Tarjan
open PV.SCC

/-- an edge to a vertex of the graph -/
def E (g : G) (a b : Nat) : Prop := b < g.n ∧ (a, b) ∈ g.edges

abbrev R (g : G) : Nat → Nat → Prop := Relation.ReflTransGen (E g)

theorem mem_succs {g : G} {v w : Nat} : w ∈ succs g v ↔ E g v w := by
  unfold succs E
  simp [List.mem_filter, List.mem_range]

theorem R_reach {g : G} {u v : Nat} (h : R g u v) : Reach g u v := by
  induction h with
  | refl => exact Reach.refl _
  | tail _ he ih => exact Reach.step ih he.2

theorem reach_R {g : G} (hwf : ∀ e ∈ g.edges, e.2 < g.n) {u v : Nat} (h : Reach g u v) : R g u v :=
  h.least (fun _ => .refl) .trans (fun he => .single ⟨hwf _ he, he⟩)

theorem closed_R {g : G} {D : Nat → Prop} (hD : ∀ a b, D a → E g a b → D b) {a b : Nat} (ha : D a)
    (h : R g a b) : D b := by
  induction h with
  | refl => exact ha
  | tail _ he ih => exact hD _ _ ih he

theorem isort_perm (l : List Nat) : (isort l).Perm l :=
  PV.ListLemmas.sort_perm (ins := ins) (srt := isort) (fun _ => rfl) (fun _ _ _ => rfl) rfl (fun _ _ => rfl) l

theorem isort_sorted (l : List Nat) : (isort l).Pairwise (· ≤ ·) :=
  PV.ListLemmas.sort_sorted (ins := ins) (srt := isort) (fun _ => rfl) (fun _ _ _ => rfl) rfl (fun _ _ => rfl) l

theorem popTo_split (v : Nat) (seg base : List Nat) (h : v ∉ seg) :
    popTo v (seg ++ v :: base) = (seg ++ [v], base) := by
  induction seg with
  | nil => simp [popTo]
  | cons x seg ih =>
    have hx : x ≠ v := fun e => h (by simp [e])
    have := ih (fun hm => h (List.mem_cons_of_mem _ hm))
    simp [popTo, hx, this]

def vis (s : State) (x : Nat) : Prop := s.idx x ≠ none
def num (s : State) (x : Nat) : Nat := (s.idx x).getD 0
def done (s : State) (x : Nat) : Prop := vis s x ∧ x ∉ s.stack

theorem idx_push (v : Nat) (s : State) (x : Nat) :
    (push v s).idx x = if x = v then some s.index else s.idx x :=
  PV.ListLemmas.lookup_cons_ite x v s.index s.indices

theorem idx_push_self (v : Nat) (s : State) : (push v s).idx v = some s.index := by
  rw [idx_push, if_pos rfl]

theorem vis_of_idx {s : State} {x i : Nat} (h : s.idx x = some i) : vis s x := by
  unfold vis; rw [h]; simp

theorem num_of_idx {s : State} {x i : Nat} (h : s.idx x = some i) : num s x = i := by
  unfold num; rw [h]; rfl

theorem idx_of_vis {s : State} {x : Nat} (h : vis s x) : s.idx x = some (num s x) := by
  unfold vis at h; unfold num
  cases hx : s.idx x with
  | none => exact absurd hx h
  | some i => rfl

structure Ext (s s' : State) : Prop where
  idx : ∀ x i, s.idx x = some i → s'.idx x = some i
  ok : s'.ok = s.ok

theorem Ext.refl (s : State) : Ext s s := ⟨fun _ _ h => h, rfl⟩
theorem Ext.trans {a b c : State} (h₁ : Ext a b) (h₂ : Ext b c) : Ext a c :=
  ⟨fun x i h => h₂.idx x i (h₁.idx x i h), h₂.ok.trans h₁.ok⟩
theorem Ext.vis {s s' : State} (h : Ext s s') {x : Nat} (hx : vis s x) : vis s' x :=
  vis_of_idx (h.idx x _ (idx_of_vis hx))
theorem Ext.num {s s' : State} (h : Ext s s') {x : Nat} (hx : PV.Tarjan.vis s x) : num s' x = num s x :=
  num_of_idx (h.idx x _ (idx_of_vis hx))

theorem ext_push {v : Nat} {s : State} (hv : s.idx v = none) : Ext s (push v s) := by
  refine ⟨?_, rfl⟩
  intro x i h
  rw [idx_push]
  have : x ≠ v := fun e => by rw [e, hv] at h; cases h
  simp [this, h]

/-! ## fuel measure: number of unvisited vertices -/

def U (g : G) (s : State) : Nat := ((List.range g.n).filter (fun x => (s.idx x).isNone)).length

theorem U_le_n (g : G) (s : State) : U g s ≤ g.n := by
  unfold U
  exact Nat.le_trans (List.length_filter_le _ _) (by simp)

theorem U_mono {g : G} {s s' : State} (h : Ext s s') : U g s' ≤ U g s := by
  unfold U
  apply PV.ListLemmas.length_filter_le_of_imp
  intro x _ hx
  cases hs : s.idx x with
  | none => rfl
  | some i => rw [h.idx x i hs] at hx; cases hx

theorem U_push {g : G} {s : State} {v : Nat} (hv : s.idx v = none) (hn : v < g.n) : U g (push v s) < U g s := by
  unfold U
  apply PV.ListLemmas.length_filter_lt_of_imp _ (List.mem_range.mpr hn)
  · rw [hv]; rfl
  · rw [idx_push_self]; rfl
  · intro x _ hx
    cases hs : s.idx x with
    | none => rfl
    | some i => rw [(ext_push hv).idx x i hs] at hx; cases hx

structure Inv (g : G) (s : State) : Prop where
  bound : ∀ x i, s.idx x = some i → i < s.index ∧ x < g.n
  stkvis : ∀ x ∈ s.stack, vis s x
  /-- the stack is ordered by serial number, newest on top -/
  sorted : s.stack.Pairwise (fun a b => num s b < num s a)
  /-- no edge leaves the set of popped vertices -/
  closed : ∀ a b, done s a → E g a b → done s b
  /-- every emitted component is a complete strongly connected component with ≥ 2 members -/
  comp_ok : ∀ c ∈ s.components, 2 ≤ c.length ∧ c.Nodup ∧ c.Pairwise (· ≤ ·) ∧ (∀ x ∈ c, done s x) ∧
      (∀ x ∈ c, ∀ y ∈ c, R g x y) ∧ (∀ x ∈ c, ∀ y, R g x y → R g y x → y ∈ c)
  /-- every popped vertex on a cycle is in an emitted component -/
  comp_all : ∀ x y, done s x → x ≠ y → R g x y → R g y x → ∃ c ∈ s.components, x ∈ c
  disj : s.components.Pairwise (fun a b => ∀ x ∈ a, x ∉ b)

theorem inv_init (g : G) : Inv g State.init := by
  refine ⟨?_, ?_, ?_, ?_, ?_, ?_, ?_⟩
  · intro x i h; simp [State.idx, State.init] at h
  · intro x h; simp [State.init] at h
  · simp [State.init]
  · intro a b h; exact absurd h.1 (by simp [vis, State.idx, State.init])
  · intro c h; simp [State.init] at h
  · intro x y h; exact absurd h.1 (by simp [vis, State.idx, State.init])
  · simp [State.init]

theorem Inv.stack_nodup {g : G} {s : State} (h : Inv g s) : s.stack.Nodup :=
  List.Pairwise.imp (fun {a b} hab e => by rw [e] at hab; exact Nat.lt_irrefl _ hab) h.sorted

theorem done_push_iff {s : State} {v : Nat} (hv : s.idx v = none) (a : Nat) :
    done (push v s) a ↔ done s a := by
  unfold done
  constructor
  · rintro ⟨h1, h2⟩
    have hne : a ≠ v := fun e => h2 (by simp [push, e])
    refine ⟨?_, fun hm => h2 (by simp [push, hm])⟩
    unfold vis at h1 ⊢
    rw [idx_push] at h1
    simpa [hne] using h1
  · rintro ⟨h1, h2⟩
    have hne : a ≠ v := fun e => by rw [e] at h1; exact h1 hv
    refine ⟨(ext_push hv).vis h1, ?_⟩
    simp [push, hne, h2]

theorem inv_push {g : G} {s : State} {v : Nat} (h : Inv g s) (hv : s.idx v = none) (hn : v < g.n) :
    Inv g (push v s) := by
  have hnumv : num (push v s) v = s.index := num_of_idx (by rw [idx_push]; simp)
  refine ⟨?_, ?_, ?_, ?_, ?_, ?_, ?_⟩
  · intro x i hx
    rw [idx_push] at hx
    show i < s.index + 1 ∧ x < g.n
    by_cases e : x = v
    · simp [e] at hx; subst hx; subst e; exact ⟨Nat.lt_succ_self _, hn⟩
    · simp [e] at hx; have := h.bound x i hx; exact ⟨by omega, this.2⟩
  · intro x hx
    show vis (push v s) x
    rcases List.mem_cons.mp hx with rfl | hx
    · exact vis_of_idx (i := s.index) (by rw [idx_push]; simp)
    · exact (ext_push hv).vis (h.stkvis x hx)
  · show (v :: s.stack).Pairwise _
    refine List.Pairwise.cons ?_ ?_
    · intro b hb
      rw [hnumv, (ext_push hv).num (h.stkvis b hb)]
      exact (h.bound b _ (idx_of_vis (h.stkvis b hb))).1
    · refine List.Pairwise.imp_of_mem ?_ h.sorted
      intro a b ha hb hab
      rw [(ext_push hv).num (h.stkvis b hb), (ext_push hv).num (h.stkvis a ha)]
      exact hab
  · intro a b ha he
    exact (done_push_iff hv b).mpr (h.closed a b ((done_push_iff hv a).mp ha) he)
  · intro c hc
    obtain ⟨h1, h2, h3, h4, h5, h6⟩ := h.comp_ok c hc
    exact ⟨h1, h2, h3, fun x hx => (done_push_iff hv x).mpr (h4 x hx), h5, h6⟩
  · intro x y hx hne h1 h2
    exact h.comp_all x y ((done_push_iff hv x).mp hx) hne h1 h2
  · exact h.disj

/-- popping a root: the part `S` of the stack above and including `v` is a complete strongly connected component -/
theorem inv_pop {g : G} {s2 : State} {v : Nat} {S base : List Nat}
    (hinv : Inv g s2) (hstk : s2.stack = S ++ base) (hvS : v ∈ S)
    (hmutS : ∀ y ∈ S, R g v y ∧ R g y v)
    (hsucc : ∀ y ∈ S, ∀ b, E g y b → vis s2 b)
    (hnoedge : ∀ a ∈ S, ∀ b ∈ base, ¬ E g a b) :
    Inv g { s2 with stack := base, components := s2.components ++ if S.length > 1 then [isort S] else [] } := by
  have hsorted := hinv.sorted
  rw [hstk, List.pairwise_append] at hsorted
  have hnd := hinv.stack_nodup
  rw [hstk, List.nodup_append] at hnd
  obtain ⟨hSnd, _, hdj⟩ := hnd
  have hSstk : ∀ x ∈ S, x ∈ s2.stack := fun x hx => by rw [hstk]; exact List.mem_append_left _ hx
  have hbasestk : ∀ x ∈ base, x ∈ s2.stack := fun x hx => by rw [hstk]; exact List.mem_append_right _ hx
  have hSbase : ∀ x ∈ S, x ∉ base := fun x hx hb => hdj x hx x hb rfl
  have hstkcases : ∀ x ∈ s2.stack, x ∈ S ∨ x ∈ base := fun x hx => by rw [hstk] at hx; exact List.mem_append.mp hx
  generalize hs' : ({ s2 with stack := base, components := s2.components ++ if S.length > 1 then [isort S] else [] } : State) = s'
  have d_old : ∀ x, done s2 x → done s' x := fun x hx => hs' ▸ ⟨hx.1, fun hb => hx.2 (hbasestk x hb)⟩
  have d_S : ∀ x ∈ S, done s' x := fun x hx => hs' ▸ ⟨hinv.stkvis x (hSstk x hx), hSbase x hx⟩
  have d_cases : ∀ x, done s' x → x ∈ S ∨ done s2 x := by
    subst hs'
    intro x hx
    by_cases hs : x ∈ s2.stack
    · exact (hstkcases x hs).imp_right fun h => absurd h hx.2
    · exact .inr ⟨hx.1, hs⟩
  have hcl : ∀ a b, (a ∈ S ∨ done s2 a) → E g a b → (b ∈ S ∨ done s2 b) := by
    intro a b ha he
    rcases ha with ha | ha
    · have hb := hsucc a ha b he
      by_cases hs : b ∈ s2.stack
      · exact (hstkcases b hs).imp_right fun h => absurd he (hnoedge a ha b h)
      · exact .inr ⟨hb, hs⟩
    · exact .inr (hinv.closed a b ha he)
  have hmax : ∀ x ∈ S, ∀ y, R g x y → R g y x → y ∈ S := by
    intro x hx y h1 h2
    rcases closed_R (D := fun z => z ∈ S ∨ done s2 z) hcl (.inl hvS) ((hmutS x hx).1.trans h1) with h | h
    · exact h
    · exact absurd (hSstk v hvS) (closed_R (D := done s2) hinv.closed h (h2.trans (hmutS x hx).2)).2
  have hmemS : ∀ x, x ∈ isort S ↔ x ∈ S := fun x => (isort_perm _).mem_iff
  have hcomps : s'.components = s2.components ++ if S.length > 1 then [isort S] else [] := by rw [← hs']
  have hnew : ∀ c ∈ (if S.length > 1 then [isort S] else []), c = isort S ∧ 2 ≤ S.length := by
    intro c hc; split at hc
    · next h => exact ⟨List.mem_singleton.mp hc, h⟩
    · cases hc
  refine ⟨?_, ?_, ?_, ?_, ?_, ?_, ?_⟩
  · subst hs'; exact hinv.bound
  · subst hs'; intro x hx; exact hinv.stkvis x (hbasestk x hx)
  · subst hs'; exact hsorted.2.1
  · intro a b ha he
    exact (hcl a b (d_cases a ha) he).elim (d_S b) (d_old b)
  · intro c hc
    rw [hcomps] at hc
    rcases List.mem_append.mp hc with hc | hc
    · obtain ⟨h1, h2, h3, h4, h5⟩ := hinv.comp_ok c hc
      exact ⟨h1, h2, h3, fun x hx => d_old x (h4 x hx), h5⟩
    · obtain ⟨rfl, hlen⟩ := hnew c hc
      exact ⟨by rw [(isort_perm _).length_eq]; exact hlen, (isort_perm _).nodup_iff.mpr hSnd, isort_sorted _,
        fun x hx => d_S x ((hmemS x).mp hx),
        fun x hx y hy => ((hmutS x ((hmemS x).mp hx)).2).trans (hmutS y ((hmemS y).mp hy)).1,
        fun x hx y h1 h2 => (hmemS y).mpr (hmax x ((hmemS x).mp hx) y h1 h2)⟩
  · intro x y hx hne h1 h2
    rw [hcomps]
    rcases d_cases x hx with hxS | hxd
    · have hlen : S.length > 1 := PV.ListLemmas.two_le_length hxS (hmax x hxS y h1 h2) hne
      exact ⟨_, List.mem_append_right _ (by rw [if_pos hlen]; exact List.mem_singleton_self _), (hmemS x).mpr hxS⟩
    · obtain ⟨c, hc, hxc⟩ := hinv.comp_all x y hxd hne h1 h2
      exact ⟨c, List.mem_append_left _ hc, hxc⟩
  · rw [hcomps, List.pairwise_append]
    refine ⟨hinv.disj, by split <;> simp, ?_⟩
    -- the old components consist of popped vertices, the new one of stack vertices
    intro a ha b hb x hxa hxb
    rw [(hnew b hb).1, hmemS] at hxb
    exact ((hinv.comp_ok a ha).2.2.2.1 x hxa).2 (hSstk x hxb)

/-- `emit` in the situation of `inv_pop` -/
theorem emit_spec {g : G} {s2 : State} {v : Nat} {seg base : List Nat}
    (hinv : Inv g s2) (hstk : s2.stack = seg ++ v :: base)
    (hmut : ∀ y ∈ seg ++ [v], R g v y ∧ R g y v)
    (hsucc : ∀ y ∈ seg ++ [v], ∀ b, E g y b → vis s2 b)
    (hnoedge : ∀ a ∈ seg ++ [v], ∀ b ∈ base, ¬ E g a b) :
    Inv g (emit v s2) ∧ (emit v s2).stack = base ∧ Ext s2 (emit v s2) := by
  have hsorted := hinv.sorted
  rw [hstk, List.pairwise_append] at hsorted
  have hvseg : v ∉ seg := fun hm => Nat.lt_irrefl _ (hsorted.2.2 v hm v List.mem_cons_self)
  have hemit : emit v s2 = { s2 with stack := base, components :=
      s2.components ++ if (seg ++ [v]).length > 1 then [isort (seg ++ [v])] else [] } := by
    unfold emit
    rw [hstk, popTo_split v seg base hvseg]
    show State.mk _ _ _ _ _ = State.mk _ _ _ _ _
    congr 1
    split <;> simp
  rw [hemit]
  exact ⟨inv_pop hinv (by rw [hstk, List.append_assoc]; rfl) (List.mem_append_right _ List.mem_cons_self) hmut hsucc hnoedge,
    rfl, ⟨fun _ _ h => h, rfl⟩⟩

/-- what `strongConnect g f v s = r` guarantees (`r.1` = `lowLinks[v]`): the call leaves a segment `seg` on top
of the old stack (empty if `v` was a root).  The segment is mutually reachable with `v`, its successors are visited, and
every edge from it into the old stack ends at a number `≥ r.1`: when the caller turns out to be a root (`r.1` equal to
its own number) this bound is what shows that no edge leaves the popped component into the rest of the stack
(`hnoedge` of `emit_spec`).  If `v` was no root, `r.1` is the number of an old stack vertex that `v` reaches, so the
segment stays mutually reachable with the caller. -/
structure Post (g : G) (v : Nat) (s : State) (r : Nat × State) : Prop where
  inv : Inv g r.2
  ext : Ext s r.2
  visv : vis r.2 v
  seg : ∃ seg, r.2.stack = seg ++ s.stack ∧ (∀ y ∈ seg, R g v y ∧ R g y v) ∧
      (∀ y ∈ seg, ∀ b, E g y b → vis r.2 b) ∧
      (∀ a ∈ seg, ∀ b ∈ s.stack, E g a b → r.1 ≤ num s b) ∧
      ((seg = [] ∧ r.1 = s.index) ∨ (r.1 < s.index ∧ ∃ u ∈ s.stack, s.idx u = some r.1 ∧ R g v u))

/-- loop invariant of the successor loop of `strongConnect v` started in `s`; `P` = successors already handled,
`acc = (lowLinks[v], state)`.  `wit`: the lowlink is the number of a stack vertex that `v` reaches (when `v` is no root that vertex
lies in the old stack: the second alternative of `Post.seg`);
the last conjunct of `seg` / `plow`: edges from the segment, resp. from `v` to handled successors, into `v :: s.stack` end at numbers
`≥ lowlink` (the bound of `Post.seg`, accumulated over the loop). -/
structure LI (g : G) (v : Nat) (s : State) (P : Nat → Prop) (acc : Nat × State) : Prop where
  inv : Inv g acc.2
  ext : Ext (push v s) acc.2
  low_le : acc.1 ≤ s.index
  wit : ∃ u ∈ acc.2.stack, acc.2.idx u = some acc.1 ∧ R g v u
  seg : ∃ seg, acc.2.stack = seg ++ v :: s.stack ∧ (∀ y ∈ seg, R g v y ∧ R g y v) ∧
      (∀ y ∈ seg, ∀ b, E g y b → vis acc.2 b) ∧
      (∀ a ∈ seg, ∀ b ∈ v :: s.stack, E g a b → acc.1 ≤ num (push v s) b)
  pvis : ∀ w, P w → vis acc.2 w
  plow : ∀ w, P w → w ∈ v :: s.stack → acc.1 ≤ num (push v s) w

theorem LI.mono {g : G} {v : Nat} {s : State} {P P' : Nat → Prop} {acc : Nat × State}
    (hP : ∀ x, P' x → P x) (h : LI g v s P acc) : LI g v s P' acc :=
  ⟨h.inv, h.ext, h.low_le, h.wit, h.seg, fun w hw => h.pvis w (hP w hw), fun w hw => h.plow w (hP w hw)⟩

theorem step_spec {g : G} {f v : Nat} {s : State}
    (IH : ∀ w sc, Inv g sc → w < g.n → sc.idx w = none → U g sc ≤ f → (∀ y ∈ sc.stack, R g y w) →
      Post g w sc (strongConnect g f w sc))
    (hs : Inv g s) (hv : s.idx v = none) (hn : v < g.n) (hU : U g (push v s) ≤ f)
    (hbase : ∀ y ∈ s.stack, R g y v)
    {P : Nat → Prop} {acc : Nat × State} (h : LI g v s P acc) {w : Nat} (hw : E g v w) :
    LI g v s (fun x => P x ∨ x = w) (step (strongConnect g f) acc w) := by
  obtain ⟨low, sc⟩ := acc
  obtain ⟨seg, hstk, hmut, hsucc, hlow⟩ := h.seg
  have hinv1 := inv_push hs hv hn
  have hstkv : ∀ y ∈ sc.stack, R g y v := by
    intro y hy
    rw [show sc.stack = seg ++ v :: s.stack from hstk] at hy
    rcases List.mem_append.mp hy with hy | hy
    · exact (hmut y hy).2
    · rcases List.mem_cons.mp hy with rfl | hy
      · exact Relation.ReflTransGen.refl
      · exact hbase y hy
  have hbasein : ∀ b ∈ v :: s.stack, b ∈ sc.stack := by
    intro b hb
    rw [show sc.stack = seg ++ v :: s.stack from hstk]
    exact List.mem_append_right _ hb
  have hvis1 : ∀ b ∈ v :: s.stack, vis (push v s) b := fun b hb => hinv1.stkvis b hb
  cases hiw : sc.idx w with
  | none =>
    have hpost := IH w sc h.inv hw.1 hiw (Nat.le_trans (U_mono h.ext) hU)
      (fun y hy => (hstkv y hy).tail hw)
    simp only [step, hiw]
    generalize strongConnect g f w sc = r at hpost ⊢
    obtain ⟨lw, s'⟩ := r
    obtain ⟨segw, hstkw, hmutw, hsuccw, hloww, hcase⟩ := hpost.seg
    have hidx_lt : s.index < sc.index := (h.inv.bound v s.index (h.ext.idx v _ (idx_push_self v s))).1
    have hlowle : low ≤ s.index := h.low_le
    -- a callee that leaves a segment was no root: it reaches a vertex of the old stack, and that vertex reaches `v`
    have hwv : segw ≠ [] → R g w v := by
      intro hne
      rcases hcase with ⟨he, _⟩ | ⟨_, u, hu, _, hwu⟩
      · exact absurd he hne
      · exact hwu.trans (hstkv u hu)
    refine ⟨hpost.inv, h.ext.trans hpost.ext, ?_, ?_, ?_, ?_, ?_⟩
    · show min low lw ≤ s.index
      exact Nat.le_trans (Nat.min_le_left _ _) hlowle
    · show ∃ u ∈ s'.stack, s'.idx u = some (min low lw) ∧ R g v u
      rcases Nat.le_total low lw with hle | hle
      · rw [Nat.min_eq_left hle]
        obtain ⟨u, hu, hiu, hvu⟩ := h.wit
        exact ⟨u, by rw [show s'.stack = segw ++ sc.stack from hstkw]; exact List.mem_append_right _ hu,
          hpost.ext.idx u _ hiu, hvu⟩
      · rw [Nat.min_eq_right hle]
        rcases hcase with ⟨_, he⟩ | ⟨_, u, hu, hiu, hwu⟩
        · exfalso -- a root callee returns its own, fresh number, which is above `low`
          have : lw = sc.index := he
          omega
        · exact ⟨u, by rw [show s'.stack = segw ++ sc.stack from hstkw]; exact List.mem_append_right _ hu,
            hpost.ext.idx u _ hiu, (Relation.ReflTransGen.single hw).trans hwu⟩
    · refine ⟨segw ++ seg, ?_, ?_, ?_, ?_⟩
      · show s'.stack = segw ++ seg ++ v :: s.stack
        rw [show s'.stack = segw ++ sc.stack from hstkw, show sc.stack = seg ++ v :: s.stack from hstk,
          List.append_assoc]
      · intro y hy
        rcases List.mem_append.mp hy with hy | hy
        · have hne : segw ≠ [] := fun e => by rw [e] at hy; cases hy
          exact ⟨(Relation.ReflTransGen.single hw).trans (hmutw y hy).1, (hmutw y hy).2.trans (hwv hne)⟩
        · exact hmut y hy
      · intro y hy b he
        rcases List.mem_append.mp hy with hy | hy
        · exact hsuccw y hy b he
        · exact hpost.ext.vis (hsucc y hy b he)
      · intro a ha b hb he
        show min low lw ≤ num (push v s) b
        rcases List.mem_append.mp ha with ha | ha
        · have := hloww a ha b (hbasein b hb) he
          rw [h.ext.num (hvis1 b hb)] at this
          exact Nat.le_trans (Nat.min_le_right _ _) this
        · exact Nat.le_trans (Nat.min_le_left _ _) (hlow a ha b hb he)
    · intro x hx
      rcases hx with hx | rfl
      · exact hpost.ext.vis (h.pvis x hx)
      · exact hpost.visv
    · intro x hx hxb
      show min low lw ≤ num (push v s) x
      rcases hx with hx | rfl
      · exact Nat.le_trans (Nat.min_le_left _ _) (h.plow x hx hxb)
      · exact absurd hiw (h.ext.vis (hvis1 x hxb))
  | some iw =>
    by_cases hc : sc.stack.contains w = true
    · have hmem : w ∈ sc.stack := List.contains_iff_mem.mp hc
      simp only [step, hiw, hc, if_true]
      refine ⟨h.inv, h.ext, Nat.le_trans (Nat.min_le_left _ _) h.low_le, ?_, ?_, ?_, ?_⟩
      · show ∃ u ∈ sc.stack, sc.idx u = some (min low iw) ∧ R g v u
        rcases Nat.le_total low iw with hle | hle
        · rw [Nat.min_eq_left hle]; exact h.wit
        · rw [Nat.min_eq_right hle]; exact ⟨w, hmem, hiw, Relation.ReflTransGen.single hw⟩
      · exact ⟨seg, hstk, hmut, hsucc, fun a ha b hb he =>
          Nat.le_trans (Nat.min_le_left _ _) (hlow a ha b hb he)⟩
      · intro x hx
        rcases hx with hx | rfl
        · exact h.pvis x hx
        · exact vis_of_idx hiw
      · intro x hx hxb
        show min low iw ≤ num (push v s) x
        rcases hx with hx | rfl
        · exact Nat.le_trans (Nat.min_le_left _ _) (h.plow x hx hxb)
        · rw [← h.ext.num (hvis1 x hxb), num_of_idx hiw]
          exact Nat.min_le_right _ _
    · have hmem : w ∉ sc.stack := fun hm => hc (List.contains_iff_mem.mpr hm)
      simp only [step, hiw, hc]
      refine ⟨h.inv, h.ext, h.low_le, h.wit, ⟨seg, hstk, hmut, hsucc, hlow⟩, ?_, ?_⟩
      · intro x hx
        rcases hx with hx | rfl
        · exact h.pvis x hx
        · exact vis_of_idx hiw
      · intro x hx hxb
        rcases hx with hx | rfl
        · exact h.plow x hx hxb
        · exact absurd (hbasein x hxb) hmem

theorem fold_spec {g : G} {f v : Nat} {s : State}
    (IH : ∀ w sc, Inv g sc → w < g.n → sc.idx w = none → U g sc ≤ f → (∀ y ∈ sc.stack, R g y w) →
      Post g w sc (strongConnect g f w sc))
    (hs : Inv g s) (hv : s.idx v = none) (hn : v < g.n) (hU : U g (push v s) ≤ f)
    (hbase : ∀ y ∈ s.stack, R g y v) :
    ∀ (ws : List Nat), (∀ w ∈ ws, E g v w) → ∀ (P : Nat → Prop) (acc : Nat × State), LI g v s P acc →
      LI g v s (fun x => P x ∨ x ∈ ws) (ws.foldl (step (strongConnect g f)) acc) := by
  intro ws
  induction ws with
  | nil => intro _ P acc h; exact h.mono (fun x hx => hx.elim id (fun h => by cases h))
  | cons w ws ih =>
    intro hws P acc h
    rw [List.foldl_cons]
    have h1 := step_spec IH hs hv hn hU hbase h (hws w List.mem_cons_self)
    have h2 := ih (fun x hx => hws x (List.mem_cons_of_mem _ hx)) _ _ h1
    refine h2.mono ?_
    intro x hx
    rcases hx with hx | hx
    · exact .inl (.inl hx)
    · rcases List.mem_cons.mp hx with rfl | hx
      · exact .inl (.inr rfl)
      · exact .inr hx

/-- **the main lemma**: with fuel at least the number of unvisited vertices, a call of `strongConnect` on an
unvisited vertex that every stack vertex reaches preserves the invariant and returns the lowlink -/
theorem sc_spec (g : G) : ∀ (f v : Nat) (s : State), Inv g s → v < g.n → s.idx v = none → U g s ≤ f →
    (∀ y ∈ s.stack, R g y v) → Post g v s (strongConnect g f v s) := by
  intro f
  induction f with
  | zero =>
    intro v s _ hn hv hU _
    have := U_push (g := g) hv hn
    omega
  | succ f IH =>
    intro v s hs hn hv hU hbase
    have hU1 : U g (push v s) ≤ f := by have := U_push (g := g) hv hn; omega
    have hinv1 := inv_push hs hv hn
    have h0 : LI g v s (fun _ => False) (s.index, push v s) := by
      refine ⟨hinv1, Ext.refl _, Nat.le_refl _, ⟨v, by simp [push], idx_push_self v s, Relation.ReflTransGen.refl⟩,
        ⟨[], rfl, ?_, ?_, ?_⟩, ?_, ?_⟩
      · intro y hy; cases hy
      · intro y hy; cases hy
      · intro y hy; cases hy
      · intro w hw; exact hw.elim
      · intro w hw; exact hw.elim
    have h1 := fold_spec IH hs hv hn hU1 hbase (succs g v) (fun w hw => mem_succs.mp hw) _ _ h0
    unfold strongConnect
    generalize (succs g v).foldl (step (strongConnect g f)) (s.index, push v s) = r at h1 ⊢
    obtain ⟨low, s2⟩ := r
    obtain ⟨seg, hstk, hmut, hsucc, hlow⟩ := h1.seg
    have hstk' : s2.stack = seg ++ v :: s.stack := hstk
    have hvisv2 : s2.idx v = some s.index := h1.ext.idx v _ (idx_push_self v s)
    have hsuccS : ∀ y ∈ seg ++ [v], ∀ b, E g y b → vis s2 b := by
      refine List.forall_mem_append.mpr ⟨hsucc, fun y hy b he => ?_⟩
      rw [List.mem_singleton.mp hy] at he
      exact h1.pvis b (.inr (mem_succs.mpr he))
    have hlowS : ∀ a ∈ seg ++ [v], ∀ b ∈ s.stack, E g a b → low ≤ num s b := by
      refine List.forall_mem_append.mpr ⟨fun a ha b hb he => ?_, fun a ha b hb he => ?_⟩
      · rw [← (ext_push hv).num (hs.stkvis b hb)]
        exact hlow a ha b (List.mem_cons_of_mem _ hb) he
      · rw [← (ext_push hv).num (hs.stkvis b hb)]
        rw [List.mem_singleton.mp ha] at he
        exact h1.plow b (.inr (mem_succs.mpr he)) (List.mem_cons_of_mem _ hb)
    have hmutS : ∀ y ∈ seg ++ [v], R g v y ∧ R g y v := by
      refine List.forall_mem_append.mpr ⟨hmut, fun y hy => ?_⟩
      rw [List.mem_singleton.mp hy]
      exact ⟨Relation.ReflTransGen.refl, Relation.ReflTransGen.refl⟩
    have hlowle : low ≤ s.index := h1.low_le
    by_cases hroot : low = s.index
    · -- `v` is a root: pop
      have hb : (low == s.index) = true := by simpa using hroot
      simp only [hb, if_true]
      show Post g v s (low, emit v s2)
      obtain ⟨hi, hst, hex⟩ := emit_spec h1.inv hstk' hmutS hsuccS (by
        intro a ha b hb he
        have h1' := hlowS a ha b hb he
        have h2' := (hs.bound b _ (idx_of_vis (hs.stkvis b hb))).1
        omega)
      refine ⟨hi, (ext_push hv).trans (h1.ext.trans hex), hex.vis (vis_of_idx hvisv2), ⟨[], ?_, ?_, ?_, ?_, ?_⟩⟩
      · show (emit v s2).stack = [] ++ s.stack
        rw [hst]; rfl
      · intro y hy; cases hy
      · intro y hy; cases hy
      · intro y hy; cases hy
      · exact .inl ⟨rfl, hroot⟩
    · -- `v` stays on the stack
      have hb : (low == s.index) = false := by simpa using hroot
      simp only [hb, Bool.false_eq_true, if_false]
      show Post g v s (low, s2)
      have hlt : low < s.index := by omega
      refine ⟨h1.inv, (ext_push hv).trans h1.ext, vis_of_idx hvisv2, ⟨seg ++ [v], ?_, hmutS, hsuccS, hlowS, .inr ⟨hlt, ?_⟩⟩⟩
      · show s2.stack = seg ++ [v] ++ s.stack
        rw [hstk']; simp
      · obtain ⟨u, hu, hiu, hvu⟩ := h1.wit
        have hiu' : s2.idx u = some low := hiu
        have hu' : u ∈ seg ++ v :: s.stack := by rw [← hstk']; exact hu
        have hsorted := h1.inv.sorted
        rw [hstk', List.pairwise_append] at hsorted
        rcases List.mem_append.mp hu' with hu' | hu'
        · exfalso
          have := hsorted.2.2 u hu' v List.mem_cons_self
          rw [num_of_idx hiu', num_of_idx hvisv2] at this
          omega
        · rcases List.mem_cons.mp hu' with rfl | hu'
          · exfalso
            rw [hvisv2] at hiu'
            exact hroot (Option.some.inj hiu').symm
          · refine ⟨u, hu', ?_, hvu⟩
            have h3 := idx_of_vis (hs.stkvis u hu')
            have h4 := h1.ext.idx u _ ((ext_push hv).idx u _ h3)
            rw [hiu'] at h4
            rw [h3, Option.some.inj h4]

theorem outer_spec (g : G) : ∀ (ws : List Nat), (∀ w ∈ ws, w < g.n) → ∀ (s : State), Inv g s → s.stack = [] →
    let s' := ws.foldl (fun s v => match s.idx v with
      | none => (strongConnect g g.n v s).2
      | some _ => s) s
    Inv g s' ∧ s'.stack = [] ∧ Ext s s' ∧ ∀ w ∈ ws, vis s' w := by
  intro ws
  induction ws with
  | nil => intro _ s hs hst; exact ⟨hs, hst, Ext.refl _, fun w hw => by cases hw⟩
  | cons v ws ih =>
    intro hws s hs hst
    rw [List.foldl_cons]
    have hvn := hws v List.mem_cons_self
    have hws' : ∀ w ∈ ws, w < g.n := fun w hw => hws w (List.mem_cons_of_mem _ hw)
    cases hiv : s.idx v with
    | some i =>
      simp only []
      obtain ⟨h1, h2, h3, h4⟩ := ih hws' s hs hst
      refine ⟨h1, h2, h3, ?_⟩
      intro w hw
      rcases List.mem_cons.mp hw with rfl | hw
      · exact h3.vis (vis_of_idx hiv)
      · exact h4 w hw
    | none =>
      simp only []
      have hpost := sc_spec g g.n v s hs hvn hiv (U_le_n g s) (by intro y hy; rw [hst] at hy; cases hy)
      obtain ⟨seg, hstk, _, _, _, hcase⟩ := hpost.seg
      have hst' : (strongConnect g g.n v s).2.stack = [] := by
        rcases hcase with ⟨he, _⟩ | ⟨_, u, hu, _⟩
        · rw [hstk, he, hst]; rfl
        · rw [hst] at hu; cases hu
      obtain ⟨h1, h2, h3, h4⟩ := ih hws' _ hpost.inv hst'
      refine ⟨h1, h2, hpost.ext.trans h3, ?_⟩
      intro w hw
      rcases List.mem_cons.mp hw with rfl | hw
      · exact h3.vis hpost.visv
      · exact h4 w hw

theorem run_spec (g : G) : Inv g (run g) ∧ (run g).stack = [] ∧ (run g).ok = true ∧ ∀ v, v < g.n → done (run g) v := by
  obtain ⟨h1, h2, h3, h4⟩ := outer_spec g (List.range g.n) (fun w hw => List.mem_range.mp hw) State.init
    (inv_init g) rfl
  refine ⟨h1, h2, h3.ok, ?_⟩
  intro v hv
  refine ⟨h4 v (List.mem_range.mpr hv), ?_⟩
  intro hm
  have : (run g).stack = [] := h2
  rw [this] at hm; cases hm

/-- **Fuel.** `run` never runs out of recursion fuel (each top-level call gets `g.n`). -/
theorem run_ok (g : G) : (run g).ok = true := (run_spec g).2.2.1

/-- **Fuel, per call.** A call with fuel at least the number of still unvisited vertices leaves the flag alone. -/
theorem strongConnect_ok (g : G) (f v : Nat) (s : State) (hs : Inv g s) (hn : v < g.n) (hv : s.idx v = none)
    (hf : U g s ≤ f) (hreach : ∀ y ∈ s.stack, R g y v) : (strongConnect g f v s).2.ok = s.ok :=
  (sc_spec g f v s hs hn hv hf hreach).ext.ok

theorem run_all_done (g : G) (v : Nat) (hv : v < g.n) : (run g).idx v ≠ none ∧ v ∉ (run g).stack :=
  (run_spec g).2.2.2 v hv

/-- **Soundness.** Every emitted component has at least two members, no duplicates, is sorted increasingly,
consists of vertices of the graph, and any two members reach each other. -/
theorem tarjan_sound (g : G) (c : List Nat) (hc : c ∈ sccs g) :
    2 ≤ c.length ∧ c.Nodup ∧ c.Pairwise (· < ·) ∧ (∀ x ∈ c, x < g.n) ∧
    ∀ u ∈ c, ∀ v ∈ c, Reach g u v ∧ Reach g v u := by
  obtain ⟨hinv, _, _, _⟩ := run_spec g
  obtain ⟨h1, h2, h3, h4, h5, _⟩ := hinv.comp_ok c hc
  refine ⟨h1, h2, ?_, ?_, ?_⟩
  · exact (List.Pairwise.and h3 h2).imp (fun h => Nat.lt_of_le_of_ne h.1 h.2)
  · intro x hx
    exact (hinv.bound x _ (idx_of_vis (h4 x hx).1)).2
  · intro u hu v hv
    exact ⟨R_reach (h5 u hu v hv), R_reach (h5 v hv u hu)⟩

/-- **Maximality** (paths inside the graph): an emitted component contains every vertex mutually reachable
with one of its members along edges between vertices `< g.n`. No hypothesis on the graph. -/
theorem tarjan_maximal_R (g : G) (c : List Nat) (hc : c ∈ sccs g) (u : Nat) (hu : u ∈ c) (v : Nat)
    (h1 : R g u v) (h2 : R g v u) : v ∈ c := by
  obtain ⟨hinv, _, _, _⟩ := run_spec g
  exact (hinv.comp_ok c hc).2.2.2.2.2 u hu v h1 h2

/-- **Maximality.** If all edge targets are vertices of the graph, an emitted component contains every vertex
mutually reachable with one of its members. -/
theorem tarjan_maximal (g : G) (hwf : ∀ e ∈ g.edges, e.2 < g.n) (c : List Nat) (hc : c ∈ sccs g)
    (u : Nat) (hu : u ∈ c) (v : Nat) (h1 : Reach g u v) (h2 : Reach g v u) : v ∈ c :=
  tarjan_maximal_R g c hc u hu v (reach_R hwf h1) (reach_R hwf h2)

/-- **Completeness** (paths inside the graph) -/
theorem tarjan_complete_R (g : G) (u v : Nat) (hu : u < g.n) (hne : u ≠ v)
    (h1 : R g u v) (h2 : R g v u) : ∃ c ∈ sccs g, u ∈ c ∧ v ∈ c := by
  obtain ⟨hinv, _, _, hdone⟩ := run_spec g
  obtain ⟨c, hc, huc⟩ := hinv.comp_all u v (hdone u hu) hne h1 h2
  exact ⟨c, hc, huc, tarjan_maximal_R g c hc u huc v h1 h2⟩

/-- **Completeness.** Two different, mutually reachable vertices are in a common emitted component. -/
theorem tarjan_complete (g : G) (hwf : ∀ e ∈ g.edges, e.2 < g.n) (u v : Nat) (hu : u < g.n) (hne : u ≠ v)
    (h1 : Reach g u v) (h2 : Reach g v u) : ∃ c ∈ sccs g, u ∈ c ∧ v ∈ c :=
  tarjan_complete_R g u v hu hne (reach_R hwf h1) (reach_R hwf h2)

/-- **Disjointness.** Emitted components (at different positions of the output) share no vertex. -/
theorem tarjan_disjoint (g : G) : (sccs g).Pairwise (fun a b => ∀ x ∈ a, x ∉ b) := (run_spec g).1.disj

/-- consequently two emitted components sharing a vertex are the same list -/
theorem tarjan_disjoint' (g : G) (c₁ c₂ : List Nat) (h₁ : c₁ ∈ sccs g) (h₂ : c₂ ∈ sccs g) (x : Nat)
    (hx₁ : x ∈ c₁) (hx₂ : x ∈ c₂) : c₁ = c₂ := by
  have hd := tarjan_disjoint g
  generalize sccs g = l at hd h₁ h₂
  induction l with
  | nil => cases h₁
  | cons a l ih =>
    have hrel : ∀ {b : List Nat}, b ∈ l → ∀ x ∈ a, x ∉ b := fun hb => List.rel_of_pairwise_cons hd hb
    rcases List.mem_cons.mp h₁ with rfl | h₁' <;> rcases List.mem_cons.mp h₂ with rfl | h₂'
    · rfl
    · exact absurd hx₂ (hrel h₂' x hx₁)
    · exact absurd hx₁ (hrel h₁' x hx₂)
    · exact ih (List.Pairwise.of_cons hd) h₁' h₂'

theorem tarjan_nodup (g : G) : (sccs g).Nodup := by
  refine (tarjan_disjoint g).imp_of_mem ?_
  intro a b ha _ hab e
  have h2 := (tarjan_sound g a ha).1
  match a, h2 with
  | x :: _, _ => exact hab x List.mem_cons_self (by rw [← e]; exact List.mem_cons_self)

/-- **Specification (as C11_spec).** Two different vertices are in a common emitted component iff each
reaches the other. -/
theorem tarjan_spec (g : G) (hwf : ∀ e ∈ g.edges, e.2 < g.n) (u v : Nat) (hu : u < g.n) (hne : u ≠ v) :
    (∃ c ∈ sccs g, u ∈ c ∧ v ∈ c) ↔ (Reach g u v ∧ Reach g v u) := by
  constructor
  · rintro ⟨c, hc, huc, hvc⟩
    exact (tarjan_sound g c hc).2.2.2.2 u huc v hvc
  · rintro ⟨h1, h2⟩
    exact tarjan_complete g hwf u v hu hne h1 h2

/-- the hypothesis of `tarjan_maximal` / `tarjan_complete` cannot be dropped: `Reach` may leave the vertex range -/
example : (∃ g : G, ∃ u v, u < g.n ∧ v < g.n ∧ u ≠ v ∧ Reach g u v ∧ Reach g v u ∧ sccs g = []) :=
  ⟨{ n := 2, edges := [(0, 5), (5, 1), (1, 0)] }, 0, 1, by decide, by decide, by decide,
    (Reach.refl 0).step (v := 0) (w := 5) (by decide) |>.step (w := 1) (by decide),
    (Reach.refl 1).step (v := 1) (w := 0) (by decide), by decide⟩

/-! ## non-vacuity -/

example : sccs { n := 4, edges := [(0,1),(1,2),(2,0),(2,3)] } = [[0,1,2]] := by decide +kernel
/-- figure-eight: two cycles sharing vertex 2 -/
example : sccs { n := 5, edges := [(0,1),(1,2),(2,0),(2,3),(3,4),(4,2)] } = [[0,1,2,3,4]] := by decide +kernel
/-- two disjoint 2-cycles -/
example : sccs { n := 4, edges := [(0,1),(1,0),(2,3),(3,2)] } = [[0,1],[2,3]] := by decide +kernel
/-- two cycles joined by a one-way edge: the inner one is emitted first -/
example : sccs { n := 5, edges := [(0,1),(1,0),(0,2),(2,3),(3,4),(4,2)] } = [[2,3,4],[0,1]] := by decide +kernel
/-- a 3-cycle, a 2-cycle, a self-import and a tail (the example of `PV.C11`) -/
example : sccs { n := 7, edges := [(0,1),(1,2),(2,0),(3,4),(4,3),(5,5),(2,3),(6,0)] } = [[3,4],[0,1,2]] := by decide +kernel
example : (run { n := 7, edges := [(0,1),(1,2),(2,0),(3,4),(4,3),(5,5),(2,3),(6,0)] }).ok = true := by decide +kernel
/-- no cycle, no component -/
example : sccs { n := 4, edges := [(0,1),(1,2),(2,3),(0,3)] } = [] := by decide +kernel

/-! ## agreement with the specification-level model `PV.SCC.cycles` -/

/-- **The Tarjan mirror and the certified-closure model list the same cycles** (each as the same sorted list;
the order of the two lists differs: emission order vs. order of the smallest member). -/
theorem tarjan_eq_cycles (g : G) (hwf : ∀ e ∈ g.edges, e.2 < g.n) (cs : List (List Nat))
    (h : cycles g = some cs) : ∀ c, c ∈ sccs g ↔ c ∈ cs := by
  have hpart := PV.C11.C11_partition g cs h
  have fwd : ∀ c, c ∈ sccs g → c ∈ cs := by
    intro c hc
    obtain ⟨hlen, _, hsort, hlt, hmut⟩ := tarjan_sound g c hc
    match c, hlen with
    | u :: rest, hlen =>
      have huc : u ∈ u :: rest := List.mem_cons_self
      have hu := hlt u huc
      -- the component is the model's class of its first member
      have heq : u :: rest = comp g (reachTable g) u := by
        apply PV.ListLemmas.sorted_ext hsort (PV.C11.comp_sorted _ _ _)
        intro x
        rw [PV.C11.mem_comp hu]
        constructor
        · intro hx; exact ⟨hlt x hx, hmut u huc x hx⟩
        · rintro ⟨_, hm⟩; exact tarjan_maximal g hwf _ hc u huc x hm.1 hm.2
      refine (PV.C11.mem_cycles_iff h _).mpr ⟨?_, hlen⟩
      rw [heq]; exact PV.C11.class_listed hu
  intro c
  constructor
  · exact fwd c
  · intro hc
    -- a cycle has two different members; they are in one emitted component, which is a cycle sharing a member with `c`
    obtain ⟨hl, hnd, _, hlt⟩ := hpart.2.1 c hc
    match c, hl with
    | u :: rest, hl =>
      have huc : u ∈ u :: rest := List.mem_cons_self
      obtain ⟨v, hvc, hvu⟩ := PV.ListLemmas.exists_mem_ne hl hnd u
      have hm := (PV.C11.C11_spec g cs h u v (hlt u huc) (hlt v hvc) (Ne.symm hvu)).mp ⟨_, hc, huc, hvc⟩
      obtain ⟨c', hc', huc', _⟩ := tarjan_complete g hwf u v (hlt u huc) (Ne.symm hvu) hm.1 hm.2
      rw [← hpart.2.2 c' (fwd c' hc') _ hc u huc' huc]
      exact hc'

theorem tarjan_perm_cycles (g : G) (hwf : ∀ e ∈ g.edges, e.2 < g.n) (cs : List (List Nat))
    (h : cycles g = some cs) : (sccs g).Perm cs :=
  (List.perm_ext_iff_of_nodup (tarjan_nodup g) (PV.C11.C11_partition g cs h).1).mpr (tarjan_eq_cycles g hwf cs h)

/-! ## the literal mirror (`goStrongConnect`, with the `lowLinks` and `inStack` maps) computes the same -/

theorem popTo_append (v : Nat) (l : List Nat) : (popTo v l).1 ++ (popTo v l).2 = l := by
  induction l with
  | nil => rfl
  | cons x xs ih =>
    unfold popTo
    by_cases h : (x == v) = true
    · simp [h]
    · simp only [h]; simp [ih]

/-- the `inStack` map `m` is the membership test of the stack `stk` -/
def InS (m : List (Nat × Bool)) (stk : List Nat) : Prop := ∀ x, (m.lookup x).getD false = stk.contains x

theorem InS.push {m : List (Nat × Bool)} {stk : List Nat} (h : InS m stk) (v : Nat) : InS ((v, true) :: m) (v :: stk) := by
  intro x
  rw [PV.ListLemmas.lookup_cons_ite, List.contains_cons, ← h x]
  by_cases hx : x = v
  · rw [if_pos hx, beq_iff_eq.mpr hx]; rfl
  · rw [if_neg hx, beq_eq_false_iff_ne.mpr hx]; rfl

theorem InS.pop {m : List (Nat × Bool)} {stk : List Nat} {a : Nat} (h : InS m (a :: stk)) (ha : a ∉ stk) :
    InS ((a, false) :: m) stk := by
  intro x
  rw [PV.ListLemmas.lookup_cons_ite]
  by_cases hx : x = a
  · rw [if_pos hx, hx]; exact (by simpa using ha : stk.contains a = false).symm
  · rw [if_neg hx, h x, List.contains_cons, beq_eq_false_iff_ne.mpr hx]; rfl

theorem goPop_eq (v : Nat) : ∀ (l : List Nat) (ins : List (Nat × Bool)), InS ins l → l.Nodup →
    (goPop v l ins).1 = (popTo v l).1 ∧ (goPop v l ins).2.1 = (popTo v l).2 ∧ InS (goPop v l ins).2.2 (popTo v l).2
  | [], ins, h, _ => ⟨rfl, rfl, h⟩
  | a :: xs, ins, h, hnd => by
    have hp := h.pop (List.nodup_cons.mp hnd).1
    unfold goPop popTo
    by_cases e : (a == v) = true
    · rw [if_pos e, if_pos e]; exact ⟨rfl, rfl, hp⟩
    · rw [if_neg e, if_neg e]
      obtain ⟨h1, h2, h3⟩ := goPop_eq v xs _ hp (List.nodup_cons.mp hnd).2
      exact ⟨congrArg (a :: ·) h1, h2, h3⟩

/-- `nodup`, `stkvis` (and the `mono` fields below) repeat `Inv.stack_nodup`, `Inv.stkvis`, `Ext.idx`, so that the simulation needs no `Inv` -/
structure Sim (gs : GoState) (s : State) : Prop where
  index : gs.index = s.index
  indices : gs.indices = s.indices
  stack : gs.stack = s.stack
  comps : gs.components = s.components
  ok : gs.ok = s.ok
  ins : ∀ x, gs.inStk x = s.stack.contains x
  nodup : s.stack.Nodup
  stkvis : ∀ x ∈ s.stack, s.idx x ≠ none

theorem Sim.idx {gs : GoState} {s : State} (h : Sim gs s) (x : Nat) : gs.idx x = s.idx x := by
  unfold GoState.idx State.idx; rw [h.indices]

theorem Sim.setLow {gs : GoState} {s : State} (h : Sim gs s) (x l : Nat) : Sim (gs.setLow x l) s :=
  ⟨h.index, h.indices, h.stack, h.comps, h.ok, h.ins, h.nodup, h.stkvis⟩

theorem low_setLow (gs : GoState) (x l y : Nat) : (gs.setLow x l).low y = if y = x then l else gs.low y := by
  unfold GoState.low GoState.setLow
  rw [PV.ListLemmas.lookup_cons_ite]
  split
  · rfl
  · rfl

structure SimPost (v : Nat) (gs : GoState) (s : State) (gs' : GoState) (r : Nat × State) : Prop where
  sim : Sim gs' r.2
  /-- `lowLinks[v]` is the returned lowlink -/
  low : gs'.low v = r.1
  /-- `lowLinks` of vertices visited before the call is untouched -/
  frame : ∀ x, s.idx x ≠ none → gs'.low x = gs.low x
  mono : ∀ x i, s.idx x = some i → r.2.idx x = some i

theorem sim_emit {gs : GoState} {s : State} (v : Nat) (h : Sim gs s) (hlow : gs.low v = (s.idx v).getD 0) :
    Sim (goFinish v gs) (emit v s) := by
  unfold goFinish emit
  rw [h.idx v, hlow, ← h.stack]
  simp only [beq_self_eq_true, if_true]
  obtain ⟨h1, h2, h3⟩ := goPop_eq v gs.stack gs.inStack (h.stack ▸ h.ins) (h.stack ▸ h.nodup)
  have hsuf : (popTo v gs.stack).2 <:+ s.stack := ⟨_, (popTo_append v gs.stack).trans h.stack⟩
  refine ⟨h.index, h.indices, h2, ?_, h.ok, h3, hsuf.sublist.nodup h.nodup, fun x hx => h.stkvis x (hsuf.subset hx)⟩
  show (if (goPop v gs.stack gs.inStack).1.length > 1 then _ else _) = (if (popTo v gs.stack).1.length > 1 then _ else _)
  rw [h1, h.comps]

theorem goFinish_low (v : Nat) (gs : GoState) (x : Nat) : (goFinish v gs).low x = gs.low x := by
  unfold goFinish GoState.low
  split
  · rfl
  · rfl

theorem sim_push {gs : GoState} {s : State} (v : Nat) (h : Sim gs s) (hv : s.idx v = none) :
    Sim { gs with
        indices := (v, gs.index) :: gs.indices, lowLinks := (v, gs.index) :: gs.lowLinks, index := gs.index + 1,
        stack := v :: gs.stack, inStack := (v, true) :: gs.inStack } (push v s) := by
  refine ⟨?_, ?_, ?_, h.comps, h.ok, ?_, ?_, ?_⟩
  · show gs.index + 1 = s.index + 1
    rw [h.index]
  · show (v, gs.index) :: gs.indices = (v, s.index) :: s.indices
    rw [h.index, h.indices]
  · show v :: gs.stack = v :: s.stack
    rw [h.stack]
  · exact InS.push h.ins v
  · show (v :: s.stack).Nodup
    exact List.nodup_cons.mpr ⟨fun hm => h.stkvis v hm hv, h.nodup⟩
  · intro x hx
    show (push v s).idx x ≠ none
    rw [idx_push]
    by_cases e : x = v
    · simp [e]
    · simp only [e, if_false]
      rcases List.mem_cons.mp hx with rfl | hx
      · exact absurd rfl e
      · exact h.stkvis x hx

/-- the two successor loops of `v`, started in `gs` and `s`, run in lock step (`low`, `frame` as in `SimPost`, for the accumulated lowlink) -/
structure SimLI (v : Nat) (gs : GoState) (s : State) (gsc : GoState) (acc : Nat × State) : Prop where
  sim : Sim gsc acc.2
  low : gsc.low v = acc.1
  frame : ∀ x, s.idx x ≠ none → gsc.low x = gs.low x
  mono : ∀ x i, (push v s).idx x = some i → acc.2.idx x = some i

theorem sim_step {g : G} {f v : Nat} {gs : GoState} {s : State}
    (IH : ∀ w gsc sc, Sim gsc sc → sc.idx w = none →
      SimPost w gsc sc (goStrongConnect g f w gsc) (strongConnect g f w sc))
    (hv : s.idx v = none) (w : Nat) (gsc : GoState) (acc : Nat × State) (h : SimLI v gs s gsc acc) :
    SimLI v gs s (goStep (goStrongConnect g f) v gsc w) (step (strongConnect g f) acc w) := by
  obtain ⟨low, sc⟩ := acc
  obtain ⟨h1, h2, h3, h4⟩ := h
  have hvne : ∀ x, s.idx x ≠ none → x ≠ v := fun x hx e => by rw [e] at hx; exact hx hv
  have hvsc : sc.idx v = some s.index := h4 v _ (idx_push_self v s)
  unfold goStep step
  rw [h1.idx w]
  cases hiw : sc.idx w with
  | none =>
    have hp := IH w gsc sc h1 hiw
    refine ⟨hp.sim.setLow _ _, ?_, fun x hx => ?_, fun x i hx => hp.mono x i (h4 x i hx)⟩
    · show ((goStrongConnect g f w gsc).relax v w).low v = min low (strongConnect g f w sc).1
      unfold GoState.relax
      rw [low_setLow, if_pos rfl, hp.low, hp.frame v (by rw [hvsc]; simp)]; exact congrArg (min · _) h2
    · show ((goStrongConnect g f w gsc).relax v w).low x = gs.low x
      unfold GoState.relax
      rw [low_setLow, if_neg (hvne x hx), hp.frame x (vis_of_idx (h4 x _ ((ext_push hv).idx x _ (idx_of_vis hx))))]
      exact h3 x hx
  | some iw =>
    simp only [show gsc.inStk w = sc.stack.contains w from h1.ins w]
    split
    · refine ⟨h1.setLow _ _, ?_, fun x hx => ?_, h4⟩
      · rw [low_setLow, if_pos rfl]; exact congrArg (min · _) h2
      · rw [low_setLow, if_neg (hvne x hx)]; exact h3 x hx
    · exact ⟨h1, h2, h3, h4⟩

theorem sim_sc (g : G) : ∀ (f v : Nat) (gs : GoState) (s : State), Sim gs s → s.idx v = none →
    SimPost v gs s (goStrongConnect g f v gs) (strongConnect g f v s) := by
  intro f
  induction f with
  | zero =>
    intro v gs s h hv
    have hvne : ∀ x, s.idx x ≠ none → x ≠ v := fun x hx e => by rw [e] at hx; exact hx hv
    refine ⟨⟨h.index, h.indices, h.stack, h.comps, rfl, h.ins, h.nodup, h.stkvis⟩, ?_, ?_, fun _ _ hx => hx⟩
    · show (gs.setLow v gs.index).low v = s.index
      rw [low_setLow, if_pos rfl, h.index]
    · intro x hx
      show (gs.setLow v gs.index).low x = gs.low x
      rw [low_setLow, if_neg (hvne x hx)]
  | succ f IH =>
    intro v gs s h hv
    have hvne : ∀ x, s.idx x ≠ none → x ≠ v := fun x hx e => by rw [e] at hx; exact hx hv
    obtain ⟨f1, f2, f3, f4⟩ := List.foldl_rel (l := succs g v) (r := SimLI v gs s)
      (a := { gs with
        indices := (v, gs.index) :: gs.indices, lowLinks := (v, gs.index) :: gs.lowLinks, index := gs.index + 1,
        stack := v :: gs.stack, inStack := (v, true) :: gs.inStack }) (b := (s.index, push v s))
      ⟨sim_push v h hv,
        by show (GoState.setLow _ v gs.index).low v = s.index; rw [low_setLow, if_pos rfl, h.index],
        fun x hx => by show (GoState.setLow _ v gs.index).low x = gs.low x; rw [low_setLow, if_neg (hvne x hx)],
        fun _ _ hx => hx⟩
      (fun w _ => sim_step (g := g) (f := f) IH hv w)
    unfold goStrongConnect strongConnect
    generalize (succs g v).foldl (step (strongConnect g f)) (s.index, push v s) = r at f1 f2 f3 f4 ⊢
    generalize (succs g v).foldl (goStep (goStrongConnect g f) v) _ = gs2 at f1 f2 f3 f4 ⊢
    obtain ⟨low, s2⟩ := r
    have hv2 : s2.idx v = some s.index := f4 v _ (idx_push_self v s)
    have hmono : ∀ x i, s.idx x = some i → s2.idx x = some i :=
      fun x i hx => f4 x i ((ext_push hv).idx x i hx)
    by_cases hroot : low = s.index
    · have hb : (low == s.index) = true := by simpa using hroot
      simp only [hb, if_true]
      have hl : gs2.low v = (s2.idx v).getD 0 := by rw [hv2]; exact (show gs2.low v = low from f2).trans hroot
      exact ⟨sim_emit v f1 hl, (goFinish_low v gs2 v).trans f2, fun x hx => (goFinish_low v gs2 x).trans (f3 x hx), hmono⟩
    · have hb : (low == s.index) = false := by simpa using hroot
      simp only [hb, Bool.false_eq_true, if_false]
      have hfin : goFinish v gs2 = gs2 := by
        unfold goFinish
        rw [f1.idx v, hv2, if_neg]
        intro e
        exact hroot ((show gs2.low v = low from f2).symm.trans (beq_iff_eq.mp e))
      rw [hfin]
      exact ⟨f1, f2, f3, hmono⟩

theorem sim_outer (g : G) (ws : List Nat) (gs : GoState) (s : State) (h : Sim gs s) :
    Sim (ws.foldl (fun s v => match s.idx v with
        | none => goStrongConnect g g.n v s
        | some _ => s) gs)
      (ws.foldl (fun s v => match s.idx v with
        | none => (strongConnect g g.n v s).2
        | some _ => s) s) := by
  refine List.foldl_rel h fun v _ gs s h => ?_
  rw [h.idx v]
  cases hiv : s.idx v with
  | none => exact (sim_sc g g.n v gs s h hiv).sim
  | some i => exact h

/-- **The literal mirror and the verified one agree** on every shared field; `inStack` is stack membership. -/
theorem goRun_sim (g : G) : Sim (goRun g) (run g) :=
  sim_outer g _ _ _ ⟨rfl, rfl, rfl, rfl, rfl, fun _ => rfl, List.nodup_nil, fun _ h => nomatch h⟩

theorem goSccs_eq (g : G) : goSccs g = sccs g := (goRun_sim g).comps

theorem goRun_ok (g : G) : (goRun g).ok = true := (goRun_sim g).ok.trans (run_ok g)

/-- all theorems transfer; e.g. the specification -/
theorem goTarjan_spec (g : G) (hwf : ∀ e ∈ g.edges, e.2 < g.n) (u v : Nat) (hu : u < g.n) (hne : u ≠ v) :
    (∃ c ∈ goSccs g, u ∈ c ∧ v ∈ c) ↔ (Reach g u v ∧ Reach g v u) := by
  rw [goSccs_eq]; exact tarjan_spec g hwf u v hu hne

example : goSccs { n := 7, edges := [(0,1),(1,2),(2,0),(3,4),(4,3),(5,5),(2,3),(6,0)] } = [[3,4],[0,1,2]] := by decide +kernel

end PV.Tarjan

#print axioms PV.Tarjan.run_ok
#print axioms PV.Tarjan.strongConnect_ok
#print axioms PV.Tarjan.tarjan_sound
#print axioms PV.Tarjan.tarjan_maximal
#print axioms PV.Tarjan.tarjan_complete
#print axioms PV.Tarjan.tarjan_disjoint
#print axioms PV.Tarjan.tarjan_disjoint'
#print axioms PV.Tarjan.tarjan_spec
#print axioms PV.Tarjan.tarjan_perm_cycles
#print axioms PV.Tarjan.goSccs_eq
#print axioms PV.Tarjan.goRun_ok
#print axioms PV.Tarjan.goTarjan_spec
