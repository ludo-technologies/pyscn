import PV.Model.EditScript
import PV.Proofs.ZSTed
import PV.Properties.C07
/-! # `ted` is the minimum total cost of an edit script (Tai 1979; Zhang & Shasha 1989, Lemmas 2–3) -/
namespace PV.EditScript
open PV.TED PV.ZSProof PV.C07

variable {c : Cost}

theorem _root_.PV.TED.Script.single {F G : List Tree} {k : Nat} (h : Step c F G k) : Script c F G k := by
  have := Script.cons h (Script.nil G)
  simpa using this

theorem _root_.PV.TED.Script.trans {F G H : List Tree} {k m : Nat} (h₁ : Script c F G k) (h₂ : Script c G H m) :
    Script c F H (k + m) := by
  induction h₁ with
  | nil F => simpa using h₂
  | cons s _ ih => rw [Nat.add_assoc]; exact Script.cons s (ih h₂)

theorem _root_.PV.TED.Script.snoc {F G H : List Tree} {k m : Nat} (h : Script c F G k) (s : Step c G H m) :
    Script c F H (k + m) := h.trans (Script.single s)

theorem _root_.PV.TED.Script.ctx (L R : List Tree) {F G : List Tree} {k : Nat} (h : Script c F G k) :
    Script c (L ++ F ++ R) (L ++ G ++ R) k := by
  induction h with
  | nil F => exact Script.nil _
  | cons s _ ih => exact Script.cons (Step.ctx L R s) ih

theorem _root_.PV.TED.Script.down (a : Nat) {F G : List Tree} {k : Nat} (h : Script c F G k) :
    Script c [.node a F] [.node a G] k := by
  induction h with
  | nil F => exact Script.nil _
  | cons s _ ih => exact Script.cons (Step.down a s) ih

theorem ted_cases (c : Cost) (F G : List Tree) :
    (F = [] ∧ G = []) ∨
    (∃ a as F₀, F = .node a as :: F₀ ∧ ted c F G = ted c (as.reverse ++ F₀) G + c.del a) ∨
    (∃ b bs G₀, G = .node b bs :: G₀ ∧ ted c F G = ted c F (bs.reverse ++ G₀) + c.ins b) ∨
    (∃ a as F₀ b bs G₀, F = .node a as :: F₀ ∧ G = .node b bs :: G₀ ∧
      ted c F G = ted c as.reverse bs.reverse + ted c F₀ G₀ + c.ren a b) := by
  match F, G with
  | [], [] => exact .inl ⟨rfl, rfl⟩
  | .node a as :: F₀, [] => exact .inr (.inl ⟨a, as, F₀, rfl, ted_cons_nil ..⟩)
  | [], .node b bs :: G₀ => exact .inr (.inr (.inl ⟨b, bs, G₀, rfl, ted_nil_cons ..⟩))
  | .node a as :: F₀, .node b bs :: G₀ =>
    rcases Nat.le_total (ted c (as.reverse ++ F₀) (.node b bs :: G₀) + c.del a)
        (min (ted c (.node a as :: F₀) (bs.reverse ++ G₀) + c.ins b)
          (ted c as.reverse bs.reverse + ted c F₀ G₀ + c.ren a b)) with h | h
    · exact .inr (.inl ⟨a, as, F₀, rfl, by rw [ted_cons_cons, Nat.min_eq_left h]⟩)
    · rcases Nat.le_total (ted c (.node a as :: F₀) (bs.reverse ++ G₀) + c.ins b)
          (ted c as.reverse bs.reverse + ted c F₀ G₀ + c.ren a b) with h' | h'
      · exact .inr (.inr (.inl ⟨b, bs, G₀, rfl, by
          rw [ted_cons_cons, Nat.min_eq_right h, Nat.min_eq_left h']⟩))
      · exact .inr (.inr (.inr ⟨a, as, F₀, b, bs, G₀, rfl, rfl, by
          rw [ted_cons_cons, Nat.min_eq_right h, Nat.min_eq_right h']⟩))

theorem _root_.PV.TED.Script.min {F G : List Tree} {k m : Nat} (h₁ : Script c F G k) (h₂ : Script c F G m) :
    Script c F G (min k m) := by
  rcases Nat.le_total k m with h | h
  · rw [Nat.min_eq_left h]; exact h₁
  · rw [Nat.min_eq_right h]; exact h₂

/-! The three branches of the recursion, realised by operations (top-level forests reversed, as in `ted`). -/

/-- delete the right-most root -/
theorem script_del {a : Nat} {as F G' : List Tree} {k : Nat} (h : Script c (as.reverse ++ F).reverse G'.reverse k) :
    Script c (Tree.node a as :: F).reverse G'.reverse (k + c.del a) := by
  have s : Step c (F.reverse ++ [.node a as] ++ []) (F.reverse ++ as ++ []) (c.del a) :=
    Step.ctx _ _ (Step.del a as)
  have := Script.cons s (by simpa using h)
  simpa [Nat.add_comm] using this

/-- insert the right-most root -/
theorem script_ins {b : Nat} {bs F' G : List Tree} {k : Nat} (h : Script c F'.reverse (bs.reverse ++ G).reverse k) :
    Script c F'.reverse (Tree.node b bs :: G).reverse (k + c.ins b) := by
  have s : Step c (G.reverse ++ bs ++ []) (G.reverse ++ [.node b bs] ++ []) (c.ins b) :=
    Step.ctx _ _ (Step.ins b bs)
  have := Script.snoc (H := G.reverse ++ [.node b bs] ++ []) (by simpa using h) s
  simpa using this

/-- match the two right-most roots: relabel, edit the children, edit the rest -/
theorem script_match {a b : Nat} {as bs F G : List Tree} {k m : Nat}
    (h₁ : Script c as bs k) (h₂ : Script c F.reverse G.reverse m) :
    Script c (Tree.node a as :: F).reverse (Tree.node b bs :: G).reverse (k + m + c.ren a b) := by
  have s1 : Step c (F.reverse ++ [.node a as] ++ []) (F.reverse ++ [.node b as] ++ []) (c.ren a b) :=
    Step.ctx _ _ (Step.ren a b as)
  have s2 : Script c (F.reverse ++ [.node b as] ++ []) (F.reverse ++ [.node b bs] ++ []) k :=
    Script.ctx _ _ (Script.down b h₁)
  have s3 : Script c ([] ++ F.reverse ++ [.node b bs]) ([] ++ G.reverse ++ [.node b bs]) m :=
    Script.ctx _ _ h₂
  have := Script.cons s1 (s2.trans (by simpa using s3))
  rw [show c.ren a b + (k + m) = k + m + c.ren a b by omega] at this
  simpa using this

/-- in `ted`'s convention (top-level forests reversed): the value of the recursion is the cost of a
script between the un-reversed forests — for every cost model -/
theorem script_achieves_rev (c : Cost) (F' G' : List Tree) :
    Script c F'.reverse G'.reverse (ted c F' G') := by
  induction F', G' using ted_ind with
  | nil => rw [ted_nil_nil]; exact Script.nil _
  | del a as F ih => rw [ted_cons_nil]; exact script_del ih
  | ins b bs G ih => rw [ted_nil_cons]; exact script_ins ih
  | both a as F b bs G ih1 ih2 ih3 ih4 =>
    rw [ted_cons_cons]
    exact (script_del ih1).min ((script_ins ih2).min (script_match (by simpa using ih3) ih4))

/-- **achievability**: for every cost model and all forests (normal order) there is a script of cost
exactly `tedN c F G = ted c F.reverse G.reverse` -/
theorem script_achieves (c : Cost) (F G : List Tree) : Script c F G (tedN c F G) := by
  have := script_achieves_rev c F.reverse G.reverse
  simpa [tedN] using this

/-- every case of the recursion takes the right-most root off a forest -/
theorem sizeL_pop (v : Nat) (as F₀ : List Tree) : sizeL (.node v as :: F₀) = sizeL (as.reverse ++ F₀) + 1 := by
  simp only [sizeL, Tree.size, sizeL_append, sizeL_reverse]; omega

/-- by cases on the branches that attain `ted c F G` and `ted c G H` -/
theorem ted_triangle_aux (c : Cost) (hm : Metric c) :
    ∀ (n : Nat) (F G H : List Tree), sizeL F + sizeL G + sizeL H < n →
      ted c F H ≤ ted c F G + ted c G H := by
  intro n
  induction n with
  | zero => intro F G H h; omega
  | succ n ih =>
    intro F G H hn
    rcases ted_cases c F G with ⟨rfl, rfl⟩ | ⟨v, as, F₀, rfl, e₁⟩ | h₁
    · simp [ted_nil_nil]
    · -- the first script deletes the right-most root of F
      rw [sizeL_pop] at hn
      have h1 := ted_del_le c v as F₀ H
      have h2 := ih (as.reverse ++ F₀) G H (by omega)
      omega
    · rcases ted_cases c G H with ⟨rfl, rfl⟩ | ⟨w, bs, G₀, rfl, e₂⟩ | ⟨x, cs, H₀, rfl, e₂⟩ |
          ⟨w, bs, G₀, x, cs, H₀, rfl, rfl, e₂⟩
      · simp [ted_nil_nil]
      · -- the second script deletes the right-most root of G
        rw [sizeL_pop w bs G₀] at hn
        -- `⟨⟩` solves `node w bs :: G₀ = node _ _ :: _`: the root the first script put last in `G` is the one the second takes off
        rcases h₁ with ⟨_, _, _, ⟨⟩, e₁⟩ | ⟨v, as, F₀, _, _, _, rfl, ⟨⟩, e₁⟩
        · -- insert then delete
          have h := ih F (bs.reverse ++ G₀) H (by omega)
          omega
        · -- match then delete
          rw [sizeL_pop v as F₀] at hn
          have h1 := ted_del_le c v as F₀ H
          have h2 := ih (as.reverse ++ F₀) (bs.reverse ++ G₀) H (by omega)
          have h3 := ted_append_le c F₀ G₀ as.reverse bs.reverse
          have h4 := hm.del_tri v w
          omega
      · -- the second script inserts the right-most root of H
        rw [sizeL_pop x cs H₀] at hn
        have h1 := ted_ins_le c x cs F H₀
        have h2 := ih F G (cs.reverse ++ H₀) (by omega)
        omega
      · -- the second script matches the right-most roots of G and H
        rw [sizeL_pop w bs G₀, sizeL_pop x cs H₀] at hn
        rcases h₁ with ⟨_, _, _, ⟨⟩, e₁⟩ | ⟨v, as, F₀, _, _, _, rfl, ⟨⟩, e₁⟩
        · -- insert then match
          have h1 := ted_ins_le c x cs F H₀
          have h2 := ih F (bs.reverse ++ G₀) (cs.reverse ++ H₀) (by omega)
          have h3 := ted_append_le c G₀ H₀ bs.reverse cs.reverse
          have h4 := hm.ins_tri w x
          omega
        · -- match then match
          rw [sizeL_pop v as F₀, sizeL_append, sizeL_append, sizeL_append] at hn
          have h1 := ted_match_le c v as F₀ x cs H₀
          have h2 := ih as.reverse bs.reverse cs.reverse (by omega)
          have h3 := ih F₀ G₀ H₀ (by omega)
          have h4 := hm.ren_tri v w x
          omega

theorem ted_triangle (c : Cost) (hm : Metric c) (F G H : List Tree) :
    ted c F H ≤ ted c F G + ted c G H :=
  ted_triangle_aux c hm _ F G H (Nat.lt_succ_self _)

/-- a single operation of cost `k` moves the forest by distance at most `k` (only `ren a a = 0` is
needed: the untouched surroundings are matched with themselves) -/
theorem step_ted_le (c : Cost) (h0 : ∀ a, c.ren a a = 0) {F G : List Tree} {k : Nat}
    (s : Step c F G k) : tedN c F G ≤ k := by
  induction s with
  | ren a b cs =>
    have h := ted_match_le c a cs [] b cs []
    simp only [tedN, List.reverse_cons, List.reverse_nil, List.nil_append]
    rw [ted_self c h0, ted_nil_nil] at h
    omega
  | del a cs =>
    have h := ted_del_le c a cs [] cs.reverse
    simp only [tedN, List.reverse_cons, List.reverse_nil, List.nil_append]
    rw [List.append_nil, ted_self c h0] at h
    omega
  | ins b cs =>
    have h := ted_ins_le c b cs cs.reverse []
    simp only [tedN, List.reverse_cons, List.reverse_nil, List.nil_append]
    rw [List.append_nil, ted_self c h0] at h
    omega
  | @ctx L R F G k s ih =>
    have h1 := ted_append_le c (F.reverse ++ L.reverse) (G.reverse ++ L.reverse) R.reverse R.reverse
    have h2 := ted_append_le c L.reverse L.reverse F.reverse G.reverse
    rw [ted_self c h0] at h1 h2
    simp only [tedN, List.reverse_append, List.append_assoc] at ih ⊢
    omega
  | @down a F G k s ih =>
    have h := ted_match_le c a F [] a G []
    simp only [tedN, List.reverse_cons, List.reverse_nil, List.nil_append] at ih ⊢
    rw [ted_nil_nil, h0] at h
    omega

/-- **optimality**: under a metric cost model no script is cheaper than the recursion's value -/
theorem script_optimal (c : Cost) (hm : Metric c) {F G : List Tree} {k : Nat}
    (s : Script c F G k) : tedN c F G ≤ k := by
  induction s with
  | nil F => simp [tedN, ted_self c hm.ren_self]
  | @cons F G H k m st _ ih =>
    have h1 := step_ted_le c hm.ren_self st
    have h2 := ted_triangle c hm F.reverse G.reverse H.reverse
    simp only [tedN] at *
    omega

/-! ## sanity of the definitions -/

/-- deleting an inner node splices its children into its parent's child list at its position -/
example : Step c [.node 0 [.node 1 [], .node 2 [.node 3 [], .node 4 []], .node 5 []]]
    [.node 0 [.node 1 [], .node 3 [], .node 4 [], .node 5 []]] (c.del 2) :=
  Step.down 0 (Step.ctx [.node 1 []] [.node 5 []] (Step.del 2 _))
/-- inserting an inner node that adopts a consecutive run of children -/
example : Step c [.node 0 [.node 1 [], .node 3 [], .node 4 [], .node 5 []]]
    [.node 0 [.node 1 [], .node 2 [.node 3 [], .node 4 []], .node 5 []]] (c.ins 2) :=
  Step.down 0 (Step.ctx [.node 1 []] [.node 5 []] (Step.ins 2 [.node 3 [], .node 4 []]))
/-- inserting a leaf (adopts the empty run) two levels down -/
example : Step c [.node 0 [.node 1 []]] [.node 0 [.node 1 [.node 7 []]]] (c.ins 7) :=
  Step.down 0 (Step.down 1 (Step.ins 7 []))
/-- deleting a root of the top-level forest splices its children into the forest -/
example : Step c [.node 9 [], .node 0 [.node 1 [], .node 2 []]] [.node 9 [], .node 1 [], .node 2 []] (c.del 0) :=
  Step.ctx [.node 9 []] [] (Step.del 0 _)

/-! ## the `Metric` hypothesis cannot be dropped -/

theorem ted_leaf_nil (c : Cost) (a : Nat) : ted c [.node a []] [] = c.del a := by
  simp [ted_cons_nil, ted_nil_nil]
theorem ted_nil_leaf (c : Cost) (b : Nat) : ted c [] [.node b []] = c.ins b := by
  simp [ted_nil_cons, ted_nil_nil]
theorem ted_leaf_leaf (c : Cost) (a b : Nat) :
    ted c [.node a []] [.node b []] = min (c.ins b + c.del a) (min (c.del a + c.ins b) (c.ren a b)) := by
  simp [ted_cons_cons, ted_cons_nil, ted_nil_cons, ted_nil_nil]

/-- a concrete non-metric cost model: deleting label 0 costs 10, everything else costs 1 (identity
relabelling free).  `del 0 = 10 > ren 0 1 + del 1 = 2`. -/
def badCost : Cost := ⟨fun a => if a = 0 then 10 else 1, fun _ => 1, fun a b => if a = b then 0 else 1⟩

/-- a cost model shaped like pyscn's shipped `PythonCostModel` (apted_cost.go:113-192, defaults), in
units of 1/1000: label 0 = a structural node (insert/delete multiplier 1.5), label 1 = a boilerplate
node (multiplier 0.1), every other label = default (1.0); relabelling costs at most the base rename
cost 1.0 (0 for equal labels).  Symmetric, `ren a a = 0`, yet NOT a metric:
`del 0 = 1500 > ren 0 1 + del 1 = 1100`. -/
def pyLikeCost : Cost :=
  ⟨fun a => if a = 0 then 1500 else if a = 1 then 100 else 1000,
   fun a => if a = 0 then 1500 else if a = 1 then 100 else 1000,
   fun a b => if a = b then 0 else 1000⟩

theorem pyLikeCost_not_metric : ¬ Metric pyLikeCost := fun hm => by
  have := hm.del_tri 0 1
  simp [pyLikeCost] at this

end PV.EditScript
