import PV.Proofs.GroupingAlgoContracts
import PV.Proofs.UFCorrect
/-!
The star/medoid mirror bounds the recursion depth of the path-compressing `find` by a fuel.  With all fragments below
`n`, fuel `n` is never exhausted: every larger fuel computes exactly the same groups (the union–find invariant of
`PV/Proofs/UFCorrect.lean` holds throughout the improvement loop).
-/
namespace PV.GroupingAlgo
open PV.Grouping PV.UF

theorem union_fuel {n : Nat} {s : State} (h : PV.UF.Inv n s) (a b fuel : Nat) (hf : n ≤ fuel) :
    union fuel s a b = union n s a b := by
  unfold union
  simp only [find_fuel_irrelevant h a fuel hf, find_fuel_irrelevant (find_inv h a).2.1 b fuel hf]

theorem unionB_fuel {n : Nat} {s : State} (h : PV.UF.Inv n s) (a b fuel : Nat) (hf : n ≤ fuel) :
    unionB fuel s a b = unionB n s a b := by
  unfold unionB
  simp only [union_fuel h a b fuel hf, find_fuel_irrelevant h a fuel hf, find_fuel_irrelevant (find_inv h a).2.1 b fuel hf]

theorem bestMedoid_mem {ps : List Pair} {medoids : List (Option Nat)} {f b bs : Nat}
    (h : bestMedoid ps medoids f = some (b, bs)) : some b ∈ medoids := by
  unfold bestMedoid at h
  refine List.foldlRecOn (motive := fun acc => ∀ r, acc = some r → some r.1 ∈ medoids) medoids _ (b := none)
    (fun _ h => nomatch h) ?_ _ h
  intro acc hacc m hm r hr
  cases m with
  | none => exact hacc r hr
  | some m =>
    dsimp only at hr
    split at hr
    · exact hacc r hr
    · cases acc with
      | none => cases hr; exact hm
      | some b0 =>
        obtain ⟨b1, b2⟩ := b0
        dsimp only at hr
        split at hr
        · cases hr; exact hm
        · exact hacc r hr

theorem assignStep_fuel {n : Nat} (ps : List Pair) (iter : Nat) (medoids : List (Option Nat))
    (hmed : ∀ m, some m ∈ medoids → m < n) {acc : State × Bool} (h : PV.UF.Inv n acc.1) {f : Nat} (hfn : f < n)
    (fuel : Nat) (hf : n ≤ fuel) :
    assignStep ps fuel iter medoids acc f = assignStep ps n iter medoids acc f ∧
      PV.UF.Inv n (assignStep ps n iter medoids acc f).1 := by
  unfold assignStep
  split
  · exact ⟨rfl, h⟩
  · split
    · next b bs hb =>
      split
      · rw [unionB_fuel h f b fuel hf]
        exact ⟨rfl, union_inv h hfn (hmed b (bestMedoid_mem hb))⟩
      · exact ⟨rfl, h⟩
    · exact ⟨rfl, h⟩

theorem assignFold_fuel {n : Nat} (ps : List Pair) (iter : Nat) (medoids : List (Option Nat))
    (hmed : ∀ m, some m ∈ medoids → m < n) (fuel : Nat) (hf : n ≤ fuel) : ∀ (l : List Nat) (acc : State × Bool),
    (∀ f ∈ l, f < n) → PV.UF.Inv n acc.1 →
    l.foldl (assignStep ps fuel iter medoids) acc = l.foldl (assignStep ps n iter medoids) acc ∧
      PV.UF.Inv n (l.foldl (assignStep ps n iter medoids) acc).1
  | [], _, _, h => ⟨rfl, h⟩
  | f :: l, acc, hl, h => by
    obtain ⟨e, i⟩ := assignStep_fuel ps iter medoids hmed h (hl f (List.mem_cons_self ..)) fuel hf
    rw [List.foldl_cons, List.foldl_cons, e]
    exact assignFold_fuel ps iter medoids hmed fuel hf l _ (fun x hx => hl x (List.mem_cons_of_mem _ hx)) i

theorem labelPassS_fuel {n : Nat} (fuel : Nat) (hf : n ≤ fuel) : ∀ (vs : List Nat) (s : State), PV.UF.Inv n s →
    labelPassS fuel s vs = labelPassS n s vs ∧ PV.UF.Inv n (labelPassS n s vs).1
  | [], _, h => ⟨rfl, h⟩
  | v :: vs, s, h => by
    unfold labelPassS
    simp only [find_fuel_irrelevant h v fuel hf]
    obtain ⟨e, i⟩ := labelPassS_fuel fuel hf vs _ (find_inv h v).2.1
    rw [e]
    exact ⟨rfl, i⟩

theorem buildClusters_fuel {n : Nat} (fuel : Nat) (hf : n ≤ fuel) (fr : List Nat) (s : State) (h : PV.UF.Inv n s) :
    buildClusters fuel s fr = buildClusters n s fr ∧ PV.UF.Inv n (buildClusters n s fr).1 := by
  unfold buildClusters
  obtain ⟨e, i⟩ := labelPassS_fuel fuel hf fr s h
  rw [e]
  exact ⟨rfl, i⟩

theorem starLoop_fuel {n : Nat} (ps : List Pair) (medoid : List Nat → Option Nat)
    (hmed : MedoidMember medoid) (fr : List Nat) (hfr : ∀ x ∈ fr, x < n) (fuel : Nat) (hf : n ≤ fuel) :
    ∀ (left iter : Nat) (s : State) (clusters : List (List Nat)) (streak : Nat), PV.UF.Inv n s →
      (∀ c ∈ clusters, ∀ x ∈ c, x ∈ fr) →
      starLoop ps fuel medoid fr left iter s clusters streak = starLoop ps n medoid fr left iter s clusters streak
  | 0, _, _, _, _, _, _ => rfl
  | left + 1, iter, s, clusters, streak, h, hc => by
    have hm : ∀ m, some m ∈ clusters.map medoid → m < n := by
      intro m hm
      obtain ⟨c, hcc, hcm⟩ := List.mem_map.mp hm
      exact hfr m (hc c hcc m (hmed c m hcm))
    obtain ⟨e1, i1⟩ := assignFold_fuel ps iter (clusters.map medoid) hm fuel hf fr (s, false) hfr h
    obtain ⟨e2, i2⟩ := buildClusters_fuel fuel hf fr _ i1
    unfold starLoop
    simp only [e1, e2]
    have hc' : ∀ c ∈ (buildClusters n (fr.foldl (assignStep ps n iter (clusters.map medoid)) (s, false)).1 fr).2,
        ∀ x ∈ c, x ∈ fr := by
      intro c hcc x hx
      exact (buildClusters_perm n _ fr).mem_iff.mp (List.mem_flatten.mpr ⟨c, hcc, hx⟩)
    rw [starLoop_fuel ps medoid hmed fr hfr fuel hf left _ _ _ _ i2 hc']

theorem starGroupsWith_fuel {n : Nat} (θ : Nat) (ps : List Pair) (medoid : List Nat → Option Nat)
    (hmed : MedoidMember medoid) (hr : ∀ p ∈ ps, p.u < n ∧ p.v < n) (fuel : Nat) (hf : n ≤ fuel) :
    starGroupsWith fuel θ ps medoid = starGroupsWith n θ ps medoid := by
  have hfr : ∀ x ∈ nodesOf ps, x < n := by
    intro x hx
    obtain ⟨p, hp, h | h⟩ := occurs_iff.mp (mem_nodesOf.mp hx)
    · rw [← h]; exact (hr p hp).1
    · rw [← h]; exact (hr p hp).2
  unfold starGroupsWith
  simp only
  split
  · rfl
  · obtain ⟨e, i⟩ := buildClusters_fuel fuel hf (nodesOf ps) init (inv_init n)
    rw [e]
    rw [starLoop_fuel ps medoid hmed (nodesOf ps) hfr fuel hf 10 0 _ _ 0 i]
    intro c hcc x hx
    exact (buildClusters_perm n _ (nodesOf ps)).mem_iff.mp (List.mem_flatten.mpr ⟨c, hcc, hx⟩)

theorem findMedoid_mem (ps : List Pair) : MedoidMember (findMedoid ps) := by
  intro ms m h
  match ms, h with
  | [x], h => simp only [findMedoid, Option.some.injEq] at h; simp [h]
  | a :: b :: rest, h =>
    obtain ⟨m', hm', hfm⟩ := findMedoid_ok ps (a :: b :: rest) (by simp)
    rw [hfm] at h
    cases h
    exact hm'

end PV.GroupingAlgo
