import PV.Proofs.CFGRangesDefs
/-!
Reported ranges — the records that the builder stores between its nested calls, related to the older ones (`Rel E`): one record
in the current block (simple statements, nested `def`s, terminators), the comprehension blocks of a simple statement / `return`
(several records of ONE line in blocks that are reachable together), and the test record of an `if` / `elif` clause.
-/
/-!
The record part of `RPost` from the record trace: the bounds `ext` of the new records (they carry the spans of tagged lines, which
lie inside the lines of well-formed code, `tl_bounds`) and `gc` (`Tr.gc`).  What is left to an induction over the final edge list is
`pw` (pairwise `Rel E`) alone: with it, `SI` holds again after a nested call (`Run.si`), and `RPost` at the end (`rpost_of_pw`).
-/
namespace PV.CFGSound
open PV.CFG

section
variable {E : List Edge} {s1 s2 : St} {ss : List Stmt} {x : Stmt} {a p : Nat}

theorem Run.bd (h : Run s1 (.list ss) s2) (w1 : WF s1) (hw : wfL p ss = true) :
    ∃ ns, s2.stmts = ns ++ s1.stmts ∧ ∀ r ∈ ns, Bd p (posL p ss) r := by
  -- `z = k = false`: the trace without its optional parts, so neither `noSEL` nor `okLC` is asked for (and `il` does not matter)
  obtain ⟨ns, e1, h1, _⟩ := (tr_run false false h w1 false (fun h => nomatch h) (fun h => nomatch h)).ext
  refine ⟨ns, e1, fun r hr => (h1 r hr).imp id ?_⟩
  rintro ⟨y, hy, _, e2, e3⟩
  rw [e2, e3]; exact tl_bounds ss p hw y hy

theorem Run.bdS (h : Run s1 (.stmt x) s2) (w1 : WF s1) (hw : wfS x = true) (hp : p ≤ x.span.1) :
    ∃ ns, s2.stmts = ns ++ s1.stmts ∧ ∀ r ∈ ns, Bd p (x.span.2 + 1) r := by
  obtain ⟨ns, e1, h1, _⟩ := (tr_run false false h w1 false (fun h => nomatch h) (fun h => nomatch h)).ext
  refine ⟨ns, e1, fun r hr => (h1 r hr).imp id ?_⟩
  rintro ⟨y, hy, _, e2, e3⟩
  have := (tb_all.1 x hw).1 y hy
  rw [e2, e3]; exact ⟨Nat.le_trans hp this.1, this.2.1, this.2.2⟩

theorem Run.si (h : Run s1 (.list ss) s2) (w1 : WF s1) (hw : wfL p ss = true) (hs : SI E s1.stmts a p)
    (hpw : s2.stmts.Pairwise (Rel E)) : SI E s2.stmts a (posL p ss) :=
  hs.after (h.bd w1 hw) hpw (posL_ge ss p hw) (Nat.le_refl _)

theorem Run.siS (h : Run s1 (.stmt x) s2) (w1 : WF s1) (hw : wfS x = true) (hp : p ≤ x.span.1) (hs : SI E s1.stmts a p)
    (hpw : s2.stmts.Pairwise (Rel E)) : SI E s2.stmts a (x.span.2 + 1) :=
  hs.after (h.bdS w1 hw hp) hpw (Nat.le_succ_of_le (Nat.le_trans hp (wfS_le hw))) (Nat.le_refl _)
end

theorem rpost_of_pw {E : List Edge} (ss : List Stmt) (st : St) (p : Nat) (w : WF st) (hw : wfL p ss = true) (hp : 1 ≤ p)
    (hgc : GC st.stmts st.cur) (hpw : (procList st ss).stmts.Pairwise (Rel E)) :
    RPost E st.stmts (procList st ss).stmts (procList st ss).cur p (posL p ss) :=
  ⟨((run_all.2 ss).list st).bd w hw, hpw, (procList_tr ss false false false st w (fun h => nomatch h) (fun h => nomatch h)).gc
    (fun y hy _ => by have := tl_bounds ss p hw y hy; omega) hgc⟩

theorem rpost_of_pw_stmt {E : List Edge} (x : Stmt) (st : St) (p : Nat) (w : WF st) (hw : wfS x = true) (hx : p ≤ x.span.1) (hp : 1 ≤ p)
    (hgc : GC st.stmts st.cur) (hpw : (procStmt st x).stmts.Pairwise (Rel E)) :
    RPost E st.stmts (procStmt st x).stmts (procStmt st x).cur p (x.span.2 + 1) :=
  ⟨((run_all.1 x).stmt st).bdS w hw hx, hpw, (procStmt_tr x false false false st w (fun h => nomatch h) (fun h => nomatch h)).gc
    (fun y hy _ => by have := (tb_all.1 x hw).1 y hy; omega) hgc⟩

end PV.CFGSound

namespace PV.CFGSound
open PV.CFG

section leaf
variable {E : List Edge}

/-- one record in the block `c` that anchors the older ones -/
theorem pw_one {L : List SRec} {c p s : Nat} (e : Nat) (ty : Ty) (hsi : SI E L c p) (hp : p ≤ s) :
    ({ blk := c, s := s, e := e, ty := ty } :: L).Pairwise (Rel E) :=
  (hsi.cons (b := c) (e := e) (ty := ty) hp id id).pw

/-- every block that `procComp.go` allocates is reachable along the final edge list if `a` is (`cp`: the block the next clause hangs on) -/
theorem go_fwd {S : List SRec} (a s e : Nat) : ∀ (cs : List Bool) (st : St) (cp : Nat),
    Cov E S (procComp.go s e cs st cp).1 → (R E a → R E cp) →
    (R E a → R E (procComp.go s e cs st cp).2) ∧ ∀ b, st.next ≤ b → b < (procComp.go s e cs st cp).1.next → R E a → R E b
  | [], st, cp, _, hr => by
    rw [go_nil]
    exact ⟨hr, fun b h1 h2 => absurd h2 (Nat.not_lt.mpr h1)⟩
  | hasTest :: rest, st, cp, hcov, hr => by
    rw [go_cons] at hcov ⊢
    have h2 := go_cov s e rest _ _ hcov
    cases hasTest
    · simp only [Bool.false_eq_true, ↓reduceIte] at h2 hcov ⊢
      simp only [cov_edge, cov_add, cov_bump] at h2
      -- a clause allocates the blocks `hdr`, `body`, `app` (with a test: `hdr`, `body`, `flt`, `app`), chained from `cp` by `e1`, `e2`, …
      obtain ⟨-, e3, -, e2, -, e1, -⟩ := h2
      have r1 : R E a → R E st.next := fun h => R.step (hr h) e1
      have r2 : R E a → R E (st.next + 1) := fun h => R.step (r1 h) e2
      have r3 : R E a → R E (st.next + 2) := fun h => R.step (r2 h) e3
      obtain ⟨g1, g2⟩ := go_fwd a s e rest _ st.next hcov r1
      refine ⟨g1, fun b hb1 hb2 ha => ?_⟩
      by_cases hb : st.next + 3 ≤ b
      · exact g2 b hb hb2 ha
      · have : b = st.next ∨ b = st.next + 1 ∨ b = st.next + 2 := by omega
        rcases this with rfl | rfl | rfl
        · exact r1 ha
        · exact r2 ha
        · exact r3 ha
    · simp only [↓reduceIte] at h2 hcov ⊢
      simp only [cov_edge, cov_add, cov_bump] at h2
      obtain ⟨-, -, -, e4, -, e3, e2, -, e1, -⟩ := h2
      have r1 : R E a → R E st.next := fun h => R.step (hr h) e1
      have r2 : R E a → R E (st.next + 1) := fun h => R.step (r1 h) e2
      have r3 : R E a → R E (st.next + 2) := fun h => R.step (r2 h) e3
      have r4 : R E a → R E (st.next + 3) := fun h => R.step (r3 h) e4
      obtain ⟨g1, g2⟩ := go_fwd a s e rest _ st.next hcov r1
      refine ⟨g1, fun b hb1 hb2 ha => ?_⟩
      by_cases hb : st.next + 4 ≤ b
      · exact g2 b hb hb2 ha
      · have : b = st.next ∨ b = st.next + 1 ∨ b = st.next + 2 ∨ b = st.next + 3 := by omega
        rcases this with rfl | rfl | rfl | rfl
        · exact r1 ha
        · exact r2 ha
        · exact r3 ha
        · exact r4 ha

theorem comp_fwd (st : St) (s e : Nat) (c : List Bool) (hE : ∀ x ∈ (procComp st s e c).edges, x ∈ E) :
    ∀ b, st.next ≤ b → b < (procComp st s e c).next → R E st.cur → R E b := by
  obtain ⟨-, f2, -, f4, f5⟩ := comp_facts st s e c
  have hcov : Cov E (procComp.go s e c (bump (((bump st).edge st.cur st.next .normal).add st.next s e .other)) st.next).1.stmts
      (procComp.go s e c (bump (((bump st).edge st.cur st.next .normal).add st.next s e .other)) st.next).1 :=
    ⟨fun x hx => hE x (f4 x hx), fun _ h => h⟩
  have h0 := go_cov s e c _ _ hcov
  simp only [cov_bump, cov_add, cov_edge] at h0
  have r0 : R E st.cur → R E st.next := fun h => R.step h h0.2.1
  obtain ⟨g1, g2⟩ := go_fwd st.cur s e c _ st.next hcov r0
  intro b hb1 hb2 ha
  rw [f2] at hb2
  by_cases hb : st.next + 2 ≤ b
  · exact g2 b hb hb2 ha
  · have : b = st.next ∨ b = st.next + 1 := by omega
    rcases this with rfl | rfl
    · exact r0 ha
    · rcases f5 with h5 | ⟨h5, h6⟩
      · exact R.step (g1 ha) (hE _ h5)
      · exact R.step (r0 ha) (hE _ h6)

/-- a comprehension followed by the statement's own record in the exit block: the records of the line `s..e` in the blocks of the
comprehension (`comp_fresh`), each reachable iff the block current at the start is (`hz`: the zone of the enclosing statement) -/
theorem comp_own_pw {st : St} {p s e : Nat} {ty : Ty} {c : List Bool} (w : WF st) (hp : p ≤ s) (hsi : SI E st.stmts st.cur p)
    (hE : ∀ x ∈ (procComp st s e c).edges, x ∈ E)
    (hz : ∀ b, Own st.cur st.next b → b < (procComp st s e c).next → R E b → R E st.cur) :
    ({ blk := (procComp st s e c).cur, s := s, e := e, ty := ty } :: (procComp st s e c).stmts).Pairwise (Rel E) := by
  obtain ⟨ns, c1, c2, -, c4, c5⟩ := comp_fresh st s e c w
  have hfw := comp_fwd st s e c hE
  have c6 : st.next + 1 < (procComp st s e c).next := by
    have := (comp_frame (c := st.cur) (n := st.next) st s e c w (.inl rfl) (Nat.le_refl _)).1.wf.cur; rwa [c4] at this
  rw [c1, c4]
  refine (hsi.batch (e := e) hp ({ blk := st.next + 1, s := s, e := e, ty := ty } :: ns) ?_).pw
  intro x hx
  rcases List.mem_cons.mp hx with rfl | hx
  · exact ⟨rfl, rfl, hz _ (.inr (Nat.le_succ _)) c6, hfw _ (Nat.le_succ _) c6⟩
  · obtain ⟨q1, q2, q3⟩ := c2.2 x hx
    exact ⟨q1, q2, hz _ (.inr q3) (c5 x hx), hfw _ q3 (c5 x hx)⟩

/-- the test record of an `if` / `elif` clause, in the anchor block: at the span `s … e` of the clause, or `0..0` for a converted `elif` -/
theorem testSI {L : List SRec} {p rs re s e c : Nat} (hsi : SI E L c p) (hrs : (rs = s ∧ re = e) ∨ (rs = 0 ∧ re = 0)) (hp : p ≤ s) :
    SI E ({ blk := c, s := rs, e := re, ty := .other } :: L) c (s + 1) := by
  rcases hrs with ⟨rfl, rfl⟩ | ⟨rfl, rfl⟩
  · exact hsi.cons hp id id
  · exact (hsi.zero c .other).mono (Nat.le_succ_of_le hp)

end leaf
end PV.CFGSound
