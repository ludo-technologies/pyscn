import PV.Proofs.CloneLemmas
/-! Lemmas about the batched pair loop and the LSH stage (for C09). -/
namespace PV.Clone
open PV PV.MA PV.Generated

variable {F : Type} [MonoArith F]

/-! ### which (i, j) the batched loops visit -/

def InBatch (bs k i : Nat) : Prop := k * bs ≤ i ∧ i < k * bs + bs

theorem batch_lt {bs k k' : Nat} (h : k < k') : k * bs + bs ≤ k' * bs := by
  rw [← Nat.succ_mul]
  exact Nat.mul_le_mul_right bs (Nat.succ_le_of_lt h)

theorem inBatch_unique {bs k k' i : Nat} (h : InBatch bs k i) (h' : InBatch bs k' i) : k = k' := by
  rcases Nat.lt_trichotomy k k' with hlt | heq | hgt
  · exact absurd (Nat.lt_of_lt_of_le h.2 (batch_lt hlt)) (Nat.not_lt.mpr h'.1)
  · exact heq
  · exact absurd (Nat.lt_of_lt_of_le h'.2 (batch_lt hgt)) (Nat.not_lt.mpr h.1)

theorem inBatch_div {bs i : Nat} (hbs : 0 < bs) : InBatch bs (i / bs) i :=
  ⟨Nat.div_mul_le_self i bs, Nat.lt_div_mul_add hbs⟩

theorem inBatch_iff {bs k i : Nat} (hbs : 0 < bs) : InBatch bs k i ↔ k = i / bs :=
  ⟨fun h => inBatch_unique h (inBatch_div hbs), fun h => h ▸ inBatch_div hbs⟩

/-- what the batch `[b, e)` contributes: `i` in the batch, `j` behind `i` in the batch or before the batch -/
def batchOf (b e : Nat) : List (Nat × Nat) :=
  (List.range' b (e - b)).flatMap fun i =>
    ((List.range' (i + 1) (e - (i + 1))).map fun j => (i, j)) ++ ((List.range b).map fun j => (i, j))

theorem batchPairs_eq (n bs : Nat) :
    batchPairs n bs = (List.range ((n + bs - 1) / bs)).flatMap fun k => batchOf (k * bs) (min (k * bs + bs) n) :=
  rfl

theorem mem_batchOf {b e i j : Nat} : (i, j) ∈ batchOf b e ↔ (b ≤ i ∧ i < e) ∧ ((i < j ∧ j < e) ∨ j < b) := by
  unfold batchOf
  simp only [List.mem_flatMap, List.mem_append, List.mem_map, List.mem_range'_1, List.mem_range, Prod.mk.injEq]
  constructor
  · rintro ⟨a, ⟨ha, hae⟩, ⟨x, ⟨hx, hxe⟩, rfl, rfl⟩ | ⟨x, hx, rfl, rfl⟩⟩
    · exact ⟨⟨ha, by omega⟩, Or.inl ⟨hx, by omega⟩⟩
    · exact ⟨⟨ha, by omega⟩, Or.inr hx⟩
  · rintro ⟨⟨hi, hie⟩, h⟩
    refine ⟨i, ⟨hi, by omega⟩, ?_⟩
    rcases h with ⟨hij, hje⟩ | hjb
    · exact Or.inl ⟨j, ⟨hij, by omega⟩, rfl, rfl⟩
    · exact Or.inr ⟨j, hjb, rfl, rfl⟩

theorem mem_batchPairs {n bs i j : Nat} (hbs : 0 < bs) :
    (i, j) ∈ batchPairs n bs ↔
      i < n ∧ j < n ∧ ∃ k, InBatch bs k i ∧ ((i < j ∧ j < k * bs + bs) ∨ j < k * bs) := by
  rw [batchPairs_eq]
  simp only [List.mem_flatMap, List.mem_range, mem_batchOf, Nat.lt_min, InBatch]
  constructor
  · rintro ⟨k, _, ⟨hki, hik, hin⟩, h⟩
    refine ⟨hin, ?_, k, ⟨hki, hik⟩, h.imp (And.imp_right And.left) id⟩
    rcases h with ⟨_, _, hjn⟩ | hjk
    · exact hjn
    · exact Nat.lt_trans (Nat.lt_of_lt_of_le hjk hki) hin
  · rintro ⟨hin, hjn, k, ⟨hki, hik⟩, h⟩
    have hk : k < (n + bs - 1) / bs := by
      apply Nat.lt_of_succ_le
      rw [Nat.le_div_iff_mul_le hbs, Nat.succ_mul]
      omega
    exact ⟨k, hk, ⟨hki, hik, hin⟩, h.imp (And.imp_right fun hjk => ⟨hjk, hjn⟩) id⟩

/-! ### no pair is visited twice -/

theorem nodup_flatMap_of_key {ι α : Type} {l : List ι} {f : ι → List α} (key : α → ι) (hl : l.Nodup)
    (hf : ∀ i ∈ l, (f i).Nodup) (hk : ∀ i ∈ l, ∀ x ∈ f i, key x = i) : (l.flatMap f).Nodup := by
  rw [List.nodup_flatMap]
  refine ⟨hf, hl.imp_of_mem ?_⟩
  intro i i' hi hi' hne x hx hx'
  exact hne ((hk i hi x hx).symm.trans (hk i' hi' x hx'))

theorem batchOf_nodup (b e : Nat) : (batchOf b e).Nodup := by
  refine nodup_flatMap_of_key Prod.fst (List.nodup_range' (step := 1) (by decide)) ?_ ?_
  · intro i hi
    rw [← List.map_append]
    refine List.Nodup.map (fun _ _ h => (Prod.mk.inj h).2) (List.nodup_append.mpr ⟨?_, List.nodup_range, ?_⟩)
    · exact List.nodup_range' (step := 1) (by decide)
    · intro j hj j' hj'
      exact Nat.ne_of_gt (Nat.lt_of_lt_of_le (List.mem_range.mp hj') (Nat.le_trans (List.mem_range'_1.mp hi).1
        (Nat.le_of_succ_le (List.mem_range'_1.mp hj).1)))
  · intro i _ x hx
    rw [← List.map_append] at hx
    obtain ⟨j, _, rfl⟩ := List.mem_map.mp hx
    rfl

theorem batchPairs_nodup (n bs : Nat) (hbs : 0 < bs) : (batchPairs n bs).Nodup := by
  rw [batchPairs_eq]
  refine nodup_flatMap_of_key (fun x => x.1 / bs) List.nodup_range (fun _ _ => batchOf_nodup _ _) ?_
  intro k _ x hx
  have hk : InBatch bs k x.1 := ⟨(mem_batchOf.mp hx).1.1, (Nat.lt_min.mp (mem_batchOf.mp hx).1.2).1⟩
  exact ((inBatch_iff hbs).mp hk).symm

/-! ### which unordered pairs are visited -/

theorem batchPairs_ne {n bs i j : Nat} (hbs : 0 < bs) (h : (i, j) ∈ batchPairs n bs) : i < n ∧ j < n ∧ i ≠ j := by
  obtain ⟨hi, hj, k, ⟨h1, h2⟩, h⟩ := (mem_batchPairs hbs).mp h
  exact ⟨hi, hj, by omega⟩

/-- `(i, j)` is visited iff `j` lies in an earlier batch than `i`, or in the same batch behind `i` -/
theorem mem_batchPairs_div {n bs i j : Nat} (hbs : 0 < bs) :
    (i, j) ∈ batchPairs n bs ↔ i < n ∧ j < n ∧ (j / bs < i / bs ∨ (j / bs = i / bs ∧ i < j)) := by
  rw [mem_batchPairs hbs]
  have hi := inBatch_div (i := i) hbs
  have hj := inBatch_div (i := j) hbs
  constructor
  · rintro ⟨h1, h2, k, hk, h⟩
    rw [inBatch_iff hbs] at hk
    subst hk
    refine ⟨h1, h2, ?_⟩
    rcases h with ⟨hij, hjk⟩ | hjk
    · exact Or.inr ⟨Nat.div_eq_of_lt_le (Nat.le_trans hi.1 (Nat.le_of_lt hij)) (by rw [Nat.succ_mul]; exact hjk), hij⟩
    · exact Or.inl ((Nat.div_lt_iff_lt_mul hbs).mpr hjk)
  · rintro ⟨h1, h2, h⟩
    refine ⟨h1, h2, i / bs, hi, ?_⟩
    rcases h with h | ⟨h, hij⟩
    · exact Or.inr ((Nat.div_lt_iff_lt_mul hbs).mp h)
    · exact Or.inl ⟨hij, h ▸ hj.2⟩

/-- **cover**: every unordered pair of different fragments is visited, in one orientation or the other -/
theorem batchPairs_cover {n bs u v : Nat} (hbs : 0 < bs) (hu : u < n) (hv : v < n) (huv : u ≠ v) :
    (u, v) ∈ batchPairs n bs ∨ (v, u) ∈ batchPairs n bs := by
  rw [mem_batchPairs_div hbs, mem_batchPairs_div hbs]
  omega

/-- **once**: never in both orientations -/
theorem batchPairs_not_both {n bs u v : Nat} (hbs : 0 < bs) (h : (u, v) ∈ batchPairs n bs) : (v, u) ∉ batchPairs n bs := by
  rw [mem_batchPairs_div hbs] at h ⊢
  omega

/-! ### the batched fold without truncation -/

theorem t4_le_of_mkPair {c : Cfg F} {fr : Nat → Frag} {cmp : Cmp F} {i j : Nat} {p : Pair F}
    (h43 : c.t4 ≤ c.t3) (h32 : c.t3 ≤ c.t2) (h21 : c.t2 ≤ c.t1) (h : mkPair c fr cmp i j = some p) : c.t4 ≤ p.sim := by
  obtain ⟨⟨_, _, hty, hty0, _⟩, _, _⟩ := mkPair_some.mp h
  exact MA.not_lt.mp fun hlt => hty0 (hty.trans ((classify_spec_desc h21 h32 h43 p.sim p.dist).2.2.mpr hlt))

theorem mem_addPairWithLimit {maxPairs : Nat} {top : List (Pair F)} {p q : Pair F}
    (h : q ∈ addPairWithLimit maxPairs top p) : q ∈ top ∨ q = p := by
  unfold addPairWithLimit at h
  split at h
  · exact (List.mem_append.mp (mem_sortDesc.mp h)).imp_right List.mem_singleton.mp
  · split at h
    · split at h
      · exact (List.mem_append.mp (mem_sortDesc.mp h)).imp (fun h => (List.dropLast_sublist _).subset h) List.mem_singleton.mp
      · exact Or.inl h
    · exact Or.inl h

theorem addPairWithLimit_perm {maxPairs : Nat} {top : List (Pair F)} {p : Pair F} (h : top.length < maxPairs) :
    (addPairWithLimit maxPairs top p).Perm (top ++ [p]) := by
  unfold addPairWithLimit
  simp only [h, if_true]
  exact List.mergeSort_perm _ _

theorem batchStep_none {c : Cfg F} {fr : Nat → Frag} {cmp : Cmp F} {maxPairs : Nat} {st : BState F} {ij : Nat × Nat}
    (hm : mkPair c fr cmp ij.1 ij.2 = none) : batchStep c fr cmp maxPairs st ij = st := by
  unfold batchStep
  rw [hm]

/-- a pair above the cut-off goes in; the cut-off moves only when the list is full -/
theorem batchStep_some {c : Cfg F} {fr : Nat → Frag} {cmp : Cmp F} {maxPairs : Nat} {st : BState F} {ij : Nat × Nat}
    {p : Pair F} (hm : mkPair c fr cmp ij.1 ij.2 = some p) (hge : st.minSim ≤ p.sim) :
    (batchStep c fr cmp maxPairs st ij).top = addPairWithLimit maxPairs st.top p ∧
    ((addPairWithLimit maxPairs st.top p).length < maxPairs → (batchStep c fr cmp maxPairs st ij).minSim = st.minSim) := by
  unfold batchStep
  rw [hm]
  simp only [ge_iff_le, if_pos hge, true_and]
  exact fun h => if_neg (Nat.not_le.mpr h)

theorem batchStep_top (c : Cfg F) (fr : Nat → Frag) (cmp : Cmp F) (maxPairs : Nat) (st : BState F) (ij : Nat × Nat) :
    (batchStep c fr cmp maxPairs st ij).top = st.top ∨
      ∃ p, mkPair c fr cmp ij.1 ij.2 = some p ∧
        (batchStep c fr cmp maxPairs st ij).top = addPairWithLimit maxPairs st.top p := by
  cases hm : mkPair c fr cmp ij.1 ij.2 with
  | none => exact Or.inl (congrArg BState.top (batchStep_none hm))
  | some p =>
    by_cases hge : st.minSim ≤ p.sim
    · exact Or.inr ⟨p, rfl, (batchStep_some hm hge).1⟩
    · refine Or.inl ?_
      unfold batchStep
      rw [hm]
      exact congrArg BState.top (if_neg hge)

/-- Without truncation the fold keeps every pair `mkPair` produces. The cut-off `minSim` starts at `t4` and is raised only
when the list is full; as long as it is `t4` no pair is rejected, because every pair `mkPair` produces has similarity
at least `t4` (`t4_le_of_mkPair`). Hence the first hypothesis: `minSim = t4` while the list is not yet full. -/
theorem batched_fold_perm (c : Cfg F) (fr : Nat → Frag) (cmp : Cmp F) (maxPairs : Nat)
    (h43 : c.t4 ≤ c.t3) (h32 : c.t3 ≤ c.t2) (h21 : c.t2 ≤ c.t1) :
    ∀ (l : List (Nat × Nat)) (st : BState F),
      (st.top.length < maxPairs → st.minSim = c.t4) →
      st.top.length + (l.filterMap fun ij => mkPair c fr cmp ij.1 ij.2).length ≤ maxPairs →
      ((l.foldl (batchStep c fr cmp maxPairs) st).top).Perm (st.top ++ l.filterMap fun ij => mkPair c fr cmp ij.1 ij.2) := by
  intro l
  induction l with
  | nil =>
    intro st _ _
    rw [List.filterMap_nil, List.append_nil]
    exact List.Perm.refl _
  | cons ij l ih =>
    intro st hmin hlen
    rw [List.foldl_cons]
    cases hm : mkPair c fr cmp ij.1 ij.2 with
    | none =>
      rw [batchStep_none hm]
      rw [List.filterMap_cons_none (f := fun ij : Nat × Nat => mkPair c fr cmp ij.1 ij.2) hm] at hlen ⊢
      exact ih st hmin hlen
    | some p =>
      rw [List.filterMap_cons_some (f := fun ij : Nat × Nat => mkPair c fr cmp ij.1 ij.2) hm] at hlen ⊢
      rw [List.length_cons] at hlen
      have hlt : st.top.length < maxPairs := by omega
      have hge : st.minSim ≤ p.sim := hmin hlt ▸ t4_le_of_mkPair h43 h32 h21 hm
      obtain ⟨htop, hms⟩ := batchStep_some (maxPairs := maxPairs) (st := st) hm hge
      have hperm := addPairWithLimit_perm (p := p) hlt
      have hlen' : (addPairWithLimit maxPairs st.top p).length = st.top.length + 1 := by
        rw [hperm.length_eq, List.length_append, List.length_singleton]
      refine (ih _ ?_ ?_).trans ?_
      · intro hl
        rw [htop] at hl
        exact (hms hl).trans (hmin hlt)
      · rw [htop, hlen']
        omega
      · rw [htop]
        exact (hperm.append_right _).trans (List.Perm.of_eq (List.append_assoc _ _ _))

theorem batched_perm (c : Cfg F) (fr : Nat → Frag) (cmp : Cmp F) (maxPairs : Nat)
    (h43 : c.t4 ≤ c.t3) (h32 : c.t3 ≤ c.t2) (h21 : c.t2 ≤ c.t1) (l : List (Nat × Nat))
    (hlen : (l.filterMap fun ij => mkPair c fr cmp ij.1 ij.2).length ≤ maxPairs) :
    ((l.foldl (batchStep c fr cmp maxPairs) ⟨[], c.t4⟩).top).Perm (l.filterMap fun ij => mkPair c fr cmp ij.1 ij.2) :=
  batched_fold_perm c fr cmp maxPairs h43 h32 h21 l ⟨[], c.t4⟩ (fun _ => rfl) ((Nat.zero_add _).symm ▸ hlen)

/-! ### MinHash / banding -/

theorem minOver_le_iff (h : Nat → Nat) (xs : List Nat) : ∀ (top y : Nat),
    minOver h top xs ≤ y ↔ (top ≤ y ∨ ∃ x ∈ xs, h x ≤ y) := by
  induction xs with
  | nil => intro top y; simp [minOver]
  | cons x xs ih =>
    intro top y
    unfold minOver
    rw [List.foldl_cons]
    have := ih (if h x < top then h x else top) y
    unfold minOver at this
    rw [this]
    constructor
    · rintro (h1 | ⟨z, hz, hzy⟩)
      · split at h1
        · exact Or.inr ⟨x, List.mem_cons_self, h1⟩
        · exact Or.inl h1
      · exact Or.inr ⟨z, List.mem_cons_of_mem _ hz, hzy⟩
    · rintro (h1 | ⟨z, hz, hzy⟩)
      · left; split <;> omega
      · rcases List.mem_cons.mp hz with rfl | hz
        · left; split <;> omega
        · exact Or.inr ⟨z, hz, hzy⟩

theorem minOver_anti (h : Nat → Nat) (top : Nat) {f₁ f₂ : List Nat} (hs : ∀ x ∈ f₂, x ∈ f₁) :
    minOver h top f₁ ≤ minOver h top f₂ := by
  apply (minOver_le_iff h f₁ top _).mpr
  rcases (minOver_le_iff h f₂ top _).mp (Nat.le_refl _) with h1 | ⟨x, hx, hxy⟩
  · exact Or.inl h1
  · exact Or.inr ⟨x, hs x hx, hxy⟩

theorem minOver_congr (h : Nat → Nat) (top : Nat) {f₁ f₂ : List Nat} (hs : ∀ x, x ∈ f₁ ↔ x ∈ f₂) :
    minOver h top f₁ = minOver h top f₂ :=
  Nat.le_antisymm (minOver_anti h top fun x => (hs x).mpr) (minOver_anti h top fun x => (hs x).mp)

theorem agree_self (s : List Nat) : agree s s = s.length := by
  induction s with
  | nil => rfl
  | cons a s ih => simp [agree, ih]; omega

theorem clampThr_le_one (t : F) : clampThr t ≤ (Arith.lit 1 1 : F) := by
  unfold clampThr
  split
  · exact lit_nonneg
  · split
    · exact le_rfl' _
    · next h => exact MA.not_lt.mp h

theorem estimate_self {s : List Nat} (h : 0 < s.length) : (estimate s s : F) = Arith.lit 1 1 := by
  unfold estimate
  simp only [Nat.min_self, agree_self]
  have : s.length ≠ 0 := by omega
  simp only [this, if_false]
  exact MonoArith.div_self _ (ofInt_pos (by exact_mod_cast h))

end PV.Clone
