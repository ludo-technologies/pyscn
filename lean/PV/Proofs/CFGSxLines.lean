import PV.Proofs.CFGSoundSx
import PV.Proofs.CFGCompleteDefs
/-!
The static summary `sxL` lists only start lines of the code it summarises: its live lines and its skipped `elif` heads (`Mx`) are among
`linesOfL` (`mx_sub_all`).  Syntax trees only; the decision count of C03 (`CFGComplexitySpec`) and the lower bound of the summary's lines
for C01y (`sx_lines_pos`) rest on it.
-/
namespace PV.CFGSound
open PV.CFG PV.SD

def Mx (r : SX) (l : Nat) : Prop := l ∈ r.lines ∨ l ∈ r.skipped

section mx
variable {l : Nat}
theorem Mx_empty : ¬ Mx ({} : SX) l := by simp [Mx]
/-! Every summary is assembled from parts by `++` and `s ::` on `lines` / `skipped`: the three shapes of `Mx` on such a record. -/
theorem mx_append {a b c d : List Nat} : l ∈ a ++ b ∨ l ∈ c ++ d ↔ (l ∈ a ∨ l ∈ c) ∨ (l ∈ b ∨ l ∈ d) := by
  rw [List.mem_append, List.mem_append]; exact or_or_or_comm
theorem mx_consL {s : Nat} {a c : List Nat} : l ∈ s :: a ∨ l ∈ c ↔ l = s ∨ (l ∈ a ∨ l ∈ c) := by rw [List.mem_cons, or_assoc]
theorem mx_consR {s : Nat} {a c : List Nat} : l ∈ a ∨ l ∈ s :: c ↔ l = s ∨ (l ∈ a ∨ l ∈ c) := by
  rw [List.mem_cons]; exact or_left_comm
theorem Mx_ite_empty {c : Bool} {r : SX} : Mx (if c = true then r else {}) l ↔ c = true ∧ Mx r l := by
  cases c
  · exact ⟨fun h => absurd h Mx_empty, fun h => Bool.noConfusion h.1⟩
  · exact ⟨fun h => ⟨rfl, h⟩, fun h => h.2⟩
theorem Mx_sxL_nil : ¬ Mx (sxL []) l := by rw [sxL_nil]; simp [Mx]
theorem Mx_sxL_cons_normal {x : Stmt} {xs : List Stmt} (h : (sxS x).ex.normal = true) :
    Mx (sxL (x :: xs)) l ↔ Mx (sxS x) l ∨ Mx (sxL xs) l := by
  rw [sxL_cons, if_pos h]; exact mx_append
theorem sxL_cons_stop {x : Stmt} {xs : List Stmt} (h : ¬ (sxS x).ex.normal = true) : sxL (x :: xs) = sxS x := by
  rw [sxL_cons, if_neg h]
theorem sxL_cons_lines (x : Stmt) (xs : List Stmt) : ∀ l ∈ (sxS x).lines, l ∈ (sxL (x :: xs)).lines := by
  intro l hl
  rw [sxL_cons]
  split
  · exact List.mem_append.mpr (.inl hl)
  · exact hl
theorem Mx_sxAlts_nil : ¬ Mx (sxAlts []) l := by rw [sxAlts_nil]; simp [Mx]
theorem Mx_sxAlts_cons {x : Stmt} {xs : List Stmt} : Mx (sxAlts (x :: xs)) l ↔ Mx (sxS x) l ∨ Mx (sxAlts xs) l := by
  rw [sxAlts_cons]; exact mx_append
theorem Mx_simple {s e : Nat} {c : List Bool} {h : Bool} : Mx (sxS (.simple s e c h)) l ↔ l = s := by rw [sxS_simple]; simp [Mx]
theorem Mx_ret {s e : Nat} {c : List Bool} {h : Bool} : Mx (sxS (.ret s e c h)) l ↔ l = s := by rw [sxS_ret]; simp [Mx]
theorem Mx_def {s e : Nat} {b : List Stmt} : Mx (sxS (.def_ s e b)) l ↔ l = s := by rw [sxS_def]; simp [Mx]
theorem Mx_brk {s e : Nat} : Mx (sxS (.brk s e)) l ↔ l = s := by rw [sxS_brk]; simp [Mx]
theorem Mx_cont {s e : Nat} : Mx (sxS (.cont s e)) l ↔ l = s := by rw [sxS_cont]; simp [Mx]
theorem Mx_raise {s e : Nat} : Mx (sxS (.raise s e)) l ↔ l = s := by rw [sxS_raise]; simp [Mx]
theorem Mx_ite {s e : Nat} {a b : List Stmt} : Mx (sxS (.ite s e a b)) l ↔ l = s ∨ Mx (sxL a) l ∨ Mx (sxL b) l := by
  rw [sxS_ite]; exact mx_append.trans ((or_congr_left mx_consL).trans or_assoc)
theorem Mx_elifc {s e : Nat} {a b : List Stmt} : Mx (sxS (.elifc s e a b)) l ↔ l = s ∨ Mx (sxL a) l ∨ Mx (sxL b) l := by
  rw [sxS_elifc]; exact mx_append.trans ((or_congr_left mx_consR).trans or_assoc)
theorem Mx_loop {s e : Nat} {a b : List Stmt} : Mx (sxS (.loop s e a b)) l ↔ l = s ∨ Mx (sxL a) l ∨ Mx (sxL b) l := by
  rw [sxS_loop]; exact mx_append.trans ((or_congr_left mx_consL).trans or_assoc)
theorem Mx_elsec {s e : Nat} {a : List Stmt} : Mx (sxS (.elsec s e a)) l ↔ Mx (sxL a) l := by rw [sxS_elsec]
theorem Mx_class {s e : Nat} {a : List Stmt} : Mx (sxS (.class_ s e a)) l ↔ l = s ∨ Mx (sxL a) l := by
  rw [sxS_class]; exact mx_consL
theorem Mx_handler {s e : Nat} {a : List Stmt} : Mx (sxS (.handler s e a)) l ↔ l = s ∨ Mx (sxL a) l := by
  rw [sxS_handler]; exact mx_consL
theorem Mx_case {s e : Nat} {a : List Stmt} : Mx (sxS (.case_ s e a)) l ↔ l = s ∨ Mx (sxL a) l := by
  rw [sxS_case]; exact mx_consL
theorem Mx_with {s e : Nat} {a : List Stmt} : Mx (sxS (.with_ s e a)) l ↔ l = s ∨ Mx (sxL a) l := by
  rw [sxS_with]; exact mx_consL
theorem Mx_match {s e : Nat} {cs : List Stmt} : Mx (sxS (.match_ s e cs)) l ↔ l = s ∨ Mx (sxAlts cs) l := by
  rw [sxS_match]; exact mx_consL
theorem Mx_try_nofin {s e : Nat} {a hs c : List Stmt} :
    Mx (sxS (.try_ s e a hs c [])) l ↔
      Mx (sxL a) l ∨ Mx (sxAlts hs) l ∨ ((sxL a).ex.normal = true ∧ Mx (sxL c) l) := by
  rw [sxS_try]
  exact mx_append.trans ((or_congr mx_append Mx_ite_empty).trans or_assoc)
theorem Mx_try_sub {s e : Nat} {a hs c d : List Stmt} (h : Mx (sxS (.try_ s e a hs c d)) l) :
    Mx (sxL a) l ∨ Mx (sxAlts hs) l ∨ Mx (sxL c) l ∨ Mx (sxL d) l := by
  rw [sxS_try] at h
  simp only [] at h
  have el : Mx (if (sxL a).ex.normal = true then sxL c else {}) l → Mx (sxL c) l := fun h => (Mx_ite_empty.mp h).2
  split at h
  · rcases mx_append.mp h with h | h
    · exact (mx_append.mp h).imp id .inl
    · exact .inr (.inr (.inl (el h)))
  · rcases mx_append.mp h with h | h
    · rcases mx_append.mp h with h | h
      · exact (mx_append.mp h).imp id .inl
      · exact .inr (.inr (.inl (el h)))
    · exact .inr (.inr (.inr h))
end mx

theorem mx_sub_all :
    (∀ x : Stmt, ∀ l, Mx (sxS x) l → l ∈ linesOf x) ∧
    (∀ ss : List Stmt, ∀ l, (Mx (sxL ss) l → l ∈ linesOfL ss) ∧ (Mx (sxAlts ss) l → l ∈ linesOfL ss)) := by
  refine stmt_rs_ind ?_ ?_ ?_ ?_ ?_ ?_ ?_ ?_ ?_ ?_ ?_ ?_ ?_ ?_ ?_ ?_ ?_ ?_
  · intro s e c hc l h; rw [linesOf_simple]; exact List.mem_singleton.mpr (Mx_simple.mp h)
  · intro s e c hc l h; rw [linesOf_ret]; exact List.mem_singleton.mpr (Mx_ret.mp h)
  · intro s e l h; rw [linesOf_brk]; exact List.mem_singleton.mpr (Mx_brk.mp h)
  · intro s e l h; rw [linesOf_cont]; exact List.mem_singleton.mpr (Mx_cont.mp h)
  · intro s e l h; rw [linesOf_raise]; exact List.mem_singleton.mpr (Mx_raise.mp h)
  · intro s e a b ha hb l h
    rw [linesOf_ite, List.cons_append, List.mem_cons, List.mem_append]
    exact (Mx_ite.mp h).imp id (Or.imp (ha l).1 (hb l).1)
  · intro s e a b ha hb l h
    rw [linesOf_elifc, List.cons_append, List.mem_cons, List.mem_append]
    exact (Mx_elifc.mp h).imp id (Or.imp (ha l).1 (hb l).1)
  · intro s e a ha l h
    rw [linesOf_elsec]
    exact (ha l).1 (Mx_elsec.mp h)
  · intro s e a b ha hb l h
    rw [linesOf_loop, List.cons_append, List.mem_cons, List.mem_append]
    exact (Mx_loop.mp h).imp id (Or.imp (ha l).1 (hb l).1)
  · intro s e a hs c d ha hh hc hd l h
    simp only [linesOf_try, List.mem_append]
    rcases Mx_try_sub h with h | h | h | h
    · exact .inl (.inl (.inl ((ha l).1 h)))
    · exact .inl (.inl (.inr ((hh l).2 h)))
    · exact .inl (.inr ((hc l).1 h))
    · exact .inr ((hd l).1 h)
  · intro s e a ha l h
    rw [linesOf_handler, List.mem_cons]
    exact (Mx_handler.mp h).imp id (ha l).1
  · intro s e a ha l h
    rw [linesOf_with, List.mem_cons]
    exact (Mx_with.mp h).imp id (ha l).1
  · intro s e cs hcs l h
    rw [linesOf_match, List.mem_cons]
    exact (Mx_match.mp h).imp id (hcs l).2
  · intro s e a ha l h
    rw [linesOf_case, List.mem_cons]
    exact (Mx_case.mp h).imp id (ha l).1
  · intro s e b l h; rw [linesOf_def]; exact List.mem_singleton.mpr (Mx_def.mp h)
  · intro s e a ha l h
    rw [linesOf_class, List.mem_cons]
    exact (Mx_class.mp h).imp id (ha l).1
  · exact fun l => ⟨fun h => absurd h Mx_sxL_nil, fun h => absurd h Mx_sxAlts_nil⟩
  · intro x xs hx hxs l
    rw [linesOfL_cons]
    constructor
    · intro h
      by_cases hn : (sxS x).ex.normal = true
      · rcases (Mx_sxL_cons_normal hn).mp h with h | h
        · exact List.mem_append.mpr (.inl (hx l h))
        · exact List.mem_append.mpr (.inr ((hxs l).1 h))
      · rw [sxL_cons_stop hn] at h
        exact List.mem_append.mpr (.inl (hx l h))
    · intro h
      rcases Mx_sxAlts_cons.mp h with h | h
      · exact List.mem_append.mpr (.inl (hx l h))
      · exact List.mem_append.mpr (.inr ((hxs l).2 h))

theorem mx_sub_linesOfL (ss : List Stmt) {l : Nat} (h : Mx (sxL ss) l) : l ∈ linesOfL ss :=
  (mx_sub_all.2 ss l).1 h
theorem mx_sub_linesOfL_alts (ss : List Stmt) {l : Nat} (h : Mx (sxAlts ss) l) : l ∈ linesOfL ss :=
  (mx_sub_all.2 ss l).2 h
theorem mx_sub_linesOf (x : Stmt) {l : Nat} (h : Mx (sxS x) l) : l ∈ linesOf x :=
  mx_sub_all.1 x l h

theorem sxL_lines_sub (ss : List Stmt) : ∀ l ∈ (sxL ss).lines, l ∈ linesOfL ss := fun _ h => mx_sub_linesOfL ss (.inl h)
theorem sxL_skipped_sub (ss : List Stmt) : ∀ l ∈ (sxL ss).skipped, l ∈ linesOfL ss := fun _ h => mx_sub_linesOfL ss (.inr h)
theorem sxS_lines_sub (x : Stmt) : ∀ l ∈ (sxS x).lines, l ∈ linesOf x := fun _ h => mx_sub_linesOf x (.inl h)
theorem sxS_skipped_sub (x : Stmt) : ∀ l ∈ (sxS x).skipped, l ∈ linesOf x := fun _ h => mx_sub_linesOf x (.inr h)

end PV.CFGSound
