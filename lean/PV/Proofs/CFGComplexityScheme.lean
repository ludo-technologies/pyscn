import PV.Proofs.CFGComplexityFinDefs
/-!
Property C03 for the CFG mirror — the induction scheme shared by the two fragments.

The induction over the program is carried out once, over a record `Sch` of what differs between the fragment without a non-empty
`finally` (`schC`: context `CtxC`, the `break` clause of `PostC`, targets `TgOK`, fragment `okCL`) and the fragment with it
(`schF`: `CtxF`, `Jmp`, `TgF`, `okFL`).  Every construct is proved for an arbitrary `S : Sch`, except the `finally` part of a `try`, which only `schF` admits.
-/
namespace PV.CFGSound
open PV.CFG PV.Dec PV.CFGFin

structure Sch where
  /-- the invariant of the loop / exception stacks in the structural context `fc` -/
  Ctx : FC → Bool → St → Prop
  /-- where the structural jumps of a piece of code arrive -/
  J : List Edge → List (Nat × Nat × Nat) → List Exc → Ex → Prop
  /-- the blocks of the exception stack that a live new edge may target -/
  TX : List Exc → Nat → Prop
  okL : Bool → List Stmt → Bool
  okS : Bool → Stmt → Bool
  okCases : Bool → List Stmt → Bool
  okHs : Bool → List Stmt → Bool
  ctx_loops : ∀ {fc il} {s : St}, Ctx fc il s → il = true → s.loops ≠ []
  ctx_rn : ∀ {fc il} {s : St}, Ctx fc il s → raiseNX s.excs = fc.nh
  ctx_of_eq : ∀ {fc il} {s s' : St}, Ctx fc il s → s'.loops = s.loops → s'.excs = s.excs → Ctx fc il s'
  ctx_noLoop : ∀ {fc il} {s : St}, Ctx fc il s → Ctx fc false s
  ctx_pushLoop : ∀ {fc il} {s s' : St} {hd x : Nat}, Ctx fc il s → WF s → s'.excs = s.excs →
    s'.loops = (hd, x, s.excs.length) :: s.loops → s.next ≤ hd → s.next ≤ x → Ctx fc true s'
  ctx_pushTryN : ∀ {fc il} {s s' : St} {c0 : Exc}, Ctx fc il s → WF s → s'.loops = s.loops → s'.excs = c0 :: s.excs →
    c0.fin = none → c0.processingFinally = false → (∀ y ∈ c0.handlers, s.next ≤ y) → c0.handlers.Nodup →
    Ctx (fc.inTry c0.handlers.length) il s'
  J_of_jmp : ∀ {fc il} {s : St} {E} {a : Ex}, Ctx fc il s → Jmp E s.loops s.excs a → J E s.loops s.excs a
  J_empty : ∀ {E L X} {a : Ex}, a.brk = false → a.cont = false → a.ret = false → a.raise = false → J E L X a
  J_or : ∀ {E L X} {a b c : Ex}, J E L X a → J E L X b → (c.brk = true → (a.brk || b.brk) = true) →
    (c.cont = true → (a.cont || b.cont) = true) → (c.ret = true → (a.ret || b.ret) = true) →
    (c.raise = true → (a.raise || b.raise) = true) → J E L X c
  J_dropLoop : ∀ {E L L' X} {a b : Ex}, J E L' X a → b.brk = false → b.cont = false → (b.ret = true → a.ret = true) →
    (b.raise = true → a.raise = true) → J E L X b
  /-- a `break` of the body of the loop that was entered with the present exception stack reaches the loop's exit block -/
  J_brk : ∀ {E X} {h x : Nat} {rest} {a : Ex}, J E ((h, x, X.length) :: rest) X a → a.brk = true → R E x
  J_popPlain : ∀ {fc il} {s : St} {E} {c : Exc} {a : Ex}, Ctx fc il s → J E s.loops (c :: s.excs) a → c.processingFinally = false →
    c.fin = none → J E s.loops s.excs a
  TX_fin : ∀ {fc il} {s : St} {c : Exc} {t : Nat}, Ctx fc il s → c ∈ s.excs → c.fin = some t → TX s.excs t
  TX_fb : ∀ {fc il} {s : St} {c : Exc} {t : Nat}, Ctx fc il s → fbX s.excs = some c → t ∈ c.handlers → TX s.excs t
  TX_cons : ∀ {c : Exc} {X : List Exc} {t : Nat}, TX (c :: X) t → t ∈ c.handlers ∨ c.fin = some t ∨ TX X t
  TX_lt : ∀ {X : List Exc} {lo m : Nat}, (∀ c ∈ X, (∀ f, c.fin = some f → f < lo) ∧ ∀ h ∈ c.handlers, h < lo) → TX X m → m < lo
  okL_nil : ∀ il, okL il [] = true
  okL_cons : ∀ il x xs, okL il (x :: xs) = (okS il x && okL il xs)
  okS_brk : ∀ il s e, okS il (.brk s e) = il
  okS_cont : ∀ il s e, okS il (.cont s e) = il
  okS_ite : ∀ il s e a b, okS il (.ite s e a b) = (okL il a && okL il b)
  okS_elifc : ∀ il s e a b, okS il (.elifc s e a b) = (okL il a && okL il b)
  okS_elsec : ∀ il s e a, okS il (.elsec s e a) = okL il a
  okS_loop : ∀ il s e a b, okS il (.loop s e a b) = (okL true a && okL il b)
  okS_with : ∀ il s e a, okS il (.with_ s e a) = okL il a
  okS_match : ∀ il s e cs, okS il (.match_ s e cs) = okCases il cs
  okS_class : ∀ il s e a, okS il (.class_ s e a) = okL false a
  okS_handler : ∀ il s e a, okS il (.handler s e a) = false
  okS_case : ∀ il s e a, okS il (.case_ s e a) = false
  okCases_cons : ∀ {il x cs}, okCases il (x :: cs) = true → ∃ s e a, x = .case_ s e a ∧ okL il a = true ∧ okCases il cs = true
  okHs_cons : ∀ {il x hs}, okHs il (x :: hs) = true → ∃ s e a, x = .handler s e a ∧ okL il a = true ∧ okHs il hs = true
  okS_try : ∀ {il s e a hs c d}, okS il (.try_ s e a hs c d) = true → okL il a = true ∧ okHs il hs = true ∧ okL il c = true

section
variable (S : Sch) {E : List Edge} {L L' : List (Nat × Nat × Nat)} {X X' : List Exc}

theorem Sch.ctx_same {fc : FC} {il : Bool} {s s' : St} (h : S.Ctx fc il s) (sm : Same s s') : S.Ctx fc il s' :=
  S.ctx_of_eq h sm.loops sm.excs

theorem Sch.not_TX {s : St} (w : WF s) {m : Nat} (hm : s.next ≤ m) : ¬ S.TX s.excs m :=
  fun hx => Nat.not_lt.mpr hm (S.TX_lt w.excs hx)

theorem Sch.J_cast {a : Ex} (h : S.J E L X a) (hl : L' = L) (hx : X' = X) : S.J E L' X' a := by
  subst hl; subst hx; exact h

theorem Sch.J_mono {a b : Ex} (h : S.J E L X a) (h1 : b.brk = true → a.brk = true) (h2 : b.cont = true → a.cont = true)
    (h3 : b.ret = true → a.ret = true) (h4 : b.raise = true → a.raise = true) : S.J E L X b :=
  S.J_or h h (fun hb => by simp [h1 hb]) (fun hb => by simp [h2 hb]) (fun hb => by simp [h3 hb]) (fun hb => by simp [h4 hb])

theorem Sch.J_union {a b : Ex} (ha : S.J E L X a) (hb : S.J E L X b) : S.J E L X (a.union b) := S.J_or ha hb id id id id
end

/-- `TgOK` / `TgF` with the blocks of the exception stack given by `S.TX` -/
def TgG (S : Sch) (n : Nat) (L : List (Nat × Nat × Nat)) (X : List Exc) (brk : Bool) (t : Nat) : Prop :=
  n ≤ t ∨ t = exitB ∨ (∃ h x d rest, L = (h, x, d) :: rest ∧ (t = h ∨ (t = x ∧ brk = true))) ∨ S.TX X t

section tg
variable {S : Sch} {n n' : Nat} {L L' : List (Nat × Nat × Nat)} {X X' : List Exc} {b b' : Bool} {t m : Nat}

theorem TgG.mono (h : TgG S n' L X b' t) (hn : n ≤ n') (hb : b' = true → b = true) : TgG S n L X b t := by
  rcases h with h | h | ⟨hd, x, d, rest, hl, h⟩ | h
  · exact .inl (by omega)
  · exact .inr (.inl h)
  · refine .inr (.inr (.inl ⟨hd, x, d, rest, hl, ?_⟩))
    rcases h with h | ⟨h1, h2⟩
    · exact .inl h
    · exact .inr ⟨h1, hb h2⟩
  · exact .inr (.inr (.inr h))

/-- change of context: the context blocks of the inner call are acceptable targets of the outer call -/
theorem TgG.weaken (h : TgG S n' L' X' b' t) (hn : n ≤ n')
    (hL : ∀ hd x d rest, L' = (hd, x, d) :: rest → (t = hd ∨ (t = x ∧ b' = true)) → TgG S n L X b t)
    (hX : S.TX X' t → TgG S n L X b t) : TgG S n L X b t := by
  rcases h with h | h | ⟨hd, x, d, rest, hl, h⟩ | h
  · exact .inl (by omega)
  · exact .inr (.inl h)
  · exact hL hd x d rest hl h
  · exact hX h

theorem TgG.ne (h : TgG S n L X b t) (hm : m < n) (h1 : m ≠ exitB)
    (hL : ∀ hd x d rest, L = (hd, x, d) :: rest → hd ≠ m ∧ (b = true → x ≠ m)) (hX : ¬ S.TX X m) : t ≠ m := by
  intro htm
  subst htm
  rcases h with h | h | ⟨hd, x, d, rest, hl, h⟩ | h
  · omega
  · exact h1 h
  · rcases h with h | ⟨h, hb⟩
    · exact (hL hd x d rest hl).1 h.symm
    · exact (hL hd x d rest hl).2 hb h.symm
  · exact hX h

theorem TgG.ne_ctx {s : St} {lo : Nat} (hc : CtxLt s lo) (h : TgG S n s.loops s.excs b t) (hm : m < n) (hlo : lo ≤ m) (h2 : 2 ≤ lo) :
    t ≠ m := by
  refine h.ne hm (by unfold exitB; omega) ?_ (fun hx => by have := S.TX_lt hc.2 hx; omega)
  intro hd x d rest hl
  have := hc.1 (hd, x, d) (by rw [hl]; exact List.mem_cons_self ..)
  simp only at this
  exact ⟨by omega, fun _ => by omega⟩
end tg

/-- the postcondition of a piece of code.  Only this form is proved; `PostC` / `TgOK` and `PostF` / `TgF` are its instances at `schC`
and `schF`, written out, and are obtained from it by `PostG.toC` / `PostG.toF`. -/
structure PostG (S : Sch) (E : List Edge) (st st' : St) (ex : Ex) (n : Nat) : Prop where
  cnt : cnt (rE E) st'.edges = cnt (rE E) st.edges + n
  normal : ex.normal = true → EntryC E st'
  dead : ex.normal = false → ¬ R E st'.cur
  jmp : S.J E st.loops st.excs ex
  tgt : LTI E (TgG S st.next st.loops st.excs ex.brk) st st'

section nofin
variable {X : List Exc} (h : ∀ c ∈ X, c.fin = none ∧ c.processingFinally = false)
include h

theorem pendO_nofin : pendO X = some none := by
  induction X with
  | nil => rfl
  | cons c r ih =>
    rw [pendO_cons_plain (h c List.mem_cons_self).2 (h c List.mem_cons_self).1]
    exact ih (fun c' hc' => h c' (List.mem_cons_of_mem _ hc'))

theorem tfX_nofin : CFGFin.tfX X = none :=
  S4.tfX_none X (List.findSome?_eq_none_iff.mpr fun c hc => (h c hc).1)

theorem fbX_nofin : fbX X = X.head? := by
  cases X with
  | nil => rfl
  | cons c r =>
    unfold fbX
    rw [List.find?_cons, (h c List.mem_cons_self).2]; rfl

theorem raiseNX_nofin : raiseNX X = raiseN X := by
  unfold raiseNX
  rw [tfX_nofin h, fbX_nofin h]
  cases X <;> rfl
end nofin

/-- no non-empty `finally`: the context of `PostC`; `fc.pf = false` makes `fc.inTry` follow `raiseN` -/
@[reducible] def schC : Sch where
  Ctx fc il st := CtxC fc.nh il st ∧ fc.pf = false
  J E L _ ex := ex.brk = true → ∀ h x d rest, L = (h, x, d) :: rest → R E x
  TX X t := ∃ c rest, X = c :: rest ∧ t ∈ c.handlers
  okL := okCL
  okS := okCS
  okCases := okCCases
  okHs := okCHs
  ctx_loops h := h.1.loops
  ctx_rn h := (raiseNX_nofin h.1.nofin).trans h.1.rn
  ctx_of_eq h hl hx := ⟨h.1.of_eq hl hx, h.2⟩
  ctx_noLoop h := ⟨h.1.noLoop, h.2⟩
  ctx_pushLoop h _ hx hl _ _ := ⟨⟨fun _ => by rw [hl]; simp, by rw [hx]; exact h.1.nofin, by rw [hx]; exact h.1.rn⟩, h.2⟩
  ctx_pushTryN {fc _ _ _ c0} h _ hl hx h1 h2 _ _ := by
    refine ⟨⟨by rw [hl]; exact h.1.loops, ?_, ?_⟩, h.2⟩
    · rw [hx]
      intro c hc
      rcases List.mem_cons.mp hc with rfl | hc
      · exact ⟨h1, h2⟩
      · exact h.1.nofin c hc
    · rw [hx]
      show (if c0.handlers.length > 0 then c0.handlers.length else 1) =
        if fc.pf = true then 1 else if c0.handlers.length > 0 then c0.handlers.length else 1
      rw [h.2]; rfl
  J_of_jmp h j := fun hb hd x d rest hl =>
    j.brk hb hd x d rest hl none (pendO_nofin (fun c hc => h.1.nofin c (List.mem_of_mem_take hc)))
  J_empty h1 _ _ _ := fun hb => by rw [h1] at hb; cases hb
  J_or ha hb h1 _ _ _ := fun hc => by
    rcases Bool.or_eq_true_iff.mp (h1 hc) with h | h
    · exact ha h
    · exact hb h
  J_dropLoop _ h1 _ _ _ := fun hb => by rw [h1] at hb; cases hb
  J_brk h hb := h hb _ _ _ _ rfl
  J_popPlain _ h _ _ := h
  TX_fin h hc hf := by rw [(h.1.nofin _ hc).1] at hf; cases hf
  TX_fb {_ _ s c _} h hfb hm := by
    rw [fbX_nofin h.1.nofin] at hfb
    cases hx : s.excs with
    | nil => rw [hx] at hfb; cases hfb
    | cons c' r =>
      rw [hx, List.head?_cons, Option.some.injEq] at hfb
      exact ⟨c, r, by rw [hfb], hm⟩
  TX_cons := fun ⟨_, _, hx, hm⟩ => by
    rw [List.cons.injEq] at hx
    exact .inl (hx.1 ▸ hm)
  TX_lt := fun hX ⟨c, _, hx, hm⟩ => (hX c (by rw [hx]; exact List.mem_cons_self ..)).2 _ hm
  okL_nil := okCL_nil
  okL_cons := okCL_cons
  okS_brk := okCS_brk
  okS_cont := okCS_cont
  okS_ite := okCS_ite
  okS_elifc := okCS_elifc
  okS_elsec := okCS_elsec
  okS_loop := okCS_loop
  okS_with := okCS_with
  okS_match := okCS_match
  okS_class := okCS_class
  okS_handler := okCS_handler
  okS_case := okCS_case
  okCases_cons := okCCases_cons
  okHs_cons := okCHs_cons
  okS_try h := by
    rw [okCS_try] at h
    simp only [Bool.and_eq_true] at h
    exact ⟨h.1.1.1, h.1.1.2, h.1.2⟩

@[reducible] def schF : Sch where
  Ctx := CtxF
  J := Jmp
  TX := XT
  okL := okFL
  okS := okFS
  okCases := okFCases
  okHs := okFHs
  ctx_loops := CtxF.loops
  ctx_rn := CtxF.rn
  ctx_of_eq := CtxF.of_eq
  ctx_noLoop := CtxF.noLoop
  ctx_pushLoop h w hx hl h1 h2 := h.pushLoop w hx hl h1 h2
  ctx_pushTryN h w := h.pushTryN w
  J_of_jmp _ j := j
  J_empty := Jmp.empty
  J_or := Jmp.or
  J_dropLoop := Jmp.dropLoop
  J_brk h hb := h.brk hb _ _ _ _ rfl none (by simp [pendO])
  J_popPlain hc h h1 h2 := h.popPlain h1 h2 hc.ld
  TX_fin _ hc hf := ⟨_, hc, .inr hf⟩
  TX_fb _ hfb hm := ⟨_, List.mem_of_find?_eq_some hfb, .inl hm⟩
  TX_cons := fun ⟨c, hc, h⟩ => by
    rcases List.mem_cons.mp hc with rfl | hc
    · exact h.elim .inl (fun h => .inr (.inl h))
    · exact .inr (.inr ⟨c, hc, h⟩)
  TX_lt h hx := Nat.lt_of_not_le (fun hm => PV.CFGFin.not_XT h hm hx)
  okL_nil := okFL_nil
  okL_cons := okFL_cons
  okS_brk := okFS_brk
  okS_cont := okFS_cont
  okS_ite := okFS_ite
  okS_elifc := okFS_elifc
  okS_elsec := okFS_elsec
  okS_loop := okFS_loop
  okS_with := okFS_with
  okS_match := okFS_match
  okS_class := okFS_class
  okS_handler := okFS_handler
  okS_case := okFS_case
  okCases_cons := okFCases_cons
  okHs_cons := okFHs_cons
  okS_try h := by
    rw [okFS_try] at h
    simp only [Bool.and_eq_true] at h
    exact ⟨h.1.1.1, h.1.1.2, h.1.2⟩

theorem PostG.toC {E : List Edge} {st st' : St} {ex : Ex} {n : Nat} (h : PostG schC E st st' ex n) : PostC E st st' ex n :=
  ⟨h.cnt, h.normal, h.dead, h.jmp, h.tgt⟩

theorem PostG.toF {E : List Edge} {st st' : St} {ex : Ex} {n : Nat} (h : PostG schF E st st' ex n) : PostF E st st' ex n :=
  ⟨h.cnt, h.normal, h.dead, h.jmp, h.tgt⟩

end PV.CFGSound
