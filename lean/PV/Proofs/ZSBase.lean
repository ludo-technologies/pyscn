import PV.Proofs.ZSTed
import PV.Proofs.ZSForest
/-!
Correctness of the Zhang–Shasha tables of `PV.ZS` against the specification `PV.TED.ted`, with the key
roots read from the `lml` array (`PV.ZS.keyroots`): inner-DP invariant, frame, outer-loop invariant,
`apted_ok`.  The final theorem is in `ZSCorrect`.
-/
namespace PV.ZSProof
open PV.TED PV.ZS

/-- subtree rooted at post-order position `x` -/
def sub (T : Tree) (x : Nat) : Tree := nthL [T] x

/-- left-most leaf of position `x` of a single tree: `lmlF [T] x` -/
def lmlS (T : Tree) (x : Nat) : Nat := x + 1 - (sub T x).size

theorem sizeL_single (T : Tree) : sizeL [T] = T.size := by simp [sizeL]

theorem sub_size_le (T : Tree) (x : Nat) (h : x < T.size) : (sub T x).size ≤ x + 1 :=
  nthL_size_le [T] x (by rw [sizeL_single]; exact h)

theorem lmlS_le (T : Tree) (x : Nat) : lmlS T x ≤ x := lmlF_le [T] x

theorem sub_root (T : Tree) : sub T (T.size - 1) = T := by
  cases T with
  | node a cs =>
    unfold sub
    rw [show (Tree.node a cs).size - 1 = sizeL cs by simp [Tree.size]]
    exact nthL_eq

theorem sub_sub (T : Tree) (k x : Nat) (hk : k < T.size) (h1 : lmlS T k ≤ x) (h2 : x ≤ k) :
    sub T x = nthL [sub T k] (x - lmlS T k) :=
  nthL_nthL [T] k (by rw [sizeL_single]; exact hk) x h1 h2

theorem sub_size_eq (T : Tree) (k : Nat) (hk : k < T.size) : (sub T k).size = k + 1 - lmlS T k := by
  have := sub_size_le T k hk; unfold lmlS; omega

/-- intervals `[lml k, k]` are nested or disjoint -/
theorem lmlS_laminar (T : Tree) (k x : Nat) (hk : k < T.size) (h1 : lmlS T k ≤ x) (h2 : x ≤ k) :
    lmlS T k ≤ lmlS T x := by
  have hs := sub_sub T k x hk h1 h2
  have hsz := sub_size_eq T k hk
  have hle := nthL_size_le [sub T k] (x - lmlS T k) (by rw [sizeL_single]; omega)
  rw [← hs] at hle
  have := sub_size_le T x (by omega)
  unfold lmlS at *
  omega

/-- the REVERSED forest of the nodes `lml i … x'-1` (row `x'` of `fd` for key root `i`) -/
def G (T : Tree) (i x' : Nat) : List Tree := preL [sub T i] (x' - lmlS T i)

theorem G_base (T : Tree) (i : Nat) : G T i (lmlS T i) = [] := by
  unfold G; rw [Nat.sub_self, preL_zero]

/-- position `x` inside the subtree of key root `i`, and where its own subtree begins there -/
theorem G_pos (T : Tree) (i x : Nat) (hi : i < T.size) (h1 : lmlS T i ≤ x) (h2 : x ≤ i) :
    x - lmlS T i < sizeL [sub T i] ∧ x - lmlS T i + 1 - (sub T x).size = lmlS T x - lmlS T i := by
  rw [sizeL_single, sub_size_eq T i hi, sub_size_eq T x (Nat.lt_of_le_of_lt h2 hi), ← Nat.sub_add_comm h1,
    Nat.sub_right_comm, Nat.sub_sub_self (Nat.le_succ_of_le (lmlS_le T x))]
  exact ⟨Nat.sub_lt_sub_right h1 (Nat.lt_succ_of_le h2), rfl⟩

theorem G_succ (T : Tree) (i x : Nat) (hi : i < T.size) (h1 : lmlS T i ≤ x) (h2 : x ≤ i) :
    G T i (x + 1) = sub T x :: G T i (lmlS T x) := by
  have hp := G_pos T i x hi h1 h2
  unfold G
  rw [Nat.sub_add_comm h1, preL_succ [sub T i] (x - lmlS T i) hp.1, ← sub_sub T i x hi h1 h2, hp.2]

theorem G_children (T : Tree) (i x : Nat) (hi : i < T.size) (h1 : lmlS T i ≤ x) (h2 : x ≤ i)
    (a : Nat) (as : List Tree) (hn : sub T x = .node a as) :
    as.reverse ++ G T i (lmlS T x) = G T i x := by
  have hp := G_pos T i x hi h1 h2
  have := preL_children [sub T i] (x - lmlS T i) hp.1 a as (hn ▸ (sub_sub T i x hi h1 h2).symm)
  rwa [← hn, hp.2] at this

/-- the two unfoldings of the prefix forest at a node, with the node taken apart -/
theorem G_node (T : Tree) (i x : Nat) (hi : i < T.size) (h1 : lmlS T i ≤ x) (h2 : x ≤ i) :
    ∃ a as, sub T x = .node a as ∧ G T i (x + 1) = .node a as :: G T i (lmlS T x) ∧
      G T i x = as.reverse ++ G T i (lmlS T x) := by
  cases hn : sub T x with
  | node a as => exact ⟨a, as, rfl, hn ▸ G_succ T i x hi h1 h2, (G_children T i x hi h1 h2 a as hn).symm⟩

/-! ## the recurrences of the specification, read on prefix forests -/

theorem ted_G_del (c : Cost) (T : Tree) (i x : Nat) (hi : i < T.size) (h1 : lmlS T i ≤ x) (h2 : x ≤ i) :
    ted c (G T i (x + 1)) [] = ted c (G T i x) [] + c.del (label (sub T x)) := by
  obtain ⟨a, as, hn, e1, e2⟩ := G_node T i x hi h1 h2
  rw [e1, e2, hn, ted_cons_nil, label]

theorem ted_G_ins (c : Cost) (T : Tree) (j y : Nat) (hj : j < T.size) (h1 : lmlS T j ≤ y) (h2 : y ≤ j) :
    ted c [] (G T j (y + 1)) = ted c [] (G T j y) + c.ins (label (sub T y)) := by
  obtain ⟨b, bs, hn, e1, e2⟩ := G_node T j y hj h1 h2
  rw [e1, e2, hn, ted_nil_cons, label]

/-- general cell (apted.go:316-324) -/
theorem ted_G_rec (c : Cost) (T₁ T₂ : Tree) (i j x y : Nat) (hi : i < T₁.size) (hj : j < T₂.size)
    (hx1 : lmlS T₁ i ≤ x) (hx2 : x ≤ i) (hy1 : lmlS T₂ j ≤ y) (hy2 : y ≤ j) :
    ted c (G T₁ i (x + 1)) (G T₂ j (y + 1)) =
      min (ted c (G T₁ i x) (G T₂ j (y + 1)) + c.del (label (sub T₁ x)))
     (min (ted c (G T₁ i (x + 1)) (G T₂ j y) + c.ins (label (sub T₂ y)))
          (ted c (G T₁ i (lmlS T₁ x)) (G T₂ j (lmlS T₂ y)) + ted c [sub T₁ x] [sub T₂ y])) := by
  obtain ⟨a, as, hn, e1, e2⟩ := G_node T₁ i x hi hx1 hx2
  obtain ⟨b, bs, hm, f1, f2⟩ := G_node T₂ j y hj hy1 hy2
  rw [e1, e2, f1, f2, hn, hm, ted_cons_cons_zs, label, label]

/-- cell on both left-most paths (apted.go:305-315): the forests are single trees -/
theorem ted_G_path (c : Cost) (T₁ T₂ : Tree) (i j x y : Nat) (hi : i < T₁.size) (hj : j < T₂.size)
    (hx1 : lmlS T₁ i ≤ x) (hx2 : x ≤ i) (hy1 : lmlS T₂ j ≤ y) (hy2 : y ≤ j)
    (hx : lmlS T₁ x = lmlS T₁ i) (hy : lmlS T₂ y = lmlS T₂ j) :
    ted c [sub T₁ x] [sub T₂ y] =
      min (ted c (G T₁ i x) (G T₂ j (y + 1)) + c.del (label (sub T₁ x)))
     (min (ted c (G T₁ i (x + 1)) (G T₂ j y) + c.ins (label (sub T₂ y)))
          (ted c (G T₁ i x) (G T₂ j y) + c.ren (label (sub T₁ x)) (label (sub T₂ y)))) := by
  obtain ⟨a, as, hn, e1, e2⟩ := G_node T₁ i x hi hx1 hx2
  obtain ⟨b, bs, hm, f1, f2⟩ := G_node T₂ j y hj hy1 hy2
  rw [hx, G_base] at e1 e2
  rw [hy, G_base] at f1 f2
  rw [e1, e2, f1, f2, hn, hm, ted_cons_cons, label, label, ted_nil_nil, Nat.add_zero, List.append_nil, List.append_nil]

theorem G_path (T : Tree) (i x : Nat) (hi : i < T.size) (h1 : lmlS T i ≤ x) (h2 : x ≤ i)
    (hx : lmlS T x = lmlS T i) : G T i (x + 1) = [sub T x] := by
  rw [G_succ T i x hi h1 h2, hx, G_base]


/-! ## the arrays of the mirror describe the tree -/

structure Repr (T : Tree) (p : Post) : Prop where
  n : p.n = T.size
  lab : ∀ x, x < T.size → p.lab x = label (sub T x)
  lml : ∀ x, x < T.size → p.lml x = lmlS T x

theorem postT_eq (T : Tree) : postT 0 T = postL 0 [T] := by simp [postL]

theorem mkPost_get (T : Tree) (x : Nat) (hx : x < T.size) :
    (postT 0 T).toArray[x]?.getD (0, 0) = (label (sub T x), lmlS T x) := by
  rw [postT_eq, List.getElem?_toArray, postL_get [T] x (by rw [sizeL_single]; exact hx) 0, Option.getD_some,
    Nat.zero_add]
  rfl

theorem mkPost_repr (T : Tree) : Repr T (mkPost T) :=
  ⟨by simp [mkPost, postT_eq, postL_length, sizeL],
    fun x hx => congrArg Prod.fst (mkPost_get T x hx), fun x hx => congrArg Prod.snd (mkPost_get T x hx)⟩

theorem forRange_inv {σ : Type} (f : Nat → σ → σ) (lo : Nat) (P : Nat → σ → Prop) :
    ∀ (n : Nat) (s : σ), P lo s → (∀ k st, lo ≤ k → k < lo + n → P k st → P (k + 1) (f k st)) →
      P (lo + n) (forRange f lo n s) := by
  intro n
  induction n with
  | zero => intro s h0 _; exact h0
  | succ n ih =>
    intro s h0 hs
    exact hs (lo + n) _ (Nat.le_add_right _ _) (Nat.lt_succ_self _) (ih s h0 (fun k st h1 h2 => hs k st h1 (Nat.lt_succ_of_lt h2)))

/-- the same for a loop `for k := lo; k ≤ hi; k++` -/
theorem forRange_upto {σ : Type} (f : Nat → σ → σ) (lo hi : Nat) (hle : lo ≤ hi + 1) (P : Nat → σ → Prop) (s : σ)
    (h0 : P lo s) (hs : ∀ k st, lo ≤ k → k ≤ hi → P k st → P (k + 1) (f k st)) :
    P (hi + 1) (forRange f lo (hi + 1 - lo) s) := by
  have := forRange_inv f lo P (hi + 1 - lo) s h0 (fun k st h1 h2 => hs k st h1 (by omega))
  rwa [show lo + (hi + 1 - lo) = hi + 1 by omega] at this

theorem le_of_lt_upto {lo hi k : Nat} (h1 : lo ≤ k) (h2 : k < lo + (hi + 1 - lo)) : k ≤ hi := by omega

theorem setAt_apply (f : Table) (a b v x y : Nat) :
    setAt f a b v x y = if x = a ∧ y = b then v else f x y := rfl


section Inner
variable (c : Cost) (T₁ T₂ : Tree) (p₁ p₂ : Post) (R₁ : Repr T₁ p₁) (R₂ : Repr T₂ p₂)
variable (i j : Nat) (hi : i < T₁.size) (hj : j < T₂.size)

/-- the specification value of `td[x+1][y+1]` -/
abbrev TD (x y : Nat) : Nat := ted c [sub T₁ x] [sub T₂ y]

/-- the specification value of `fd[x'][y']` while key roots `i`, `j` are processed -/
abbrev FD (x' y' : Nat) : Nat := ted c (G T₁ i x') (G T₂ j y')

include R₁ hi in
theorem initCol_ok (fd : Table) (h0 : fd (lmlS T₁ i) (lmlS T₂ j) = 0) :
    ∀ x', lmlS T₁ i ≤ x' → x' ≤ i + 1 →
      initCol c p₁ (lmlS T₁ i) (lmlS T₂ j) i fd x' (lmlS T₂ j) = FD c T₁ T₂ i j x' (lmlS T₂ j) := by
  exact forRange_upto (fun x fd => setAt fd (x + 1) (lmlS T₂ j) (fd x (lmlS T₂ j) + c.del (p₁.lab x)))
    (lmlS T₁ i) i (Nat.le_succ_of_le (lmlS_le T₁ i)) (fun X fd => ∀ x', lmlS T₁ i ≤ x' → x' ≤ X →
      fd x' (lmlS T₂ j) = FD c T₁ T₂ i j x' (lmlS T₂ j)) fd
    (by
      intro x' h1 h2
      have : x' = lmlS T₁ i := Nat.le_antisymm h2 h1
      subst this
      simp [FD, G_base, ted_nil_nil, h0])
    (by
      intro k st hk1 hk2 ih x' h1 h2
      rw [setAt_apply]
      by_cases hx : x' = k + 1
      · subst hx
        simp only [true_and, if_true]
        rw [ih k hk1 (Nat.le_refl _), R₁.lab k (Nat.lt_of_le_of_lt hk2 hi)]
        simp only [FD, G_base]
        rw [ted_G_del c T₁ i k hi hk1 hk2]
      · rw [if_neg fun h => hx h.1]
        exact ih x' h1 (Nat.le_of_lt_succ (Nat.lt_of_le_of_ne h2 hx)))

include R₂ hj in
theorem initRow_ok (fd : Table)
    (h0 : ∀ x', lmlS T₁ i ≤ x' → x' ≤ i + 1 → fd x' (lmlS T₂ j) = FD c T₁ T₂ i j x' (lmlS T₂ j)) :
    (∀ x', lmlS T₁ i ≤ x' → x' ≤ i + 1 →
      initRow c p₂ (lmlS T₁ i) (lmlS T₂ j) j fd x' (lmlS T₂ j) = FD c T₁ T₂ i j x' (lmlS T₂ j)) ∧
    (∀ y', lmlS T₂ j ≤ y' → y' ≤ j + 1 →
      initRow c p₂ (lmlS T₁ i) (lmlS T₂ j) j fd (lmlS T₁ i) y' = FD c T₁ T₂ i j (lmlS T₁ i) y') := by
  exact forRange_upto (fun y fd => setAt fd (lmlS T₁ i) (y + 1) (fd (lmlS T₁ i) y + c.ins (p₂.lab y)))
    (lmlS T₂ j) j (Nat.le_succ_of_le (lmlS_le T₂ j)) (fun Y fd =>
      (∀ x', lmlS T₁ i ≤ x' → x' ≤ i + 1 → fd x' (lmlS T₂ j) = FD c T₁ T₂ i j x' (lmlS T₂ j)) ∧
      (∀ y', lmlS T₂ j ≤ y' → y' ≤ Y → fd (lmlS T₁ i) y' = FD c T₁ T₂ i j (lmlS T₁ i) y')) fd
    (by
      refine ⟨h0, ?_⟩
      intro y' h1 h2
      have : y' = lmlS T₂ j := Nat.le_antisymm h2 h1
      subst this
      exact h0 _ (Nat.le_refl _) (Nat.le_succ_of_le (lmlS_le T₁ i)))
    (by
      intro k st hk1 hk2 ih
      refine ⟨?_, ?_⟩
      · intro x' h1 h2
        rw [setAt_apply, if_neg (by omega)]
        exact ih.1 x' h1 h2
      · intro y' h1 h2
        rw [setAt_apply]
        by_cases hy : y' = k + 1
        · subst hy
          simp only [true_and, if_true]
          rw [ih.2 k hk1 (Nat.le_refl _), R₂.lab k (Nat.lt_of_le_of_lt hk2 hj)]
          simp only [FD, G_base]
          rw [ted_G_ins c T₂ j k hj hk1 hk2]
        · rw [if_neg fun h => hy h.2]
          exact ih.2 y' h1 (Nat.le_of_lt_succ (Nat.lt_of_le_of_ne h2 hy)))

/-- invariant of the double loop when it is about to process nodes `X`, `Y`:
`fd` is right on the base row/column and on every cell already written; `td` is right on every cell
of the rectangle that is NOT on both left-most paths (hypothesis on the incoming `td`) and on every
cell already written -/
def II (X Y : Nat) (st : Table × Table) : Prop :=
  (∀ x' y', lmlS T₁ i ≤ x' → x' ≤ i + 1 → lmlS T₂ j ≤ y' → y' ≤ j + 1 →
    (x' = lmlS T₁ i ∨ y' = lmlS T₂ j ∨ x' ≤ X ∨ (x' = X + 1 ∧ y' ≤ Y)) →
      st.1 x' y' = FD c T₁ T₂ i j x' y') ∧
  (∀ x y, lmlS T₁ i ≤ x → x ≤ i → lmlS T₂ j ≤ y → y ≤ j →
    (¬ (lmlS T₁ x = lmlS T₁ i ∧ lmlS T₂ y = lmlS T₂ j) ∨ x < X ∨ (x = X ∧ y < Y)) →
      st.2 (x + 1) (y + 1) = TD c T₁ T₂ x y)

/-- one step of the double loop: cell `(X+1, Y+1)` of `fd` receives its specification value, and `td'` is `td` with cell
`(X+1, Y+1)` holding its specification value (newly written, or right already) -/
theorem II_setAt (X Y : Nat) (st : Table × Table) (h : II c T₁ T₂ i j X Y st)
    (v : Nat) (hv : v = FD c T₁ T₂ i j (X + 1) (Y + 1)) (td' : Table)
    (htd' : ∀ x y, td' (x + 1) (y + 1) = if x = X ∧ y = Y then TD c T₁ T₂ X Y else st.2 (x + 1) (y + 1)) :
    II c T₁ T₂ i j X (Y + 1) (setAt st.1 (X + 1) (Y + 1) v, td') := by
  obtain ⟨hfd, htd⟩ := h
  subst hv
  refine ⟨?_, ?_⟩
  · intro x' y' h1 h2 h3 h4 h5
    show setAt st.1 (X + 1) (Y + 1) _ x' y' = _
    rw [setAt_apply]
    by_cases hxy : x' = X + 1 ∧ y' = Y + 1
    · rw [if_pos hxy, hxy.1, hxy.2]
    · rw [if_neg hxy]
      exact hfd x' y' h1 h2 h3 h4 (h5.imp_right (Or.imp_right (Or.imp_right fun ⟨a, b⟩ =>
        ⟨a, Nat.le_of_lt_succ (Nat.lt_of_le_of_ne b fun e => hxy ⟨a, e⟩)⟩)))
  · intro x y h1 h2 h3 h4 h5
    show td' (x + 1) (y + 1) = _
    rw [htd']
    by_cases hxy : x = X ∧ y = Y
    · rw [if_pos hxy, hxy.1, hxy.2]
    · rw [if_neg hxy]
      exact htd x y h1 h2 h3 h4 (h5.imp_right (Or.imp_right fun ⟨a, b⟩ =>
        ⟨a, Nat.lt_of_le_of_ne (Nat.le_of_lt_succ b) fun e => hxy ⟨a, e⟩⟩))

include R₁ R₂ hi hj in
theorem cell_ok (X Y : Nat) (hX1 : lmlS T₁ i ≤ X) (hX2 : X ≤ i) (hY1 : lmlS T₂ j ≤ Y) (hY2 : Y ≤ j)
    (st : Table × Table) (h : II c T₁ T₂ i j X Y st) :
    II c T₁ T₂ i j X (Y + 1) (cell c p₁ p₂ (lmlS T₁ i) (lmlS T₂ j) X Y st) := by
  have hXs : X < T₁.size := Nat.lt_of_le_of_lt hX2 hi
  have hYs : Y < T₂.size := Nat.lt_of_le_of_lt hY2 hj
  have hX3 : X ≤ i + 1 := Nat.le_succ_of_le hX2
  have hY3 : Y ≤ j + 1 := Nat.le_succ_of_le hY2
  have e1 := h.1 X (Y + 1) hX1 hX3 (Nat.le_succ_of_le hY1) (Nat.succ_le_succ hY2)
    (Or.inr (Or.inr (Or.inl (Nat.le_refl _))))
  have e2 := h.1 (X + 1) Y (Nat.le_succ_of_le hX1) (Nat.succ_le_succ hX2) hY1 hY3
    (Or.inr (Or.inr (Or.inr ⟨rfl, Nat.le_refl _⟩)))
  have e3 := h.1 X Y hX1 hX3 hY1 hY3 (Or.inr (Or.inr (Or.inl (Nat.le_refl _))))
  unfold cell
  simp only [R₁.lml X hXs, R₂.lml Y hYs, R₁.lab X hXs, R₂.lab Y hYs, e1, e2, e3]
  split
  · -- both on the left-most paths: the cell of `fd` is the tree distance, written to `td` as well
    rename_i hc
    have hF : FD c T₁ T₂ i j (X + 1) (Y + 1) = TD c T₁ T₂ X Y := by
      simp only [FD]
      rw [G_path T₁ i X hi hX1 hX2 hc.1, G_path T₂ j Y hj hY1 hY2 hc.2]
    simp only [FD]
    rw [← ted_G_path c T₁ T₂ i j X Y hi hj hX1 hX2 hY1 hY2 hc.1 hc.2]
    refine II_setAt c T₁ T₂ i j X Y st h _ hF.symm _ ?_
    intro x y
    rw [setAt_apply]
    simp only [Nat.add_right_cancel_iff]
  · -- general cell: `td` is read, not written
    rename_i hc
    have e4 := h.1 (lmlS T₁ X) (lmlS T₂ Y) (lmlS_laminar T₁ i X hi hX1 hX2) (Nat.le_trans (lmlS_le T₁ X) hX3)
      (lmlS_laminar T₂ j Y hj hY1 hY2) (Nat.le_trans (lmlS_le T₂ Y) hY3) (Or.inr (Or.inr (Or.inl (lmlS_le T₁ X))))
    have e5 := h.2 X Y hX1 hX2 hY1 hY2 (Or.inl hc)
    simp only [e4, e5, FD, TD]
    rw [← ted_G_rec c T₁ T₂ i j X Y hi hj hX1 hX2 hY1 hY2]
    refine II_setAt c T₁ T₂ i j X Y st h _ rfl _ ?_
    intro x y
    by_cases hxy : x = X ∧ y = Y
    · rw [if_pos hxy, hxy.1, hxy.2]
      exact e5
    · rw [if_neg hxy]

include R₁ R₂ hi hj in
theorem mainLoop_ok (st : Table × Table) (h : II c T₁ T₂ i j (lmlS T₁ i) (lmlS T₂ j) st) :
    II c T₁ T₂ i j (i + 1) (lmlS T₂ j) (mainLoop c p₁ p₂ (lmlS T₁ i) (lmlS T₂ j) i j st) := by
  exact forRange_upto
    (fun x st => forRange (fun y st => cell c p₁ p₂ (lmlS T₁ i) (lmlS T₂ j) x y st) (lmlS T₂ j) (j + 1 - lmlS T₂ j) st)
    (lmlS T₁ i) i (Nat.le_succ_of_le (lmlS_le T₁ i)) (fun X st => II c T₁ T₂ i j X (lmlS T₂ j) st) st h
    (by
      intro X st hX1 hX2 ih
      obtain ⟨hfd, htd⟩ := forRange_upto (fun y st => cell c p₁ p₂ (lmlS T₁ i) (lmlS T₂ j) X y st) (lmlS T₂ j) j
        (Nat.le_succ_of_le (lmlS_le T₂ j)) (fun Y st => II c T₁ T₂ i j X Y st) st ih
        (fun Y st hY1 hY2 ih' => cell_ok c T₁ T₂ p₁ p₂ R₁ R₂ i j hi hj X Y hX1 hX2 hY1 hY2 st ih')
      -- row `X` complete (`Y = j + 1`) is row `X + 1` not yet begun (`Y = lml j`): the two conjuncts of `II`, reindexed
      refine ⟨?_, ?_⟩
      · intro x' y' h1 h2 h3 h4 h5
        refine hfd x' y' h1 h2 h3 h4 (h5.imp_right fun h => ?_)
        rcases h with h | h | ⟨_, h⟩
        · exact Or.inl h
        · exact Or.inr ((Nat.lt_or_eq_of_le h).imp Nat.le_of_lt_succ fun e => ⟨e, h4⟩)
        · exact Or.inl (Nat.le_antisymm h h3)
      · intro x y h1 h2 h3 h4 h5
        refine htd x y h1 h2 h3 h4 (h5.imp_right fun h => ?_)
        rcases h with h | ⟨_, h⟩
        · exact (Nat.lt_or_eq_of_le (Nat.le_of_lt_succ h)).imp_right fun e => ⟨e, Nat.lt_succ_of_le h4⟩
        · exact absurd h (Nat.not_lt.mpr h3))

include R₁ R₂ hi hj in
/-- **inner DP.** If the incoming `td` is right on every pair of the rectangle that is not on both
left-most paths, the outgoing `td` is right on the whole rectangle. -/
theorem computeForestDistance_ok (td : Table)
    (h : ∀ x y, lmlS T₁ i ≤ x → x ≤ i → lmlS T₂ j ≤ y → y ≤ j →
      ¬ (lmlS T₁ x = lmlS T₁ i ∧ lmlS T₂ y = lmlS T₂ j) → td (x + 1) (y + 1) = TD c T₁ T₂ x y) :
    ∀ x y, lmlS T₁ i ≤ x → x ≤ i → lmlS T₂ j ≤ y → y ≤ j →
      computeForestDistance c p₁ p₂ i j td (x + 1) (y + 1) = TD c T₁ T₂ x y := by
  unfold computeForestDistance
  rw [if_neg (by rw [R₁.n, R₂.n]; omega)]
  simp only [R₁.lml i hi, R₂.lml j hj]
  have hcol := initCol_ok c T₁ T₂ p₁ R₁ i j hi zeros rfl
  have hrow := initRow_ok c T₁ T₂ p₂ R₂ i j hj _ hcol
  have := mainLoop_ok c T₁ T₂ p₁ p₂ R₁ R₂ i j hi hj
    (initRow c p₂ (lmlS T₁ i) (lmlS T₂ j) j (initCol c p₁ (lmlS T₁ i) (lmlS T₂ j) i zeros), td)
    (by
      refine ⟨?_, ?_⟩
      · intro x' y' h1 h2 h3 h4 h5
        have hx : x' = lmlS T₁ i ∨ y' = lmlS T₂ j :=
          h5.elim Or.inl fun h => h.elim Or.inr fun h =>
            h.elim (fun hx => Or.inl (Nat.le_antisymm hx h1)) fun h => Or.inr (Nat.le_antisymm h.2 h3)
        cases hx with
        | inl hx => subst hx; exact hrow.2 y' h3 h4
        | inr hy => subst hy; exact hrow.1 x' h1 h2
      · intro x y h1 h2 h3 h4 h5
        exact h x y h1 h2 h3 h4 (h5.resolve_right fun h' =>
          h'.elim (Nat.not_lt.mpr h1) fun h'' => Nat.not_lt.mpr h3 h''.2))
  intro x y h1 h2 h3 h4
  exact this.2 x y h1 h2 h3 h4 (Or.inr (Or.inl (Nat.lt_succ_of_le h2)))

end Inner

/-! ## frame: which cells of `td` one call may write -/

/-- `td[a][b]` is written by `computeForestDistance … i j` only for nodes on both left-most paths -/
def Written (p₁ p₂ : Post) (i j a b : Nat) : Prop :=
  ∃ x y, a = x + 1 ∧ b = y + 1 ∧ p₁.lml i ≤ x ∧ x ≤ i ∧ p₂.lml j ≤ y ∧ y ≤ j ∧
    p₁.lml x = p₁.lml i ∧ p₂.lml y = p₂.lml j

theorem computeForestDistance_frame (c : Cost) (p₁ p₂ : Post) (i j : Nat) (td : Table) (a b : Nat)
    (h : ¬ Written p₁ p₂ i j a b) : computeForestDistance c p₁ p₂ i j td a b = td a b := by
  unfold computeForestDistance
  split
  · rfl
  · simp only []
    generalize initRow c p₂ (p₁.lml i) (p₂.lml j) j (initCol c p₁ (p₁.lml i) (p₂.lml j) i zeros) = fd
    unfold mainLoop
    have := forRange_inv
      (fun x st => forRange (fun y st => cell c p₁ p₂ (p₁.lml i) (p₂.lml j) x y st) (p₂.lml j) (j + 1 - p₂.lml j) st)
      (p₁.lml i) (fun _ st => st.2 a b = td a b) (i + 1 - p₁.lml i) (fd, td) rfl
      (by
        intro X st hX1 hX2 ih
        exact forRange_inv (fun y st => cell c p₁ p₂ (p₁.lml i) (p₂.lml j) X y st) (p₂.lml j)
          (fun _ st => st.2 a b = td a b) (j + 1 - p₂.lml j) st ih
          (by
            intro Y st hY1 hY2 ih'
            unfold cell
            simp only []
            split
            · rename_i hc
              simp only [setAt_apply]
              rw [if_neg]
              · exact ih'
              · intro hab
                exact h ⟨X, Y, hab.1, hab.2, hX1, le_of_lt_upto hX1 hX2, hY1, le_of_lt_upto hY1 hY2, hc.1, hc.2⟩
            · exact ih'))
    exact this

theorem isKey_iff (p : Post) (k : Nat) :
    isKey p k = true ↔ ∀ k', k < k' → k' < p.n → p.lml k' ≠ p.lml k := by
  unfold isKey
  simp only [List.all_eq_true, List.mem_range'_1, bne_iff_ne, ne_eq]
  constructor
  · intro h k' h1 h2; exact h k' (by omega)
  · intro h k' h1; exact h k' (by omega) (by omega)

/-- every node lies on the left-most path of a key root -/
theorem exists_key (p : Post) : ∀ (m x : Nat), p.n - x ≤ m → x < p.n →
    ∃ k, x ≤ k ∧ k < p.n ∧ isKey p k = true ∧ p.lml k = p.lml x := by
  intro m
  induction m with
  | zero => intro x h1 h2; omega
  | succ m ih =>
    intro x h1 h2
    by_cases hk : isKey p x = true
    · exact ⟨x, Nat.le_refl _, h2, hk, rfl⟩
    · rw [isKey_iff] at hk
      simp only [Classical.not_forall, Decidable.not_not] at hk
      obtain ⟨k', hk1, hk2, hk3⟩ := hk
      obtain ⟨k, e1, e2, e3, e4⟩ := ih k' (by omega) hk2
      exact ⟨k, by omega, e2, e3, by rw [e4, hk3]⟩

/-- a node of the rectangle of key root `i` that is off its left-most path belongs to a strictly
smaller key root -/
theorem key_lt (T : Tree) (i x k : Nat) (hi : i < T.size) (hx1 : lmlS T i ≤ x) (hx2 : x ≤ i)
    (hne : lmlS T x ≠ lmlS T i) (hk2 : k < T.size) (hk3 : lmlS T k = lmlS T x) : k < i := by
  have h1 := lmlS_laminar T i x hi hx1 hx2
  have h2 := lmlS_le T x
  by_cases hki : k ≤ i
  · have : k ≠ i := by intro h; subst h; exact hne hk3.symm
    omega
  · exfalso
    by_cases hl : lmlS T k ≤ i
    · have := lmlS_laminar T k i hk2 hl (by omega)
      omega
    · omega

theorem foldl_filter_range_inv {σ : Type} (q : Nat → Bool) (f : σ → Nat → σ) (P : Nat → σ → Prop) (s : σ) :
    ∀ (n : Nat), P 0 s →
      (∀ k st, k < n → P k st → (q k = true → P (k + 1) (f st k)) ∧ (q k = false → P (k + 1) st)) →
      P n (((List.range n).filter q).foldl f s) := by
  intro n
  induction n with
  | zero => intro h0 _; simpa using h0
  | succ n ih =>
    intro h0 hs
    have := ih h0 (fun k st hk => hs k st (Nat.lt_succ_of_lt hk))
    rw [List.range_succ, List.filter_append, List.foldl_append]
    cases hq : q n with
    | true => simp [hq]; exact (hs n _ (Nat.lt_succ_self n) this).1 hq
    | false => simp [hq]; exact (hs n _ (Nat.lt_succ_self n) this).2 hq

/-- `x` lies on the left-most path that starts at `k` -/
def OnPath (T : Tree) (k x : Nat) : Prop := lmlS T k ≤ x ∧ x ≤ k ∧ lmlS T x = lmlS T k

section Outer
variable (c : Cost) (T₁ T₂ : Tree) (p₁ p₂ : Post) (R₁ : Repr T₁ p₁) (R₂ : Repr T₂ p₂)

/-- all pairs of key roots `(i', j')` with `i' < I` have been processed -/
def OI (I : Nat) (td : Table) : Prop :=
  ∀ i' j' x y, i' < I → i' < T₁.size → isKey p₁ i' = true → j' < T₂.size → isKey p₂ j' = true →
    OnPath T₁ i' x → OnPath T₂ j' y → td (x + 1) (y + 1) = TD c T₁ T₂ x y

/-- … and also the pairs `(I, j')` with `j' < J` -/
def JI (I J : Nat) (td : Table) : Prop :=
  OI c T₁ T₂ p₁ p₂ I td ∧
  ∀ j' x y, j' < J → j' < T₂.size → isKey p₂ j' = true →
    OnPath T₁ I x → OnPath T₂ j' y → td (x + 1) (y + 1) = TD c T₁ T₂ x y

include R₁ in
theorem key_unique (i i' x : Nat) (hi : i < T₁.size) (hlt : i' < i) (hk : isKey p₁ i' = true)
    (h1 : lmlS T₁ x = lmlS T₁ i) (h2 : lmlS T₁ x = lmlS T₁ i') : False := by
  rw [isKey_iff] at hk
  apply hk i hlt (by rw [R₁.n]; exact hi)
  rw [R₁.lml i hi, R₁.lml i' (by omega)]; omega

include R₁ R₂ in
theorem step_ok (i j : Nat) (hi : i < T₁.size) (hj : j < T₂.size)
    (td : Table) (h : JI c T₁ T₂ p₁ p₂ i j td) :
    JI c T₁ T₂ p₁ p₂ i (j + 1) (computeForestDistance c p₁ p₂ i j td) := by
  obtain ⟨hO, hJ⟩ := h
  -- the cells the inner DP reads from `td` are right
  have hpre : ∀ x y, lmlS T₁ i ≤ x → x ≤ i → lmlS T₂ j ≤ y → y ≤ j →
      ¬ (lmlS T₁ x = lmlS T₁ i ∧ lmlS T₂ y = lmlS T₂ j) → td (x + 1) (y + 1) = TD c T₁ T₂ x y := by
    intro x y h1 h2 h3 h4 hc
    have hxs : x < T₁.size := Nat.lt_of_le_of_lt h2 hi
    have hys : y < T₂.size := Nat.lt_of_le_of_lt h4 hj
    obtain ⟨kx, a1, a2, a3, a4⟩ := exists_key p₁ _ x (Nat.le_refl _) (R₁.n ▸ hxs)
    obtain ⟨ky, b1, b2, b3, b4⟩ := exists_key p₂ _ y (Nat.le_refl _) (R₂.n ▸ hys)
    rw [R₁.n] at a2
    rw [R₂.n] at b2
    rw [R₁.lml kx a2, R₁.lml x hxs] at a4
    rw [R₂.lml ky b2, R₂.lml y hys] at b4
    have px : OnPath T₁ kx x := ⟨Nat.le_trans (Nat.le_of_eq a4) (lmlS_le T₁ x), a1, a4.symm⟩
    have py : OnPath T₂ ky y := ⟨Nat.le_trans (Nat.le_of_eq b4) (lmlS_le T₂ y), b1, b4.symm⟩
    by_cases hx : lmlS T₁ x = lmlS T₁ i
    · have hy : lmlS T₂ y ≠ lmlS T₂ j := fun hy => hc ⟨hx, hy⟩
      have := key_lt T₂ j y ky hj h3 h4 hy b2 b4
      exact hJ ky x y this b2 b3 ⟨h1, h2, hx⟩ py
    · have := key_lt T₁ i x kx hi h1 h2 hx a2 a4
      exact hO kx ky x y this a2 a3 b2 b3 px py
  have hok := computeForestDistance_ok c T₁ T₂ p₁ p₂ R₁ R₂ i j hi hj td hpre
  refine ⟨?_, ?_⟩
  · intro i' j' x y h1 h2 h3 h4 h5 h6 h7
    rw [computeForestDistance_frame]
    · exact hO i' j' x y h1 h2 h3 h4 h5 h6 h7
    · rintro ⟨x0, y0, e1, e2, e3, e4, e5, e6, e7, e8⟩
      have : x0 = x := (Nat.add_right_cancel e1).symm
      subst this
      rw [R₁.lml x0 (Nat.lt_of_le_of_lt e4 hi), R₁.lml i hi] at e7
      exact key_unique T₁ p₁ R₁ i i' x0 hi h1 h3 e7 h6.2.2
  · intro j' x y h1 h2 h3 h4 h5
    by_cases hjj : j' = j
    · subst hjj
      exact hok x y h4.1 h4.2.1 h5.1 h5.2.1
    · have hlt : j' < j := Nat.lt_of_le_of_ne (Nat.le_of_lt_succ h1) hjj
      rw [computeForestDistance_frame]
      · exact hJ j' x y hlt h2 h3 h4 h5
      · rintro ⟨x0, y0, e1, e2, e3, e4, e5, e6, e7, e8⟩
        have : y0 = y := (Nat.add_right_cancel e2).symm
        subst this
        rw [R₂.lml y0 (Nat.lt_of_le_of_lt e6 hj), R₂.lml j hj] at e8
        exact key_unique T₂ p₂ R₂ j j' y0 hj hlt h3 e8 h5.2.2

include R₁ R₂ in
theorem inner_fold_ok (i : Nat) (hi : i < T₁.size) (td : Table)
    (h : OI c T₁ T₂ p₁ p₂ i td) :
    OI c T₁ T₂ p₁ p₂ (i + 1)
      ((keyroots p₂).foldl (fun td j => computeForestDistance c p₁ p₂ i j td) td) := by
  have := foldl_filter_range_inv (isKey p₂) (fun td j => computeForestDistance c p₁ p₂ i j td)
    (fun J td => JI c T₁ T₂ p₁ p₂ i J td) td p₂.n
    ⟨h, by intro j' x y h1; omega⟩
    (by
      intro k st hk ih
      rw [R₂.n] at hk
      refine ⟨fun _ => step_ok c T₁ T₂ p₁ p₂ R₁ R₂ i k hi hk st ih, fun hq => ⟨ih.1, ?_⟩⟩
      intro j' x y h1 h2 h3 h4 h5
      have : j' ≠ k := by intro e; subst e; rw [hq] at h3; exact Bool.noConfusion h3
      exact ih.2 j' x y (Nat.lt_of_le_of_ne (Nat.le_of_lt_succ h1) this) h2 h3 h4 h5)
  obtain ⟨hO, hJ⟩ := this
  intro i' j' x y h1 h2 h3 h4 h5 h6 h7
  by_cases hii : i' = i
  · subst hii
    exact hJ j' x y (by rw [R₂.n]; exact h4) h4 h5 h6 h7
  · exact hO i' j' x y (Nat.lt_of_le_of_ne (Nat.le_of_lt_succ h1) hii) h2 h3 h4 h5 h6 h7

include R₁ R₂ in
theorem aptedTable_ok : OI c T₁ T₂ p₁ p₂ p₁.n (aptedTable c p₁ p₂ (keyroots p₁) (keyroots p₂)) := by
  unfold aptedTable
  exact foldl_filter_range_inv (isKey p₁)
    (fun td i => (keyroots p₂).foldl (fun td j => computeForestDistance c p₁ p₂ i j td) td)
    (fun I td => OI c T₁ T₂ p₁ p₂ I td) zeros p₁.n
    (by intro i' j' x y h1; omega)
    (by
      intro k st hk ih
      rw [R₁.n] at hk
      refine ⟨fun _ => inner_fold_ok c T₁ T₂ p₁ p₂ R₁ R₂ k hk st ih, fun hq => ?_⟩
      intro i' j' x y h1 h2 h3 h4 h5 h6 h7
      have : i' ≠ k := by intro e; subst e; rw [hq] at h3; exact Bool.noConfusion h3
      exact ih i' j' x y (Nat.lt_of_le_of_ne (Nat.le_of_lt_succ h1) this) h2 h3 h4 h5 h6 h7)

theorem root_isKey (T : Tree) (p : Post) (R : Repr T p) : isKey p (T.size - 1) = true := by
  rw [isKey_iff]; intro k' h1 h2; rw [R.n] at h2; omega

include R₁ R₂ in
theorem apted_ok : apted c p₁ p₂ (keyroots p₁) (keyroots p₂) = dist c T₁ T₂ := by
  have h := aptedTable_ok c T₁ T₂ p₁ p₂ R₁ R₂
  have s1 := size_pos T₁
  have s2 := size_pos T₂
  have r1 : T₁.size - 1 < T₁.size := Nat.sub_lt s1 Nat.one_pos
  have := h (T₁.size - 1) (T₂.size - 1) (T₁.size - 1) (T₂.size - 1) (R₁.n ▸ r1) r1
    (root_isKey T₁ p₁ R₁) (Nat.sub_lt s2 Nat.one_pos) (root_isKey T₂ p₂ R₂)
    ⟨lmlS_le _ _, Nat.le_refl _, rfl⟩ ⟨lmlS_le _ _, Nat.le_refl _, rfl⟩
  unfold apted
  rw [R₁.n, R₂.n]
  rw [Nat.sub_add_cancel s1, Nat.sub_add_cancel s2] at this
  rw [this]
  simp only [TD, sub_root, dist]

end Outer

end PV.ZSProof
