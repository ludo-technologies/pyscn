import PV.Proofs.CFGSound4
/-!
The soundness of the builder mirror on the fragment `okL3 inLoop inFin` (a `try` with a non-empty `finally` does not occur inside
a `finally` body), stated with a stack invariant `I3` that does not mention the final graph: outside `finally` bodies no context
is processing its `finally`.  `firstFin`, `tfX`, `tflX`, `Exits`, `Post3` are the vocabulary of the statement `sound_list3`; they
are written as in `CFGSound4` (namespace `S4`), whose theorems on the larger fragment `okL4` give the ones here, and, through
`okL ⊆ okL3`, those on the `try`-free fragment `okL`.
-/
namespace PV.CFGSound
open PV.CFG PV.Py

def firstFin (X : List Exc) : Option Nat := X.findSome? (fun c => c.fin)
def tfX (X : List Exc) : Option Nat := X.findSome? (fun c => if c.processingFinally then none else c.fin)
def tflX (X : List Exc) (d : Nat) : Option Nat :=
  (X.take (X.length - d)).findSome? (fun c => if c.processingFinally then none else c.fin)

theorem targetFinally_eq (st : St) : targetFinally st = tfX st.excs := rfl
theorem targetFinallyLoop_eq (st : St) (d : Nat) : targetFinallyLoop st d = tflX st.excs d := rfl

structure Exits (E : List Edge) (L : List (Nat × Nat × Nat)) (X : List Exc) (b c r x : Bool) : Prop where
  brk : b = true → ∀ h y d rest, L = (h, y, d) :: rest → R E ((tflX X d).getD y)
  cont : c = true → ∀ h y d rest, L = (h, y, d) :: rest → R E ((tflX X d).getD h)
  ret : r = true → R E ((firstFin X).getD exitB)
  raise : x = true → ∀ t, tfX X = some t → R E t

section exits
variable {E : List Edge} {L : List (Nat × Nat × Nat)} {X : List Exc}

theorem Exits.imp {b c r x b' c' r' x' : Bool} (h : Exits E L X b c r x) (hb : b' = true → b = true) (hc : c' = true → c = true)
    (hr : r' = true → r = true) (hx : x' = true → x = true) : Exits E L X b' c' r' x' :=
  ⟨fun h' => h.brk (hb h'), fun h' => h.cont (hc h'), fun h' => h.ret (hr h'), fun h' => h.raise (hx h')⟩
end exits

structure I3 (il inFin : Bool) (L : List (Nat × Nat × Nat)) (X : List Exc) : Prop where
  loops : il = true → L ≠ []
  noProc : inFin = false → ∀ c ∈ X, c.processingFinally = false
  depth : ∀ h x d rest, L = (h, x, d) :: rest → d ≤ X.length

structure Post3 (E : List Edge) (S : List SRec) (L : List (Nat × Nat × Nat)) (X : List Exc) (st' : St) (r : SX) : Prop where
  lines : ∀ l ∈ r.lines, Good E S l
  normal : r.ex.normal = true → Entry E st'
  exits : Exits E L X r.ex.brk r.ex.cont r.ex.ret r.ex.raise

theorem I3.toIG {E : List Edge} {il f : Bool} {L : List (Nat × Nat × Nat)} {X : List Exc} (h : I3 il f L X) : S4.IG E il f L X :=
  ⟨h.loops, fun hf => S4.PI.of_noProc X (h.noProc hf), h.depth⟩

/-- `S4.Post3` and `Post3` have the same fields (`S4.tflX`, `S4.firstFin`, `S4.tfX` unfold to the functions here) -/
theorem Post3.of_S4 {E : List Edge} {S : List SRec} {L : List (Nat × Nat × Nat)} {X : List Exc} {st' : St} {r : SX}
    (h : S4.Post3 E S L X st' r) : Post3 E S L X st' r :=
  ⟨h.lines, h.normal, ⟨h.exits.brk, h.exits.cont, h.exits.ret, h.exits.raise⟩⟩

theorem sound_list3 : ∀ (ss : List Stmt) (il f : Bool) (st : St), WF st → I3 il f st.loops st.excs → okL3 il f ss = true →
    ∀ (E : List Edge) (S : List SRec), (∀ e ∈ (procList st ss).edges, e ∈ E) → (∀ r ∈ (procList st ss).stmts, r ∈ S) →
      Entry E st → Post3 E S st.loops st.excs (procList st ss) (sxL ss) := by
  intro ss il f st w hi hok E S h1 h2 he
  exact .of_S4 (S4.sound_listG ss il f f st E S w hi.toIG (.ofS3 hok) h1 h2 he)

theorem live_le_sx3 : ∀ (ss : List Stmt) (il f : Bool), okL3 il f ss = true →
    (∀ l ∈ (live ss).lines, l ∈ (sxL ss).lines ∨ l ∈ (sxL ss).skipped) ∧
    ((live ss).outs.normal = true → (sxL ss).ex.normal = true) ∧ ((live ss).outs.brk = true → (sxL ss).ex.brk = true) ∧
    ((live ss).outs.cont = true → (sxL ss).ex.cont = true) :=
  fun ss il f hok => S4.live_le_sx3 ss il f (S4_of_okL4 ss il f (okL4_of_okL3 ss il f hok))

theorem build_sound3 (k : Kind) (s e : Nat) (body : List Stmt) (hok : okL3 false false body = true) :
    ∀ l ∈ (sxL body).lines, ∃ r ∈ (build k s e body).stmts, r.s = l ∧ r.blk ∈ reachable (build k s e body) :=
  build_sound4 k s e body (okL4_of_okL3 body false false hok)

theorem mirror_sound3 (k : Kind) (s e : Nat) (body : List Stmt) (hok : okL3 false false body = true) {o : Out} {tr : List Nat}
    (ex : Exec body o tr) :
    ∀ l ∈ tr, l ∈ (sxL body).skipped ∨ ∃ r ∈ (build k s e body).stmts, r.s = l ∧ r.blk ∈ reachable (build k s e body) :=
  mirror_sound4 k s e body (okL4_of_okL3 body false false hok) ex

/-! ### the `try`-free fragment `okL` is a special case -/
theorem live_le_sx : ∀ (ss : List Stmt) (il : Bool), okL il ss = true →
    (∀ l ∈ (live ss).lines, l ∈ (sxL ss).lines ∨ l ∈ (sxL ss).skipped) ∧
    ((live ss).outs.normal = true → (sxL ss).ex.normal = true) ∧ ((live ss).outs.brk = true → (sxL ss).ex.brk = true) ∧
    ((live ss).outs.cont = true → (sxL ss).ex.cont = true) :=
  fun ss il hok => live_le_sx3 ss il false (okL3_of_okL ss il false hok)

theorem build_sound (k : Kind) (s e : Nat) (body : List Stmt) (hok : okL false body = true) :
    ∀ l ∈ (sxL body).lines, ∃ r ∈ (build k s e body).stmts, r.s = l ∧ r.blk ∈ reachable (build k s e body) :=
  build_sound3 k s e body (okL3_of_okL body false false hok)

theorem mirror_sound (k : Kind) (s e : Nat) (body : List Stmt) (hok : okL false body = true) {o : Out} {tr : List Nat}
    (ex : Exec body o tr) :
    ∀ l ∈ tr, l ∈ (sxL body).skipped ∨ ∃ r ∈ (build k s e body).stmts, r.s = l ∧ r.blk ∈ reachable (build k s e body) :=
  mirror_sound3 k s e body (okL3_of_okL body false false hok) ex

end PV.CFGSound

#print axioms PV.CFGSound.sound_list3
#print axioms PV.CFGSound.live_le_sx3
#print axioms PV.CFGSound.build_sound3
#print axioms PV.CFGSound.mirror_sound3
#print axioms PV.CFGSound.live_le_sx
#print axioms PV.CFGSound.build_sound
#print axioms PV.CFGSound.mirror_sound
