import PV.Proofs.EditScript
import PV.Proofs.ZSCorrect
/-!
# C07 (edit scripts) — the distance IS the minimum total cost of an edit script

`PV/Properties/C07.lean` proves facts about the forest-distance RECURSION `PV.TED.ted`; `C07x.lean`
ties the Zhang–Shasha mirror `PV.ZS.zsDist` to it.  This file states the property
as users read it: "the distance equals the minimum total cost of node insertions, deletions and
relabelings that transform one tree into the other under the selected cost model".

`Step`, `Script`, `Metric` and the order conventions (`tedN c F G = ted c F.reverse G.reverse`) are those of
`PV/Model/EditScript.lean`, defined independently of the recursion.

Results: achievability holds for EVERY cost model; optimality needs `Metric c`, and each of its
clauses is necessary (`C07_nonmetric_*`; for `ren_tri` and `ren_self` provided delete + insert is not cheaper still).  pyscn's shipped `PythonCostModel` is not a metric
(`C07_pyLike_counterexample`), so for it the reported distance is the value of the recursion — the
minimum over Tai MAPPINGS, in which every node is touched at most once (not proved here) — and can exceed the cheapest
multi-operation script.
-/
namespace PV.C07
open PV.TED PV.ZS PV.EditScript

/-- **C07 (scripts, achievability).** For EVERY cost model and all forests there is an edit script
from `F` to `G` whose total cost is exactly the value of the recursion. -/
theorem C07_script_achieves (c : Cost) (F G : List Tree) :
    ∃ k, Script c F G k ∧ k = ted c F.reverse G.reverse :=
  ⟨_, script_achieves c F G, rfl⟩

/-- **C07 (triangle inequality).** Under a metric cost model the recursion satisfies the triangle
inequality (in `ted`'s own convention; no reversal involved). -/
theorem C07_triangle (c : Cost) (hm : Metric c) (F G H : List Tree) :
    ted c F H ≤ ted c F G + ted c G H :=
  ted_triangle c hm F G H

/-- **C07 (one operation).** If relabelling a node to itself is free, a single operation of cost `k`
moves the forest by distance at most `k`. -/
theorem C07_step_le (c : Cost) (h0 : ∀ a, c.ren a a = 0) (F G : List Tree) (k : Nat)
    (s : Step c F G k) : ted c F.reverse G.reverse ≤ k :=
  step_ted_le c h0 s

/-- **C07 (scripts, optimality).** Under a metric cost model NO edit script from `F` to `G` is cheaper
than the value of the recursion. -/
theorem C07_script_optimal (c : Cost) (hm : Metric c) (F G : List Tree) (k : Nat)
    (s : Script c F G k) : ted c F.reverse G.reverse ≤ k :=
  script_optimal c hm s

/-- **C07 (minimum script cost, forests).** Under a metric cost model the recursion's value is the
minimum of the set of total costs of edit scripts from `F` to `G`: it is attained and it is a lower
bound. -/
theorem C07_min_script (c : Cost) (hm : Metric c) (F G : List Tree) :
    (∃ k, Script c F G k ∧ k = ted c F.reverse G.reverse) ∧
    (∀ k, Script c F G k → ted c F.reverse G.reverse ≤ k) :=
  ⟨C07_script_achieves c F G, fun _ s => script_optimal c hm s⟩

/-- **C07 (minimum script cost, trees).** `dist c t₁ t₂` is the minimum total cost of insertions,
deletions and relabelings transforming `t₁` into `t₂`, under a metric cost model. -/
theorem C07_min_script_tree (c : Cost) (hm : Metric c) (t₁ t₂ : Tree) :
    (∃ k, Script c [t₁] [t₂] k ∧ k = dist c t₁ t₂) ∧
    (∀ k, Script c [t₁] [t₂] k → dist c t₁ t₂ ≤ k) :=
  C07_min_script c hm [t₁] [t₂]

/-- **C07 (mirror, achievability).** The value computed by the Zhang–Shasha mirror is the total cost of
some edit script — for EVERY cost model (so the mirror never under-reports what its own alignment costs). -/
theorem C07_zs_script_achieves (c : Cost) (t₁ t₂ : Tree) : Script c [t₁] [t₂] (zsDist c t₁ t₂) := by
  rw [PV.ZS.zs_correct]; exact script_achieves c [t₁] [t₂]

/-- **C07 (mirror = minimum script cost).** Under a metric cost model the Zhang–Shasha mirror of pyscn's
implementation computes the minimum total cost of an edit script between the two trees. -/
theorem C07_zs_min_script (c : Cost) (hm : Metric c) (t₁ t₂ : Tree) :
    (∃ k, Script c [t₁] [t₂] k ∧ k = zsDist c t₁ t₂) ∧
    (∀ k, Script c [t₁] [t₂] k → zsDist c t₁ t₂ ≤ k) := by
  rw [PV.ZS.zs_correct]; exact C07_min_script_tree c hm t₁ t₂

/-- **C07 (sanity of `Step`).** One operation changes the number of nodes by 0, −1 or +1. -/
theorem C07_step_size (c : Cost) (F G : List Tree) (k : Nat) (s : Step c F G k) :
    sizeL G = sizeL F ∨ sizeL G + 1 = sizeL F ∨ sizeL G = sizeL F + 1 := by
  induction s with
  | ren a b cs => left; simp [sizeL, Tree.size]
  | del a cs => right; left; simp [sizeL, Tree.size]; omega
  | ins b cs => right; right; simp [sizeL, Tree.size]; omega
  | ctx L R s ih => simp only [sizeL_append]; omega
  | down a s ih => simp only [sizeL, Tree.size]; omega

/-! ## the `Metric` hypothesis cannot be dropped -/

/-- **C07 (necessity of `del_tri`).** Whenever relabel-then-delete is cheaper than delete for some pair
of labels, a two-operation script is strictly cheaper than the recursion's value. -/
theorem C07_nonmetric_del (c : Cost) (a b : Nat) (h : c.ren a b + c.del b < c.del a) :
    ∃ k, Script c [.node a []] [] k ∧ k < ted c [.node a []] [] := by
  refine ⟨c.ren a b + (c.del b + 0), Script.cons (Step.ren a b []) (Script.cons (Step.del b []) (Script.nil _)), ?_⟩
  rw [ted_leaf_nil]
  omega

/-- **C07 (necessity of `ins_tri`).** Whenever insert-then-relabel is cheaper than insert for some pair of labels, a
two-operation script is strictly cheaper than the recursion's value. -/
theorem C07_nonmetric_ins (c : Cost) (a b : Nat) (h : c.ins a + c.ren a b < c.ins b) :
    ∃ k, Script c [] [.node b []] k ∧ k < ted c [] [.node b []] := by
  refine ⟨c.ins a + (c.ren a b + 0), Script.cons (Step.ins a []) (Script.cons (Step.ren a b []) (Script.nil _)), ?_⟩
  rw [ted_nil_leaf]
  omega

/-- **C07 (necessity of `ren_tri`)** (when the detour also beats delete + insert). -/
theorem C07_nonmetric_ren (c : Cost) (a b d : Nat) (h : c.ren a b + c.ren b d < c.ren a d)
    (h' : c.ren a b + c.ren b d < c.del a + c.ins d) :
    ∃ k, Script c [.node a []] [.node d []] k ∧ k < ted c [.node a []] [.node d []] := by
  refine ⟨c.ren a b + (c.ren b d + 0), Script.cons (Step.ren a b []) (Script.cons (Step.ren b d []) (Script.nil _)), ?_⟩
  rw [ted_leaf_leaf]
  omega

/-- **C07 (necessity of `ren_self`)** (when delete + insert is not free either): the EMPTY script is
strictly cheaper than the recursion's value for a tree against itself. -/
theorem C07_nonmetric_ren_self (c : Cost) (a : Nat) (h : c.ren a a ≠ 0) (h' : c.del a + c.ins a ≠ 0) :
    ∃ k, Script c [.node a []] [.node a []] k ∧ k < ted c [.node a []] [.node a []] := by
  refine ⟨0, Script.nil _, ?_⟩
  rw [ted_leaf_leaf]
  omega

/-- **C07 (non-metric counter-example).** A concrete cost model violating `del a ≤ ren a b + del b`
(`badCost`: deleting label 0 costs 10, every other operation 1, identity relabelling 0): the
two-operation script relabel 0 ↦ 1, delete 1 costs 2 while the recursion's value is 10 — so optimality
FAILS without `Metric`, although `ren a a = 0` and the self-distance is 0. -/
theorem C07_nonmetric_counterexample :
    Script badCost [.node 0 []] [] 2 ∧ dist badCost (.node 0 []) (.node 0 []) = 0 ∧
    ted badCost [.node 0 []] [] = 10 ∧
    ¬ (∀ k, Script badCost [.node 0 []] [] k → ted badCost [.node 0 []] [] ≤ k) := by
  have s : Script badCost [.node 0 []] [] 2 :=
    Script.cons (Step.ren 0 1 []) (Script.cons (Step.del 1 []) (Script.nil _))
  have e : ted badCost [.node 0 []] [] = 10 := by rw [ted_leaf_nil]; rfl
  refine ⟨s, ?_, e, fun h => ?_⟩
  · simp [dist, ted_leaf_leaf, badCost]
  · have := h 2 s
    omega

/-- **C07 (pyscn-shaped cost model is not a metric).** With insert/delete multipliers 1.5 (structural)
and 0.1 (boilerplate) and rename cost capped at 1.0 — the defaults of the shipped `PythonCostModel` —
`del` violates the triangle inequality; on the tree pair "root with one structural leaf" vs "root" the
recursion (and by `PV.ZS.zs_correct` Zhang–Shasha) reports 1500 although a script of cost 1100 exists. -/
theorem C07_pyLike_counterexample :
    ¬ Metric pyLikeCost ∧
    zsDist pyLikeCost (.node 2 [.node 0 []]) (.node 2 []) = 1500 ∧
    Script pyLikeCost [.node 2 [.node 0 []]] [.node 2 []] 1100 := by
  refine ⟨pyLikeCost_not_metric, ?_, ?_⟩
  · rw [PV.ZS.zs_correct]; decide +kernel
  · exact Script.cons (Step.down 2 (Step.ren 0 1 [])) (Script.cons (Step.down 2 (Step.del 1 [])) (Script.nil _))

/-- non-vacuity of `Metric`: the unit cost model is a metric -/
example : Metric ⟨fun _ => 1, fun _ => 1, fun a b => if a = b then 0 else 1⟩ := by
  refine ⟨fun a => by simp, fun a b d => ?_, fun a b => ?_, fun a b => ?_⟩
  · by_cases h1 : a = d <;> by_cases h2 : a = b <;> by_cases h3 : b = d <;> simp_all
  · simp only []; omega
  · simp only []; omega

/-- non-vacuity of `Metric`: a weighted, ASYMMETRIC cost model (insert ≠ delete) that is a metric -/
example : Metric ⟨fun a => 1000 + a, fun a => 900 + a, fun a b => if a = b then 0 else 800 + a + b⟩ := by
  refine ⟨fun a => by simp, fun a b d => ?_, fun a b => ?_, fun a b => ?_⟩
  all_goals simp only []
  · by_cases h1 : a = d <;> by_cases h2 : a = b <;> by_cases h3 : b = d <;> simp_all <;> omega
  · by_cases h : a = b <;> simp [h]; omega
  · by_cases h : a = b <;> simp [h]; omega

/-- the weighted test cost model `wCost` of `ZSCorrect` (insert `900 + 2a`) is NOT a metric: inserting
label 0 and relabelling it to 1000 (900 + 1800) is cheaper than inserting label 1000 (2900) -/
example : ¬ Metric PV.ZSProof.wCost := fun hm => by
  have := hm.ins_tri 0 1000
  simp [PV.ZSProof.wCost] at this

end PV.C07

#print axioms PV.C07.C07_script_achieves
#print axioms PV.C07.C07_triangle
#print axioms PV.C07.C07_step_le
#print axioms PV.C07.C07_script_optimal
#print axioms PV.C07.C07_min_script
#print axioms PV.C07.C07_min_script_tree
#print axioms PV.C07.C07_zs_script_achieves
#print axioms PV.C07.C07_zs_min_script
#print axioms PV.C07.C07_nonmetric_del
#print axioms PV.C07.C07_nonmetric_ins
#print axioms PV.C07.C07_nonmetric_ren
#print axioms PV.C07.C07_nonmetric_ren_self
#print axioms PV.C07.C07_nonmetric_counterexample
#print axioms PV.C07.C07_pyLike_counterexample
