import PV.Model.LCOM
import PV.Properties.C11
import PV.Generated.RiskLCOM
import Mathlib.Data.List.Nodup
/-!
# C14 — LCOM4 is the number of connected components of the method graph
-/
namespace PV.C14
open PV.SCC PV.LCOM PV.C11

theorem adj_symm (c : Cls) (i j : Nat) : adj c i j = adj c j i := by
  unfold adj
  have hs : shares c i j = shares c j i := by
    unfold shares
    rw [Bool.eq_iff_iff, List.any_eq_true, List.any_eq_true]
    constructor <;> (rintro ⟨a, ha, hb⟩; exact ⟨a, by simpa using hb, by simpa using ha⟩)
  rw [hs, bne_comm, Bool.or_assoc, Bool.or_assoc, Bool.or_comm (callsB c i j)]

theorem mem_graph {c : Cls} {i j : Nat} : (i, j) ∈ (graph c).edges ↔ i < c.n ∧ j < c.n ∧ adj c i j = true := by
  unfold graph
  simp only [List.mem_flatMap, List.mem_map, List.mem_filter, List.mem_range, Prod.mk.injEq]
  constructor
  · rintro ⟨a, ha, b, ⟨hb, hadj⟩, rfl, rfl⟩; exact ⟨ha, hb, hadj⟩
  · rintro ⟨hi, hj, hadj⟩; exact ⟨i, hi, j, ⟨hj, hadj⟩, rfl, rfl⟩

/-- in the (symmetric) method graph reachability is symmetric: mutual reachability = connectivity -/
theorem reach_symm (c : Cls) {u v : Nat} (h : Reach (graph c) u v) : Reach (graph c) v u := by
  refine h.least (r := fun a b => Reach (graph c) b a) Reach.refl (fun h1 h2 => h2.trans h1) (fun he => ?_)
  have := mem_graph.mp he
  exact Reach.edge (mem_graph.mpr ⟨this.2.1, this.1, by rw [adj_symm]; exact this.2.2⟩)

/-- **C14.** Two instance methods are in the same reported group iff they are connected in the method graph (share a
`self` attribute or call one another through `self`, transitively); the groups partition the instance methods, and
LCOM4 is their number. -/
theorem C14_components (c : Cls) (gs : List (List Nat)) (h : groups c = some gs) :
    (∀ u v, u < c.n → v < c.n → ((∃ g ∈ gs, u ∈ g ∧ v ∈ g) ↔ Reach (graph c) u v)) ∧
    gs.Nodup ∧ (∀ g ∈ gs, g ≠ [] ∧ g.Nodup ∧ ∀ x ∈ g, x < c.n) ∧
    (∀ g₁ ∈ gs, ∀ g₂ ∈ gs, ∀ x, x ∈ g₁ → x ∈ g₂ → g₁ = g₂) ∧
    (1 < c.n → lcom4 c = some gs.length) := by
  unfold groups at h
  have hp := classes_partition (graph c) gs h
  refine ⟨?_, hp.1, fun g hg => ⟨(hp.2.1 g hg).1, (hp.2.1 g hg).2.1, (hp.2.1 g hg).2.2.2⟩, hp.2.2, ?_⟩
  · intro u v hu hv
    rw [classes_spec (graph c) gs h u v hu hv]
    exact ⟨fun m => m.1, fun r => ⟨r, reach_symm c r⟩⟩
  · intro hn
    unfold lcom4 groups
    rw [if_neg (by omega), h]; rfl

/-- **C14 (small classes).** At most one instance method ⇒ LCOM4 = 1. -/
theorem C14_small (c : Cls) (h : c.n ≤ 1) : lcom4 c = some 1 := by
  unfold lcom4; rw [if_pos h]

theorem C14_same_connectivity (g₁ g₂ : G) (h₁₂ : ∀ a b, (a, b) ∈ g₁.edges → Reach g₂ a b) {u v : Nat} (h : Reach g₁ u v) :
    Reach g₂ u v :=
  h.least Reach.refl Reach.trans (h₁₂ _ _)

/-- **C14 (star = clique).** Joining all methods that share a variable to the FIRST of them (what the implementation
does) yields the same connectivity, hence the same components, as joining every pair (what the property says): every
edge of one graph is a connection in the other. -/
theorem C14_star_eq_clique (n : Nat) (rest : List (Nat × Nat)) (l : List Nat) (m0 : Nat) {u v : Nat} :
    let star : G := { n := n, edges := rest ++ l.flatMap (fun x => [(m0, x), (x, m0)]) }
    let clique : G := { n := n, edges := rest ++ (m0 :: l).flatMap (fun x => (m0 :: l).map (fun y => (x, y))) }
    Reach star u v ↔ Reach clique u v := by
  intro star clique
  constructor
  · apply C14_same_connectivity
    intro a b hab
    rcases List.mem_append.mp hab with h | h
    · exact Reach.edge (List.mem_append.mpr (.inl h))
    · obtain ⟨x, hx, hm⟩ := List.mem_flatMap.mp h
      refine Reach.edge (List.mem_append.mpr (.inr ?_))
      simp only [List.mem_cons, Prod.mk.injEq, List.not_mem_nil, or_false] at hm
      rcases hm with ⟨rfl, rfl⟩ | ⟨rfl, rfl⟩
      · exact List.mem_flatMap.mpr ⟨a, by simp, List.mem_map.mpr ⟨b, by simp [hx], rfl⟩⟩
      · exact List.mem_flatMap.mpr ⟨a, by simp [hx], List.mem_map.mpr ⟨b, by simp, rfl⟩⟩
  · apply C14_same_connectivity
    intro a b hab
    rcases List.mem_append.mp hab with h | h
    · exact Reach.edge (List.mem_append.mpr (.inl h))
    · obtain ⟨x, hx, hm⟩ := List.mem_flatMap.mp h
      obtain ⟨y, hy, hxy⟩ := List.mem_map.mp hm
      cases hxy
      -- a → m0 → b through star edges (or trivial when an endpoint is m0)
      have toM : ∀ z ∈ m0 :: l, Reach star z m0 ∧ Reach star m0 z := by
        intro z hz
        rcases List.mem_cons.mp hz with rfl | hz
        · exact ⟨Reach.refl _, Reach.refl _⟩
        · have e1 : (z, m0) ∈ star.edges := List.mem_append.mpr (.inr (List.mem_flatMap.mpr ⟨z, hz, by simp⟩))
          have e2 : (m0, z) ∈ star.edges := List.mem_append.mpr (.inr (List.mem_flatMap.mpr ⟨z, hz, by simp⟩))
          exact ⟨Reach.edge e1, Reach.edge e2⟩
      exact (toM a hx).1.trans (toM b hy).2

/-- **C14 (risk).** Risk level exactly by the two thresholds (translated from `LCOMAnalyzer.assessRiskLevel`). -/
theorem C14_risk (F : Type) [Arith F] (v lo med : Int) :
    PV.Generated.RiskLCOM.assessRiskLevel F v lo med = (if v ≤ lo then "low" else if v ≤ med then "medium" else "high") := rfl

/-- non-vacuity: 4 methods, {0,1} share attribute 7, 2 calls 3 -/
example : lcom4 { n := 4, attrs := [[7], [7, 8], [], [9]], calls := [[], [], [3], []] } = some 2 := by decide +kernel

end PV.C14
