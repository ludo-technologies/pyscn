import PV.Model.Agg
import PV.Properties.SummaryFactsExpected
import PV.Generated.CxSummaryFacts
import PV.Generated.DeadSummaryFacts
import PV.Generated.CBOSummaryFacts
import PV.Generated.LCOMSummaryFacts
import PV.Generated.CloneStatsFacts
import Mathlib.Data.List.Basic
import Mathlib.Algebra.GroupWithZero.Nat
import Mathlib.Algebra.Ring.Int.Defs
/-!
# C16 — a report is internally consistent

Theorems about the summary pass `PV.Agg.aggregate` (every total, count, sum, minimum, maximum and per-class count equals the value
recomputed from the items) and about the minimum filters. The Go loops are pinned to this shape by a regenerated fact table
(`C16_facts`); the check recomputes every summary field of real reports with the model and compares formats.
-/
namespace PV.C16
open PV PV.Agg

theorem countOf_bump (cs : List (String × Nat)) (k k' : String) :
    countOf (bump cs k) k' = countOf cs k' + (if k = k' then 1 else 0) := by
  induction cs with
  | nil =>
    unfold bump countOf
    by_cases h : k = k' <;> simp [List.find?, h]
  | cons c cs ih =>
    obtain ⟨c1, c2⟩ := c
    unfold bump
    by_cases h1 : c1 = k
    · subst h1
      by_cases h2 : c1 = k'
      · subst h2; simp [countOf, List.find?]
      · simp [countOf, List.find?, h2]
    · simp only [h1, if_false]
      by_cases h2 : c1 = k'
      · subst h2
        have : ¬ k = c1 := fun h => h1 h.symm
        simp [countOf, List.find?, this]
      · have := ih
        unfold countOf at this ⊢
        simp only [List.find?, h2, decide_false]
        exact this

structure Inv (init : Agg) (items : List (Int × String)) (a : Agg) : Prop where
  total : a.total = init.total + items.length
  sum : a.sum = init.sum + (items.map (·.1)).sum
  maxGe : init.max ≤ a.max ∧ ∀ x ∈ items, x.1 ≤ a.max
  maxIn : a.max = init.max ∨ ∃ x ∈ items, x.1 = a.max
  minLe : a.min ≤ init.min ∧ ∀ x ∈ items, a.min ≤ x.1
  minIn : a.min = init.min ∨ ∃ x ∈ items, x.1 = a.min
  cls : ∀ k, countOf a.classes k = countOf init.classes k + (items.filter fun x => x.2 = k).length

theorem le_step_max (a : Agg) (x : Int × String) : a.max ≤ (step a x).max ∧ x.1 ≤ (step a x).max := by
  unfold step
  simp only
  split
  · next h => exact ⟨Int.le_of_lt h, Int.le_refl _⟩
  · next h => exact ⟨Int.le_refl _, Int.not_lt.mp h⟩

theorem step_max_cases (a : Agg) (x : Int × String) : (step a x).max = a.max ∨ x.1 = (step a x).max := by
  unfold step
  simp only
  split
  · exact Or.inr rfl
  · exact Or.inl rfl

theorem step_min_le (a : Agg) (x : Int × String) : (step a x).min ≤ a.min ∧ (step a x).min ≤ x.1 := by
  unfold step
  simp only
  split
  · next h => exact ⟨Int.le_of_lt h, Int.le_refl _⟩
  · next h => exact ⟨Int.le_refl _, Int.not_lt.mp h⟩

theorem step_min_cases (a : Agg) (x : Int × String) : (step a x).min = a.min ∨ x.1 = (step a x).min := by
  unfold step
  simp only
  split
  · exact Or.inr rfl
  · exact Or.inl rfl

theorem length_filter_cons_eq (x : Int × String) (items : List (Int × String)) (k : String) :
    ((x :: items).filter fun y => y.2 = k).length = (items.filter fun y => y.2 = k).length + (if x.2 = k then 1 else 0) := by
  rw [List.filter_cons]
  by_cases hk : x.2 = k
  · rw [if_pos (decide_eq_true hk), if_pos hk, List.length_cons]
  · rw [if_neg fun h => hk (of_decide_eq_true h), if_neg hk, Nat.add_zero]

theorem fold_inv (items : List (Int × String)) : ∀ init : Agg, Inv init items (items.foldl step init) := by
  induction items with
  | nil =>
    intro init
    exact ⟨rfl, (Int.add_zero _).symm, ⟨Int.le_refl _, fun _ h => nomatch h⟩, Or.inl rfl, ⟨Int.le_refl _, fun _ h => nomatch h⟩,
      Or.inl rfl, fun _ => rfl⟩
  | cons x items ih =>
    intro init
    rw [List.foldl_cons]
    have h := ih (step init x)
    have hmax := le_step_max init x
    have hmin := step_min_le init x
    refine ⟨?_, ?_, ⟨?_, ?_⟩, ?_, ⟨?_, ?_⟩, ?_, ?_⟩
    · rw [h.total, List.length_cons]
      exact Nat.add_right_comm init.total 1 items.length
    · rw [h.sum, List.map_cons, List.sum_cons]
      exact Int.add_assoc init.sum x.1 _
    · exact Int.le_trans hmax.1 h.maxGe.1
    · intro y hy
      rcases List.mem_cons.mp hy with rfl | hy
      · exact Int.le_trans hmax.2 h.maxGe.1
      · exact h.maxGe.2 y hy
    · rcases h.maxIn with he | ⟨y, hy, hye⟩
      · rw [he]
        exact (step_max_cases init x).imp_right fun hx => ⟨x, List.mem_cons_self, hx⟩
      · exact Or.inr ⟨y, List.mem_cons_of_mem _ hy, hye⟩
    · exact Int.le_trans h.minLe.1 hmin.1
    · intro y hy
      rcases List.mem_cons.mp hy with rfl | hy
      · exact Int.le_trans h.minLe.1 hmin.2
      · exact h.minLe.2 y hy
    · rcases h.minIn with he | ⟨y, hy, hye⟩
      · rw [he]
        exact (step_min_cases init x).imp_right fun hx => ⟨x, List.mem_cons_self, hx⟩
      · exact Or.inr ⟨y, List.mem_cons_of_mem _ hy, hye⟩
    · intro k
      rw [h.cls k, length_filter_cons_eq]
      show countOf (bump init.classes x.2) k + _ = _
      rw [countOf_bump]
      omega

/-- **Totals and sums.** -/
theorem C16_total_sum (items : List (Int × String)) :
    (aggregate items).total = items.length ∧ (aggregate items).sum = (items.map (·.1)).sum := by
  cases items with
  | nil => exact ⟨rfl, rfl⟩
  | cons x xs =>
    have h := fold_inv (x :: xs) ⟨0, 0, 0, x.1, []⟩
    exact ⟨by rw [aggregate, h.total]; simp, by rw [aggregate, h.sum]; simp⟩

/-- **Minimum**: a lower bound of the items that one of them attains. -/
theorem C16_min (x : Int × String) (xs : List (Int × String)) :
    (∀ y ∈ x :: xs, (aggregate (x :: xs)).min ≤ y.1) ∧ ∃ y ∈ x :: xs, y.1 = (aggregate (x :: xs)).min := by
  have h := fold_inv (x :: xs) ⟨0, 0, 0, x.1, []⟩
  refine ⟨h.minLe.2, ?_⟩
  rcases h.minIn with he | hin
  · exact ⟨x, List.mem_cons_self, by rw [aggregate, he]⟩
  · exact hin

/-- **Maximum**: an upper bound of the items; attained by one of them as soon as one item is positive (the loop starts at 0; all the
summarised quantities — complexities, counts, LCOM4 — are non-negative, for them the maximum of an all-zero list is 0 as well). -/
theorem C16_max (x : Int × String) (xs : List (Int × String)) :
    (∀ y ∈ x :: xs, y.1 ≤ (aggregate (x :: xs)).max) ∧
    ((∃ y ∈ x :: xs, 0 < y.1) → ∃ y ∈ x :: xs, y.1 = (aggregate (x :: xs)).max) ∧
    ((∀ y ∈ x :: xs, y.1 = 0) → (aggregate (x :: xs)).max = 0) := by
  have h := fold_inv (x :: xs) ⟨0, 0, 0, x.1, []⟩
  refine ⟨h.maxGe.2, ?_, ?_⟩
  · rintro ⟨y, hy, hpos⟩
    rcases h.maxIn with he | hin
    · have := h.maxGe.2 y hy
      rw [he] at this; simp at this; omega
    · exact hin
  · intro hz
    rcases h.maxIn with he | ⟨y, hy, hye⟩
    · exact he
    · rw [aggregate, ← hye]; exact hz y hy

/-- **Average between minimum and maximum**: `min · n ≤ sum ≤ max · n`. -/
theorem C16_average_bounds (x : Int × String) (xs : List (Int × String)) :
    (aggregate (x :: xs)).min * ((x :: xs).length : Int) ≤ (aggregate (x :: xs)).sum ∧
    (aggregate (x :: xs)).sum ≤ (aggregate (x :: xs)).max * ((x :: xs).length : Int) := by
  have hmin := (C16_min x xs).1
  have hmax := (C16_max x xs).1
  rw [(C16_total_sum (x :: xs)).2]
  generalize (aggregate (x :: xs)).min = lo at hmin
  generalize (aggregate (x :: xs)).max = hi at hmax
  generalize x :: xs = l at hmin hmax
  induction l with
  | nil => simp
  | cons y l ih =>
    have h1 := hmin y List.mem_cons_self
    have h2 := hmax y List.mem_cons_self
    have ih' := ih (fun z hz => hmin z (List.mem_cons_of_mem _ hz)) (fun z hz => hmax z (List.mem_cons_of_mem _ hz))
    simp only [List.map_cons, List.sum_cons, List.length_cons]
    push_cast
    rw [Int.mul_add, Int.mul_add, Int.mul_one, Int.mul_one]
    omega

/-- **Per-class counts** (risk levels, severities, clone types, distribution buckets): each equals the number of items of that class. -/
theorem C16_class_counts (items : List (Int × String)) (k : String) :
    countOf (aggregate items).classes k = (items.filter fun x => x.2 = k).length := by
  cases items with
  | nil => simp [aggregate, countOf]
  | cons x xs =>
    have h := fold_inv (x :: xs) ⟨0, 0, 0, x.1, []⟩
    rw [aggregate, h.cls k]; simp [countOf]

theorem C16_classes_partition (items : List (Int × String)) (ks : List String) (hks : ks.Nodup) (hall : ∀ x ∈ items, x.2 ∈ ks) :
    (ks.map fun k => countOf (aggregate items).classes k).sum = (aggregate items).total := by
  rw [(C16_total_sum items).1]
  simp only [C16_class_counts]
  induction items with
  | nil => simp
  | cons x items ih =>
    -- one more item raises exactly the count of its own class, which occurs once among the classes
    have key : ∀ (l : List String), l.Nodup →
        (l.map fun k => ((x :: items).filter fun y => y.2 = k).length).sum =
        (l.map fun k => (items.filter fun y => y.2 = k).length).sum + (if x.2 ∈ l then 1 else 0) := by
      intro l hl
      induction l with
      | nil => rfl
      | cons k l ihl =>
        have hl' := List.nodup_cons.mp hl
        rw [List.map_cons, List.sum_cons, List.map_cons, List.sum_cons, ihl hl'.2, length_filter_cons_eq]
        by_cases hk : x.2 = k
        · rw [if_pos hk, if_neg (hk ▸ hl'.1), if_pos (List.mem_cons.mpr (Or.inl hk))]
          omega
        · rw [if_neg hk]
          by_cases hm : x.2 ∈ l
          · rw [if_pos hm, if_pos (List.mem_cons_of_mem _ hm)]
            omega
          · rw [if_neg hm, if_neg fun h => (List.mem_cons.mp h).elim hk hm]
            omega
    rw [key ks hks, ih fun y hy => hall y (List.mem_cons_of_mem _ hy), if_pos (hall x List.mem_cons_self), List.length_cons]

/-- **Filters.** Nothing below the echoed minimum survives, everything at or above it does. -/
theorem C16_filter (minv : Int) (items : List (Int × String)) (x : Int × String) :
    x ∈ keepMin minv items ↔ x ∈ items ∧ minv ≤ x.1 := by
  unfold keepMin; simp [List.mem_filter]

/-- **Filters.** The survivors keep the original order. -/
theorem C16_filter_sublist (minv : Int) (items : List (Int × String)) : (keepMin minv items).Sublist items :=
  List.filter_sublist

/-- **Tie (regenerated).** The filter and summary loops of the complexity, dead-code, CBO, LCOM services and the clone statistics have
exactly the guards, initialisations, accumulations and returns the model was written against. -/
theorem C16_facts :
    Generated.CxSummaryFacts.filterFunctions = SummaryExpected.CxSummaryFacts_filterFunctions ∧
    Generated.CxSummaryFacts.generateSummary = SummaryExpected.CxSummaryFacts_generateSummary ∧
    Generated.CxSummaryFacts.calculateRiskLevel = SummaryExpected.CxSummaryFacts_calculateRiskLevel ∧
    Generated.DeadSummaryFacts.filterFiles = SummaryExpected.DeadSummaryFacts_filterFiles ∧
    Generated.DeadSummaryFacts.filterFindingsBySeverity = SummaryExpected.DeadSummaryFacts_filterFindingsBySeverity ∧
    Generated.DeadSummaryFacts.generateSummary = SummaryExpected.DeadSummaryFacts_generateSummary ∧
    Generated.CBOSummaryFacts.filterClasses = SummaryExpected.CBOSummaryFacts_filterClasses ∧
    Generated.CBOSummaryFacts.generateSummary = SummaryExpected.CBOSummaryFacts_generateSummary ∧
    Generated.LCOMSummaryFacts.filterClasses = SummaryExpected.LCOMSummaryFacts_filterClasses ∧
    Generated.LCOMSummaryFacts.generateSummary = SummaryExpected.LCOMSummaryFacts_generateSummary ∧
    Generated.CloneStatsFacts.createStatistics = SummaryExpected.CloneStatsFacts_createStatistics :=
  ⟨rfl, rfl, rfl, rfl, rfl, rfl, rfl, rfl, rfl, rfl, rfl⟩

end PV.C16
