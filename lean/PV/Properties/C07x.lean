import PV.Properties.C07
import PV.Proofs.ZSCorrect
/-!
# C07 (extension) — the Zhang–Shasha MIRROR has the properties of the specification distance

`PV.ZS.zsDist` is the executable mirror of pyscn's Zhang–Shasha implementation (post-order arrays,
left-most-leaf array, key roots, the two DP tables); `PV.ZS.zs_correct` proves that it computes the
specification distance `PV.TED.dist` for all trees and all cost models.  Hence every theorem of
`PV/Properties/C07.lean` about the specification holds for the mirror.
-/
namespace PV.C07
open PV.TED PV.ZS

/-- **C07 (mirror = specification).** The Zhang–Shasha mirror computes the textbook forest-edit-distance
recursion, for ALL trees and ALL cost models (no size bound, no assumption on the costs). -/
theorem C07_zs_correct (c : Cost) (t₁ t₂ : Tree) : zsDist c t₁ t₂ = dist c t₁ t₂ :=
  PV.ZS.zs_correct c t₁ t₂

theorem C07_zs_ted (c : Cost) (t₁ t₂ : Tree) : zsDist c t₁ t₂ = ted c [t₁] [t₂] :=
  C07_zs_correct c t₁ t₂

/-- **C07 (identity, mirror).** If relabelling a node to itself is free, the mirror reports distance 0
between any tree and itself. -/
theorem C07_zs_self (c : Cost) (h : ∀ a, c.ren a a = 0) (t : Tree) : zsDist c t t = 0 := by
  rw [C07_zs_correct]; exact C07_self_tree c h t

/-- **C07 (symmetry, mirror).** For a symmetric cost model the mirror's distance is symmetric. -/
theorem C07_zs_symm (c : Cost) (hs : Symmetric c) (t₁ t₂ : Tree) : zsDist c t₁ t₂ = zsDist c t₂ t₁ := by
  rw [C07_zs_correct, C07_zs_correct]; exact C07_symm c hs [t₁] [t₂]

/-- **C07 (upper bound, mirror).** The mirror's distance never exceeds deleting every node of the first
tree plus inserting every node of the second. -/
theorem C07_zs_upper (c : Cost) (t₁ t₂ : Tree) : zsDist c t₁ t₂ ≤ delAll c t₁ + insAll c t₂ := by
  rw [C07_zs_correct]
  have := C07_upper c [t₁] [t₂]
  simpa [dist, delAllL, insAllL] using this

/-- **C07 (similarity, mirror).** The similarity derived from the mirror's distance of a tree with itself
is 1 (numerator = denominator) when relabelling a node to itself is free. -/
theorem C07_zs_similarity_self (unit : Nat) (c : Cost) (h : ∀ a, c.ren a a = 0) (t : Tree) :
    (similarity unit (zsDist c t t) t.size t.size).1 = (similarity unit (zsDist c t t) t.size t.size).2 := by
  rw [C07_zs_self c h t]; exact C07_similarity_self unit _ _

/-- non-vacuity: a concrete pair under the unit cost model (swapping two subtrees costs 2), the specification value of the
example in `C07.lean`; the `#guard` below executes the mirror -/
example : zsDist ⟨fun _ => 1, fun _ => 1, fun a b => if a = b then 0 else 1⟩
    (.node 0 [.node 1 [], .node 2 []]) (.node 0 [.node 2 [], .node 1 []]) = 2 := by
  rw [C07_zs_correct]; simp [dist, ted]

#guard zsDist ⟨fun _ => 1, fun _ => 1, fun a b => if a = b then 0 else 1⟩
    (.node 0 [.node 1 [], .node 2 []]) (.node 0 [.node 2 [], .node 1 []]) == 2

/-- non-vacuity of the hypotheses: the unit cost model is symmetric with free identity relabelling -/
example : Symmetric ⟨fun _ => 1, fun _ => 1, fun a b => if a = b then 0 else 1⟩ ∧
    ∀ a : Nat, (⟨fun _ => 1, fun _ => 1, fun a b => if a = b then 0 else 1⟩ : Cost).ren a a = 0 := by
  refine ⟨⟨fun _ => rfl, fun a b => ?_⟩, fun a => by simp⟩
  by_cases h : a = b
  · subst h; rfl
  · have h' : ¬ b = a := fun e => h e.symm
    simp [h, h']

end PV.C07
