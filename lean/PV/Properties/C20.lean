import PV.Model.Independence
import PV.Generated.TaskFacts
import PV.Properties.TaskFactsExpected
/-!
# C20 — analyses are independent

The part of C20 that is logic: in the model of the combination, a section does not depend on which other analyses run, and a file's
result does not depend on the other files or their order. Data-race freedom of the real goroutines and MCP/CLI equality are decided
on the real code (race-detector build, combined-vs-separate and subset/permutation runs, MCP handlers in process).
-/
namespace PV.C20
open PV PV.Independence

/-- the section of an analysis in a run, in closed form: what its task gives on the input if it is enabled, nothing otherwise -/
theorem section_execute {I R : Type} (tasks : List (String × (I → R))) (inp : I) (e : String → Bool) (name : String) :
    section_ (execute e tasks inp) name =
      if e name = true then (tasks.find? fun t => t.1 == name).map fun t => t.2 inp else none := by
  unfold section_ execute
  rw [List.find?_map, List.find?_filter, Option.map_map]
  have hp : (fun t : String × (I → R) => decide (e t.1 = true ∧ ((fun r : String × R => r.1 == name) ∘ fun t => (t.1, t.2 inp)) t = true)) =
      fun t => e name && t.1 == name := by
    funext t
    by_cases h : t.1 = name
    · simp [h]
    · simp [h]
  rw [hp]
  cases e name
  · simp
  · simp [Function.comp_def]

/-- **Together or apart.** The section of an analysis in the combined run equals its section in ANY run in which it is enabled —
in particular the run that selects it alone — for every input and every set of other analyses. -/
theorem C20_select {I R : Type} (tasks : List (String × (I → R))) (inp : I) (e₁ e₂ : String → Bool) (name : String)
    (h₁ : e₁ name = true) (h₂ : e₂ name = true) :
    section_ (execute e₁ tasks inp) name = section_ (execute e₂ tasks inp) name := by
  rw [section_execute, section_execute, if_pos h₁, if_pos h₂]

/-- a disabled analysis contributes no section -/
theorem C20_disabled {I R : Type} (tasks : List (String × (I → R))) (inp : I) (e : String → Bool) (name : String) (h : e name = false) :
    section_ (execute e tasks inp) name = none := by
  rw [section_execute, if_neg (by rw [h]; exact Bool.false_ne_true)]

theorem find_perFile {F R : Type} [BEq F] [LawfulBEq F] (a : F → R) (fs : List F) (f : F) (hf : f ∈ fs) :
    (perFile a fs).find? (fun r => r.1 == f) = some (f, a f) := by
  induction fs with
  | nil => cases hf
  | cons g fs ih =>
    unfold perFile
    simp only [List.map_cons, List.find?_cons]
    by_cases hg : (g == f) = true
    · simp only [hg]; rw [beq_iff_eq.mp hg]
    · simp only [hg]
      rcases List.mem_cons.mp hf with rfl | h
      · simp at hg
      · exact ih h

/-- **Per-file results do not depend on the other files or on the order**: whatever two file lists contain the file, its result is the same. -/
theorem C20_per_file {F R : Type} [BEq F] [LawfulBEq F] (a : F → R) (fs₁ fs₂ : List F) (f : F) (h₁ : f ∈ fs₁) (h₂ : f ∈ fs₂) :
    resultOf (perFile a fs₁) f = resultOf (perFile a fs₂) f := by
  unfold resultOf
  rw [find_perFile a fs₁ f h₁, find_perFile a fs₂ f h₂]

/-- **Tie (regenerated).** `Execute` starts one goroutine per enabled task, each writing only its own task's Result/Error, and waits for all
of them before the response is built. -/
theorem C20_facts : Generated.TaskFacts.Execute = TaskFactsExpected.TaskFacts_Execute := rfl

end PV.C20
