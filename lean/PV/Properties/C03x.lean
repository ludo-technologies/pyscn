import PV.Proofs.CFGComplexity
import PV.Proofs.CFGComplexityFin
import PV.Proofs.CFGComplexitySpec
/-!
# C03 (mirror) — the complexity computed by the CFG mirror is the McCabe count of the LIVE part of the body

`PV.CFG.complexity (build k s e body)` = (number of distinct REACHABLE blocks with a conditional out-edge) + (number of
exception edges leaving reachable blocks) + 1, evaluated on the graph that the executable mirror of pyscn's CFG builder
constructs.  Here it is proved equal to `1 + liveDec body`, where `liveDec` is a purely STRUCTURAL function of the
statement skeleton (companion of the static summary `sxL` of the soundness proof): a decision point is counted exactly
when `sxL` says control can get there (the statements after one that cannot fall through are not counted; a loop's `else`
is always entered, the statements after a loop are live iff the body can `break`, the `else` can fall through or there is
no `else`; handlers are always entered, the `else` of a `try` only if the body can fall through; …).

`C03_mirror_complexity` is obtained from the theorem for bodies WITH `finally` clauses (`build_complexity_fin` in
PV/Proofs/CFGComplexityFin.lean, stated as `C03_mirror_complexity_finally` in C03y.lean) through `okFL_of_okCL` and `ldLF_eq_ldL`: the induction is carried out once over a scheme with two
instances, and only `C03_mirror_list`, whose statement names the context `CtxC` of this fragment, uses the instance `schC`.

The proof (PV/Proofs/CFGComplexity*.lean) is one induction over the program that characterises reachability in the
FINAL graph exactly — "structurally live ⇒ reachable" and "not structurally live ⇒ unreachable" — for every block that
carries a decision, and counts conditional sources / exception edges construct by construct.

Fragment (`okC`, `C03_mirror_fragment_shape`): every construct except a NON-EMPTY `finally`, `break` / `continue` outside a loop
and stray `except` / `case` clauses; the evaluated counter-examples at the end show that each restriction is needed.
Constructs that add counts the property does not list (`with`, `match`, `raise`) get their true contribution in `liveDec`
(`C03_mirror_extra_counts`).
On the STRICT fragment (no `raise` / `with` / `match`) `liveDec` is the specification's `decisions` (PV/Model/Decisions.lean)
with "dead line" := "not live for the static summary" (`C03_mirror_mccabe`).
-/
namespace PV.C03
open PV.CFG PV.CFGSound PV.Dec PV.SD

/-- the structural live decision count of a definition body (no enclosing `try`: one exception edge per `raise`) -/
abbrev liveDec (body : List Stmt) : Nat := ldL 1 body

/-- the fragment: no non-empty `finally`, `break`/`continue` only inside loops, `except`/`case` only inside `try`/`match` -/
abbrev okC (body : List Stmt) : Bool := okCL false body

/-- **C03 (mirror).** For every definition kind and every body of the fragment, the complexity the mirror computes is
`1 +` the number of structurally live decision points. -/
theorem C03_mirror_complexity (k : Kind) (s e : Nat) (body : List Stmt) (hok : okC body = true) :
    complexity (build k s e body) = 1 + liveDec body := by
  rw [PV.CFGFin.build_complexity_fin k s e body (PV.CFGFin.okFL_of_okCL body false hok), PV.CFGFin.ldLF_eq_ldL body false hok 1]

/-- **C03 (mirror, statement lists).** The compositional form: whatever the final graph `E` is, as long as edges added later do
not target the blocks allocated while `ss` is processed, a list entered in a reachable calm block adds exactly `ldL nh ss` to the
count, the block current afterwards is reachable iff the list can fall through, and the exit block of the innermost loop is
reached by a live edge of the list iff the list can `break`. -/
theorem C03_mirror_list (ss : List Stmt) (nh : Nat) (il : Bool) (st : St) (w : WF st) (hc : CtxC nh il st) (hok : okCL il ss = true)
    (E : List Edge) (hE : Fut E st.next (procList st ss).next (procList st ss)) (he : EntryC E st) :
    PostC E st (procList st ss) (sxL ss).ex (ldL nh ss) :=
  cnt_list ss nh il st w hc hok E hE he

/-- **C03 (mirror, what counts).** `if` / `elif` / loop: one plus both parts; `except` handler: one plus its body;
comprehension: one per `for` clause and one per filter; a statement after one that cannot fall through: nothing. -/
theorem C03_mirror_counts (nh : Nat) :
    (∀ s e a b, ldS nh (.ite s e a b) = 1 + ldL nh a + ldL nh b) ∧
    (∀ s e a b, ldS nh (.elifc s e a b) = 1 + ldL nh a + ldL nh b) ∧
    (∀ s e a b, ldS nh (.loop s e a b) = 1 + ldL nh a + ldL nh b) ∧
    (∀ s e a, ldS nh (.handler s e a) = 1 + ldL nh a) ∧
    (∀ s e a, ldS nh (.elsec s e a) = ldL nh a) ∧
    (∀ s e c, ldS nh (.simple s e c true) = c.length + (c.filter id).length) ∧
    (∀ s e c, ldS nh (.ret s e c true) = c.length + (c.filter id).length) ∧
    (∀ s e, ldS nh (.brk s e) = 0) ∧ (∀ s e, ldS nh (.cont s e) = 0) ∧
    (∀ x xs, ldL nh (x :: xs) = ldS nh x + (if (sxS x).ex.normal then ldL nh xs else 0)) ∧
    (∀ s e a hs c d, ldS nh (.try_ s e a hs c d) =
      ldL (if hs.length > 0 then hs.length else 1) a + ldAlts (if hs.length > 0 then hs.length else 1) hs +
        (if (sxL a).ex.normal then ldL (if hs.length > 0 then hs.length else 1) c else 0)) :=
  ⟨ldS_ite nh, ldS_elifc nh, ldS_loop nh, ldS_handler nh, ldS_elsec nh,
   (fun s e c => by rw [ldS_simple]; rfl), (fun s e c => by rw [ldS_ret]; rfl), ldS_brk nh, ldS_cont nh, ldL_cons nh, ldS_try nh⟩

/-- **C03 (mirror, extra counts).** The constructs that add counts the property does not list, with their true contribution:
`with` (the exception edge setup → teardown), `match` (the match block is ONE conditional source, whatever the number of
cases), `raise` (one exception edge per target: EXIT outside any `try`, else every handler of the innermost `try`). -/
theorem C03_mirror_extra_counts (nh : Nat) :
    (∀ s e a, ldS nh (.with_ s e a) = 1 + ldL nh a) ∧
    (∀ s e cs, ldS nh (.match_ s e cs) = (if cs.isEmpty then 0 else 1) + ldAlts nh cs) ∧
    (∀ s e a, ldS nh (.case_ s e a) = ldL nh a) ∧
    (∀ s e, ldS nh (.raise s e) = nh) :=
  ⟨ldS_with nh, ldS_match nh, ldS_case nh, ldS_raise nh⟩

/-- **C03 (mirror, fragment).** What the fragment admits: all simple statements, `return`, `raise`, nested definitions;
`break` / `continue` exactly inside loops; `if` / `elif` / `else`, loops with `else`, `with`, `match` with `case` clauses,
nested classes (their body is outside any loop), `try` with `except` clauses and `else` but WITHOUT a `finally` body. -/
theorem C03_mirror_fragment_shape (il : Bool) :
    (∀ s e c h, okCS il (.simple s e c h) = true) ∧ (∀ s e c h, okCS il (.ret s e c h) = true) ∧
    (∀ s e, okCS il (.raise s e) = true) ∧ (∀ s e b, okCS il (.def_ s e b) = true) ∧
    (∀ s e, okCS il (.brk s e) = il) ∧ (∀ s e, okCS il (.cont s e) = il) ∧
    (∀ s e a b, okCS il (.ite s e a b) = (okCL il a && okCL il b)) ∧
    (∀ s e a b, okCS il (.elifc s e a b) = (okCL il a && okCL il b)) ∧
    (∀ s e a, okCS il (.elsec s e a) = okCL il a) ∧
    (∀ s e a b, okCS il (.loop s e a b) = (okCL true a && okCL il b)) ∧
    (∀ s e a, okCS il (.with_ s e a) = okCL il a) ∧
    (∀ s e cs, okCS il (.match_ s e cs) = okCCases il cs) ∧
    (∀ s e a, okCS il (.class_ s e a) = okCL false a) ∧
    (∀ s e a hs c d, okCS il (.try_ s e a hs c d) = (okCL il a && okCHs il hs && okCL il c && d.isEmpty)) :=
  ⟨(fun s e c h => by rw [okCS]), (fun s e c h => by rw [okCS]), (fun s e => by rw [okCS]), (fun s e b => by rw [okCS]),
   okCS_brk il, okCS_cont il, okCS_ite il, okCS_elifc il, okCS_elsec il, okCS_loop il, okCS_with il, okCS_match il, okCS_class il,
   okCS_try il⟩

/-! ### connection with the specification `PV.Dec.decisions` -/

/-- the strict fragment: only the constructs property C03 names (no `raise`, `with`, `match`) -/
abbrev plainC (body : List Stmt) : Bool := plainL body

/-- **C03 (mirror = specification on the strict fragment).** If the body only uses the constructs the property names and the start
lines of its statements / clauses are pairwise distinct, the complexity the mirror computes is the specification's McCabe number
`1 + decisions dead body`, where a line is `dead` iff the static summary `sxL` (proved sound AND — by this development — complete
for the decision blocks) does not reach it. -/
theorem C03_mirror_mccabe (k : Kind) (s e : Nat) (body : List Stmt) (hok : okC body = true) (hp : plainC body = true)
    (hd : (linesOfL body).Nodup) :
    complexity (build k s e body) = mccabe (sxDead body) body := by
  rw [C03_mirror_complexity k s e body hok]
  unfold mccabe liveDec
  rw [ldL_eq_decisions body false 1 hok hp hd]

/-- **C03 (mirror, no dead code).** If moreover every line is structurally live, it is the plain McCabe number. -/
theorem C03_mirror_mccabe_live (k : Kind) (s e : Nat) (body : List Stmt) (hok : okC body = true) (hp : plainC body = true)
    (hd : (linesOfL body).Nodup) (hlive : ∀ l ∈ linesOfL body, l ∈ (sxL body).lines ∨ l ∈ (sxL body).skipped) :
    complexity (build k s e body) = mccabe (fun _ => false) body := by
  rw [C03_mirror_complexity k s e body hok]
  unfold mccabe liveDec
  rw [ldL_eq_decisions_live body false 1 hok hp hd hlive]

/-- **C03 (mirror, statement-level form of the link).** For ANY dead-line predicate that is false on the lines the summary reaches
and true on the other lines of the body, `liveDec` is the specification's count. -/
theorem C03_mirror_decisions_of (dead : Nat → Bool) (body : List Stmt) (hok : okC body = true) (hp : plainC body = true)
    (hd : (linesOfL body).Nodup)
    (h1 : ∀ l ∈ (sxL body).lines, dead l = false) (h2 : ∀ l ∈ (sxL body).skipped, dead l = false)
    (h3 : ∀ l ∈ linesOfL body, l ∉ (sxL body).lines → l ∉ (sxL body).skipped → dead l = true) :
    liveDec body = decisions dead body :=
  ldL_eq_decisions_of dead body false 1 hok hp hd h1 h2 h3

section examples
private def C03_S (l : Nat) : Stmt := .simple l l [] false
private def C03_Rt (l : Nat) : Stmt := .ret l l [] false
private def C03_cx (b : List Stmt) : Nat := complexity (build .func 1 99 b)

/-- nested `if` / `elif` / `else`: if, inner if, elif -/
private def C03_ex1 : List Stmt := [.ite 1 9 [.ite 2 3 [C03_S 3] []] [.elifc 4 5 [C03_Rt 5] [.elsec 6 7 [C03_S 7]]], C03_S 10]
#guard okC C03_ex1 && C03_cx C03_ex1 == 4 && 1 + liveDec C03_ex1 == 4 && mccabe (sxDead C03_ex1) C03_ex1 == 4

/-- loop with `break` and an `else` that returns: the `if` after the loop is live (reached through `break`) -/
private def C03_ex2 : List Stmt := [.loop 1 5 [.ite 2 3 [.brk 3 3] [], C03_S 4] [.elsec 5 6 [C03_Rt 6]], .ite 7 8 [C03_S 8] []]
#guard okC C03_ex2 && C03_cx C03_ex2 == 4 && 1 + liveDec C03_ex2 == 4 && mccabe (sxDead C03_ex2) C03_ex2 == 4

/-- the same loop with `continue` instead of `break`: the code after the loop is DEAD (not `structDead`, but dead for `sxL`),
its `if` is not counted -/
private def C03_ex2b : List Stmt := [.loop 1 5 [.ite 2 3 [.cont 3 3] [], C03_S 4] [.elsec 5 6 [C03_Rt 6]], .ite 7 8 [C03_S 8] []]
#guard okC C03_ex2b && C03_cx C03_ex2b == 3 && 1 + liveDec C03_ex2b == 3 && mccabe (sxDead C03_ex2b) C03_ex2b == 3 && mccabe (fun _ => false) C03_ex2b == 4

/-- `try` with two handlers (one holding an `if`) and an `else` holding a loop: 2 handlers + if + loop -/
private def C03_ex3 : List Stmt :=
  [.try_ 1 9 [C03_S 2] [.handler 3 4 [.ite 4 4 [C03_S 4] []], .handler 5 6 [C03_Rt 6]] [.loop 7 8 [C03_S 8] []] [], C03_S 10]
#guard okC C03_ex3 && C03_cx C03_ex3 == 5 && 1 + liveDec C03_ex3 == 5 && mccabe (sxDead C03_ex3) C03_ex3 == 5

/-- a `try` whose body returns: the `else` part (a loop) is dead, the handler still counts -/
private def C03_ex3b : List Stmt := [.try_ 1 9 [C03_Rt 2] [.handler 3 4 [C03_S 4]] [.loop 7 8 [C03_S 8] []] []]
#guard okC C03_ex3b && C03_cx C03_ex3b == 2 && 1 + liveDec C03_ex3b == 2 && mccabe (sxDead C03_ex3b) C03_ex3b == 2

/-- statement-level comprehensions: two `for` clauses, one filter; and a returned comprehension with a filtered clause -/
private def C03_ex4 : List Stmt := [.simple 1 1 [true, false] true, .ret 2 2 [true] true]
#guard okC C03_ex4 && C03_cx C03_ex4 == 6 && 1 + liveDec C03_ex4 == 6 && mccabe (sxDead C03_ex4) C03_ex4 == 6

/-- dead code after an `if` / `else` whose branches both return, containing a loop, an `if` and a comprehension: only the first `if` counts -/
private def C03_ex5 : List Stmt :=
  [.ite 1 2 [C03_Rt 2] [.elsec 3 4 [C03_Rt 4]], .loop 5 6 [.ite 6 6 [C03_S 6] []] [], .simple 7 7 [true] true]
#guard okC C03_ex5 && C03_cx C03_ex5 == 2 && 1 + liveDec C03_ex5 == 2 && mccabe (sxDead C03_ex5) C03_ex5 == 2 && mccabe (fun _ => false) C03_ex5 == 6

/-- the extra counts: `with` (+1), `match` with two cases (+1), `raise` inside a `match` outside any `try` (+1), `raise` in the body and
in a handler of a `try` with two handlers (+2 each), the two handlers (+2), `raise` at top level (+1): 1 + 10 -/
private def C03_ex6 : List Stmt :=
  [.with_ 1 3 [.match_ 2 3 [.case_ 2 2 [C03_S 2], .case_ 3 3 [.raise 3 3]]],
   .try_ 4 9 [.raise 5 5] [.handler 6 6 [C03_S 6], .handler 7 7 [.raise 7 7]] [] [], .raise 10 10]
#guard okC C03_ex6 && C03_cx C03_ex6 == 11 && 1 + liveDec C03_ex6 == 11

-- the theorem also holds for class bodies and modules
#guard complexity (build .cls 1 99 C03_ex1) == 4 && complexity (build .module 1 99 C03_ex3) == 5

/-! #### the restrictions are needed -/
/-- a non-empty `finally` inside a `try` with a handler: the propagation edge `finally → outer handler` is an exception edge of a
reachable block, but no decision point: 3 ≠ 1 + 1 -/
private def C03_c1 : List Stmt := [.try_ 1 9 [.try_ 2 5 [C03_S 3] [] [] [C03_S 5]] [.handler 6 7 [C03_S 7]] [] []]
#guard !okC C03_c1 && C03_cx C03_c1 == 3 && 1 + liveDec C03_c1 == 2

/-- `break` outside a loop: the builder keeps filling the current block, so the `if` after it is live in the graph: 2 ≠ 1 -/
private def C03_c2 : List Stmt := [.brk 1 1, .ite 2 3 [C03_S 3] []]
#guard !okC C03_c2 && C03_cx C03_c2 == 2 && 1 + liveDec C03_c2 == 1

/-- a stray `except` clause is stored as a plain statement (its body is not entered): 1 ≠ 2 -/
private def C03_c3 : List Stmt := [.handler 1 2 [C03_S 2]]
#guard !okC C03_c3 && C03_cx C03_c3 == 1 && 1 + liveDec C03_c3 == 2

/-- a stray `case` clause likewise: 1 ≠ 2 -/
private def C03_c4 : List Stmt := [.case_ 1 2 [.ite 2 2 [C03_S 2] []]]
#guard !okC C03_c4 && C03_cx C03_c4 == 1 && 1 + liveDec C03_c4 == 2

/-- distinct lines are needed for the link with `decisions`: a live `if` on the line of a dead one makes the dead one look live: 2 ≠ 3 -/
private def C03_c5 : List Stmt := [.ite 1 2 [C03_S 2] [], C03_Rt 3, .ite 1 5 [C03_S 5] []]
#guard okC C03_c5 && plainC C03_c5 && C03_cx C03_c5 == 2 && mccabe (sxDead C03_c5) C03_c5 == 3

/-- the strict fragment is needed for the link: `with` adds a count that `decisions` does not have: 2 ≠ 1 -/
private def C03_c6 : List Stmt := [.with_ 1 2 [C03_S 2]]
#guard okC C03_c6 && !plainC C03_c6 && C03_cx C03_c6 == 2 && mccabe (sxDead C03_c6) C03_c6 == 1

/-- why "dead" is taken from the static summary and not from the mirror's own dead-line set: the test of a converted `elif` is stored
with line 0, so the line of a DEAD `elif` is never reported dead and `decisions` would count it: 1 ≠ 2 -/
private def C03_c7 : List Stmt := [C03_Rt 1, .ite 2 5 [C03_S 3] [.elifc 4 5 [C03_S 5] []]]
private def C03_ownDead (b : List Stmt) (l : Nat) : Bool :=
  (deadLines (build .func 1 99 b)).contains l && !(liveLines (build .func 1 99 b)).contains l
#guard okC C03_c7 && plainC C03_c7 && C03_cx C03_c7 == 1 && mccabe (sxDead C03_c7) C03_c7 == 1 && mccabe (C03_ownDead C03_c7) C03_c7 == 2
end examples

end PV.C03

#print axioms PV.C03.C03_mirror_complexity
#print axioms PV.C03.C03_mirror_list
#print axioms PV.C03.C03_mirror_mccabe
#print axioms PV.C03.C03_mirror_mccabe_live
