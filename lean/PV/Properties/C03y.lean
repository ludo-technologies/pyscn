import PV.Proofs.CFGComplexityFin
import PV.Properties.C03x
/-!
# C03 (mirror, with `finally`) — the complexity computed by the CFG mirror, for bodies with NON-EMPTY `finally` clauses

`C03_mirror_complexity` (PV/Properties/C03x.lean) excludes a non-empty `finally`: after the `finally` body the builder adds
"propagation" edges out of the `finally` block (`finallyPropagation` in PV/Model/CFG.lean), some of them exception-typed, and
`complexity` counts the exception edges that leave reachable blocks.  This file has no such restriction: for every body of the fragment
`okCF` (= `okC` without the restriction on `finally`; the other restrictions are the same)

  `complexity (build k s e body) = 1 + liveDecF body`,

where `liveDecF = ldLF 1` extends `liveDec = ldL 1` by the true contribution of a `try … finally` in the mirror:

* the live decisions of body, handlers, `else` and of the `finally` body, where INSIDE body / handlers / `else` every `raise` creates
  exactly ONE exception edge (to the `finally` block — not one per handler), and inside the `finally` body a `raise` behaves as
  before the `try`;
* PLUS the exception-typed propagation edges out of the `finally` block.  What the mirror does: the `finally` block of an entered `try` is ALWAYS reachable; the edge `finally → outer finally` / `finally → EXIT` of
  type "exception" is NEVER added (the return-typed propagation edge to the same target exists already and `Connect` is skipped);
  so exception-typed edges only appear when NO enclosing `try` has a `finally` and the `try … finally` sits directly in a `try` with
  `n` handlers: then `n` edges `finally → handler` are added — unless the `finally` body executes a `raise` while the `finally` block
  itself is still the current block (`hrL fin = .raise`): that `raise` has created these `n` edges already, and none is added.

The structural context is the record `FC` (`nh` edges per `raise`, `pe` propagation edges of a `try … finally` placed here, `pf` /
`af`: a pending / any enclosing `finally`).  Side effect on liveness, visible in the examples: the propagation edges
`finally → loop exit` make the code after a loop reachable even if the loop body never `break`s (the static summary `sxL` of the
soundness proof has `brk := true` for a `try … finally`, and this is EXACT for the decision blocks).

Proof: the induction `cnt_run` (PV/Proofs/CFGComplexityInd.lean) at the scheme `schF` (PV/Proofs/CFGComplexityScheme.lean), with
the context `CtxF` (arbitrary exception stacks with pending / processing `finally` contexts), the targets `TgF` and the clause
`Jmp` (where the structural `break` / `continue` / `return` / `raise` of a piece of code arrive: at their own target or at the pending
`finally` block); the `finally` part of a `try` is in PV/Proofs/CFGComplexityFin*.lean.
-/
namespace PV.C03
open PV.CFG PV.CFGSound PV.CFGFin PV.Dec

/-- the structural live decision count of a definition body, with the true contribution of `try … finally` -/
abbrev liveDecF (body : List Stmt) : Nat := ldLF 1 body

/-- the fragment: `break`/`continue` only inside loops, `except`/`case` only inside `try`/`match`; `finally` is allowed -/
abbrev okCF (body : List Stmt) : Bool := okFL false body

/-- **C03 (mirror, with `finally`).** For every definition kind and every body of the fragment — non-empty `finally`
clauses included — the complexity the mirror computes is `1 +` the structural count `liveDecF`. -/
theorem C03_mirror_complexity_finally (k : Kind) (s e : Nat) (body : List Stmt) (hok : okCF body = true) :
    complexity (build k s e body) = 1 + liveDecF body :=
  build_complexity_fin k s e body hok

/-- **C03 (mirror, with `finally`, statement lists).** The compositional form, in an arbitrary context (exception stack with pending
and processing `finally` contexts, described by `CtxF fc il st`): a list entered in a reachable calm block adds exactly `ldLX fc ss`
to the count; the block current afterwards is reachable iff the list can fall through; its structural jumps arrive (`PostF.jmp`). -/
theorem C03_mirror_list_finally (ss : List Stmt) (fc : FC) (il : Bool) (st : St) (w : WF st) (hc : CtxF fc il st)
    (hok : okFL il ss = true) (E : List Edge) (hE : Fut E st.next (procList st ss).next (procList st ss)) (he : EntryC E st) :
    PostF E st (procList st ss) (sxL ss).ex (ldLX fc ss) :=
  cnt_listF ss fc il st w hc hok E hE he

/-- **C03 (what a `try` counts).** Without `finally`: body, handlers (one exception edge `try block → handler` each, inside `ldAltsX`)
and the `else` part if the body can fall through, in the context `fc.inTry n` (`n` handlers).  With `finally`: the same three parts
in the context `FC.inFin` (one exception edge per `raise`), the `finally` body in the context `fc.finBody`, plus the `fc.pe`
exception-typed propagation edges out of the `finally` block — none if the `finally` body raises in its entry block. -/
theorem C03_finally_counts (fc : FC) (s e : Nat) (a hs c d : List Stmt) :
    ldSX fc (.try_ s e a hs c d) =
      if d.isEmpty then
        ldLX (fc.inTry hs.length) a + ldAltsX (fc.inTry hs.length) hs + (if (sxL a).ex.normal then ldLX (fc.inTry hs.length) c else 0)
      else
        ldLX FC.inFin a + ldAltsX FC.inFin hs + (if (sxL a).ex.normal then ldLX FC.inFin c else 0) +
          ldLX fc.finBody d + (if hrL d = .raise then 0 else fc.pe) :=
  ldSX_try fc s e a hs c d

/-- **C03 (the contexts).** A definition body: one edge per `raise`, no propagation edge.  Inside a `try` without `finally` that has
`n` handlers: `n` edges per `raise` (1 if `n = 0`) unless a `finally` is pending (then 1: the edge to that `finally` block); a
`try … finally` placed there adds `n` exception-typed propagation edges unless some enclosing `try` has a `finally`.  Inside a `try`
with `finally`: 1 and 0.  Inside the `finally` body: as before the `try`, and 0. -/
theorem C03_finally_contexts (fc : FC) (n : Nat) :
    FC.top 1 = { nh := 1, pe := 0, pf := false, af := false } ∧
    fc.inTry n = { nh := if fc.pf then 1 else (if n > 0 then n else 1), pe := if fc.af then 0 else n, pf := fc.pf, af := fc.af } ∧
    FC.inFin = { nh := 1, pe := 0, pf := true, af := true } ∧
    fc.finBody = { nh := fc.nh, pe := 0, pf := fc.pf, af := true } ∧
    (∀ s e, ldSX fc (.raise s e) = fc.nh) :=
  ⟨rfl, rfl, rfl, rfl, ldSX_raise fc⟩

/-- **C03 (the other constructs count as before).** -/
theorem C03_finally_counts_other (fc : FC) :
    (∀ s e a b, ldSX fc (.ite s e a b) = 1 + ldLX fc a + ldLX fc b) ∧
    (∀ s e a b, ldSX fc (.elifc s e a b) = 1 + ldLX fc a + ldLX fc b) ∧
    (∀ s e a b, ldSX fc (.loop s e a b) = 1 + ldLX fc a + ldLX fc b) ∧
    (∀ s e a, ldSX fc (.handler s e a) = 1 + ldLX fc a) ∧
    (∀ s e a, ldSX fc (.with_ s e a) = 1 + ldLX fc a) ∧
    (∀ s e cs, ldSX fc (.match_ s e cs) = (if cs.isEmpty then 0 else 1) + ldAltsX fc cs) ∧
    (∀ x xs, ldLX fc (x :: xs) = ldSX fc x + (if (sxS x).ex.normal then ldLX fc xs else 0)) :=
  ⟨ldSX_ite fc, ldSX_elifc fc, ldSX_loop fc, ldSX_handler fc, ldSX_with fc, ldSX_match fc, ldLX_cons fc⟩

/-- **C03 (fragment).** The only change with respect to `okC`: the `finally` body is checked like the other parts instead of being
required to be empty. -/
theorem C03_finally_fragment_shape (il : Bool) :
    (∀ s e a hs c d, okFS il (.try_ s e a hs c d) = (okFL il a && okFHs il hs && okFL il c && okFL il d)) ∧
    (∀ s e, okFS il (.brk s e) = il) ∧ (∀ s e, okFS il (.cont s e) = il) ∧
    (∀ s e a b, okFS il (.loop s e a b) = (okFL true a && okFL il b)) ∧
    (∀ s e a, okFS il (.class_ s e a) = okFL false a) ∧
    (∀ s e a, okFS il (.handler s e a) = false) ∧ (∀ s e a, okFS il (.case_ s e a) = false) :=
  ⟨okFS_try il, okFS_brk il, okFS_cont il, okFS_loop il, okFS_class il, okFS_handler il, okFS_case il⟩

/-- **C03 (agreement).** On `okC` (no non-empty `finally`) the two theorems say the same: the body is in `okCF` and `liveDecF` is
`liveDec`. -/
theorem C03_finally_agrees (body : List Stmt) (hok : okC body = true) : okCF body = true ∧ liveDecF body = liveDec body :=
  ⟨okFL_of_okCL body false hok, ldLF_eq_ldL body false hok 1⟩

/-- … so `C03_mirror_complexity_finally` contains `C03_mirror_complexity` (which is in fact derived from it). -/
theorem C03_finally_subsumes (k : Kind) (s e : Nat) (body : List Stmt) (hok : okC body = true) :
    complexity (build k s e body) = 1 + liveDec body :=
  C03_mirror_complexity k s e body hok

section examples
private def C03y_S (l : Nat) : Stmt := .simple l l [] false
private def C03y_Rt (l : Nat) : Stmt := .ret l l [] false
private def C03y_cx (b : List Stmt) : Nat := complexity (build .func 1 99 b)

/-- `try: return  finally: x` followed by an `if`: the `return` goes to the `finally` block, whose body falls through, so the
code after the `try` is live in the graph and its `if` counts -/
private def C03y_ex1 : List Stmt := [.try_ 1 5 [C03y_Rt 2] [] [] [C03y_S 5], .ite 6 7 [C03y_S 7] []]
#guard okCF C03y_ex1 && !okC C03y_ex1 && C03y_cx C03y_ex1 == 2 && 1 + liveDecF C03y_ex1 == 2

/-- the same with a `finally` body that returns: the code after the `try` is dead -/
private def C03y_ex1b : List Stmt := [.try_ 1 5 [C03y_Rt 2] [] [] [C03y_Rt 5], .ite 6 7 [C03y_S 7] []]
#guard okCF C03y_ex1b && C03y_cx C03y_ex1b == 1 && 1 + liveDecF C03y_ex1b == 1

/-- nested: a `try … finally` in the body of a `try` with two handlers (the counter-example `C03_c1` of C03x with one more handler):
2 handler edges + 2 exception-typed propagation edges `finally → handler` -/
private def C03y_ex2 : List Stmt :=
  [.try_ 1 9 [.try_ 2 5 [C03y_S 3] [] [] [C03y_S 5]] [.handler 6 7 [C03y_S 7], .handler 8 9 [C03y_S 9]] [] []]
#guard okCF C03y_ex2 && !okC C03y_ex2 && C03y_cx C03y_ex2 == 5 && 1 + liveDecF C03y_ex2 == 5 && 1 + liveDec C03y_ex2 == 3

/-- the same when the `finally` body starts with `raise`: the `raise` creates the 2 edges `finally → handler`, no propagation edge is
added on top -/
private def C03y_ex2b : List Stmt :=
  [.try_ 1 9 [.try_ 2 5 [C03y_S 3] [] [] [.raise 5 5]] [.handler 6 7 [C03y_S 7], .handler 8 9 [C03y_S 9]] [] []]
#guard okCF C03y_ex2b && C03y_cx C03y_ex2b == 5 && 1 + liveDecF C03y_ex2b == 5

/-- … but a `raise` deeper in the `finally` body (here under an `if`) does not suppress them: if (1) + raise (2) + propagation (2) + handlers (2) -/
private def C03y_ex2c : List Stmt :=
  [.try_ 1 9 [.try_ 2 5 [C03y_S 3] [] [] [.ite 4 5 [.raise 5 5] []]] [.handler 6 7 [C03y_S 7], .handler 8 9 [C03y_S 9]] [] []]
#guard okCF C03y_ex2c && C03y_cx C03y_ex2c == 8 && 1 + liveDecF C03y_ex2c == 8

/-- nested `try … finally` inside a `try` that has a `finally` itself: the inner propagation goes to the outer `finally` block with a
return-typed edge, no exception edge is added; only the handler edge counts -/
private def C03y_ex2d : List Stmt := [.try_ 1 9 [.try_ 2 5 [C03y_S 3] [] [] [C03y_S 5]] [.handler 6 7 [C03y_S 7]] [] [C03y_S 9]]
#guard okCF C03y_ex2d && C03y_cx C03y_ex2d == 2 && 1 + liveDecF C03y_ex2d == 2

/-- `finally` in a loop with `break`; the loop's `else` returns: the `break` reaches the loop exit through the `finally` block, the `if`
after the loop counts -/
private def C03y_ex3 : List Stmt :=
  [.loop 1 6 [.try_ 2 5 [.brk 3 3] [] [] [C03y_S 5]] [.elsec 6 7 [C03y_Rt 7]], .ite 8 9 [C03y_S 9] []]
#guard okCF C03y_ex3 && C03y_cx C03y_ex3 == 3 && 1 + liveDecF C03y_ex3 == 3

/-- the same WITHOUT any `break`: the propagation edge `finally → loop exit` still makes the code after the loop live in the graph (3);
with the `finally` body removed that code is dead (2) -/
private def C03y_ex3b : List Stmt :=
  [.loop 1 6 [.try_ 2 5 [C03y_S 3] [] [] [C03y_S 5]] [.elsec 6 7 [C03y_Rt 7]], .ite 8 9 [C03y_S 9] []]
private def C03y_ex3c : List Stmt :=
  [.loop 1 6 [.try_ 2 5 [C03y_S 3] [] [] []] [.elsec 6 7 [C03y_Rt 7]], .ite 8 9 [C03y_S 9] []]
#guard okCF C03y_ex3b && C03y_cx C03y_ex3b == 3 && 1 + liveDecF C03y_ex3b == 3
#guard okC C03y_ex3c && C03y_cx C03y_ex3c == 2 && 1 + liveDecF C03y_ex3c == 2 && 1 + liveDec C03y_ex3c == 2

/-- `raise` inside a `try` with two handlers and a `finally`: each `raise` (in the body, in a handler) creates ONE edge, to the
`finally` block: 2 handler edges + 2; without the `finally` each `raise` creates one edge per handler: 2 + 4 -/
private def C03y_ex4 : List Stmt :=
  [.try_ 1 5 [.raise 2 2] [.handler 3 3 [C03y_S 3], .handler 4 4 [.raise 4 4]] [] [C03y_S 5]]
private def C03y_ex4b : List Stmt :=
  [.try_ 1 5 [.raise 2 2] [.handler 3 3 [C03y_S 3], .handler 4 4 [.raise 4 4]] [] []]
#guard okCF C03y_ex4 && C03y_cx C03y_ex4 == 5 && 1 + liveDecF C03y_ex4 == 5
#guard okC C03y_ex4b && C03y_cx C03y_ex4b == 7 && 1 + liveDecF C03y_ex4b == 7 && 1 + liveDec C03y_ex4b == 7

/-- a `try … finally` inside a `finally` body, holding an `if` -/
private def C03y_ex5 : List Stmt := [.try_ 1 9 [C03y_S 2] [] [] [.try_ 3 8 [C03y_S 4] [] [] [.ite 5 6 [C03y_S 6] []]]]
#guard okCF C03y_ex5 && C03y_cx C03y_ex5 == 2 && 1 + liveDecF C03y_ex5 == 2

-- class bodies and modules
#guard complexity (build .cls 1 99 C03y_ex2) == 5 && complexity (build .module 1 99 C03y_ex3) == 3

/-! #### the remaining restrictions are still needed (same counter-examples as in C03x) -/
private def C03y_c2 : List Stmt := [.brk 1 1, .ite 2 3 [C03y_S 3] []]
#guard !okCF C03y_c2 && C03y_cx C03y_c2 == 2 && 1 + liveDecF C03y_c2 == 1
private def C03y_c3 : List Stmt := [.handler 1 2 [C03y_S 2]]
#guard !okCF C03y_c3 && C03y_cx C03y_c3 == 1 && 1 + liveDecF C03y_c3 == 2
end examples

end PV.C03

#print axioms PV.C03.C03_mirror_complexity_finally
#print axioms PV.C03.C03_mirror_list_finally
#print axioms PV.C03.C03_finally_counts
#print axioms PV.C03.C03_finally_agrees
#print axioms PV.C03.C03_finally_subsumes
