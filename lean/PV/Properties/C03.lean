import PV.Model.Decisions
import PV.Generated.RiskComplexityService
import PV.Generated.RiskComplexityConfig
/-!
# C03 — cyclomatic complexity = 1 + decision count; risk level by thresholds
-/
namespace PV.C03
open PV.CFG PV.Dec

/-- **C03 (risk, service).** The risk level in the report (translated from `calculateRiskLevel`, regenerated each run):
low / medium / high exactly by the two thresholds, for every value and every threshold pair. -/
theorem C03_risk_service (F : Type) [Arith F] (c lo med : Int) :
    PV.Generated.RiskComplexityService.calculateRiskLevel F c lo med =
      (if c ≤ lo then "low" else if c ≤ med then "medium" else "high") := rfl

/-- **C03 (risk, analyzer).** Same for `ComplexityConfig.AssessRiskLevel`. -/
theorem C03_risk_config (F : Type) [Arith F] (c lo med : Int) :
    PV.Generated.RiskComplexityConfig.AssessRiskLevel F c lo med =
      (if c ≤ lo then "low" else if c ≤ med then "medium" else "high") := rfl

/-- **C03 (what counts).** The specification counts exactly what the property lists. -/
theorem C03_counts (dead : Nat → Bool) :
    (∀ s e a b, decS dead (.ite s e a b) = one dead s + decisions dead a + decisions dead b) ∧
    (∀ s e a b, decS dead (.elifc s e a b) = one dead s + decisions dead a + decisions dead b) ∧
    (∀ s e a b, decS dead (.loop s e a b) = one dead s + decisions dead a + decisions dead b) ∧
    (∀ s e a, decS dead (.handler s e a) = one dead s + decisions dead a) ∧
    (∀ s e a, decS dead (.elsec s e a) = decisions dead a) ∧
    (∀ s e, decS dead (.brk s e) = 0) ∧ (∀ s e, decS dead (.cont s e) = 0) ∧
    (∀ s e, decS dead (.ret s e [] false) = 0) ∧
    (∀ s e comp, dead s = false → decS dead (.simple s e comp true) = comp.length + (comp.filter id).length) := by
  refine ⟨?_, ?_, ?_, ?_, ?_, ?_, ?_, ?_, ?_⟩ <;> intros <;> simp_all [decS, compClauses]

/-- **C03 (dead code is not counted, live code is).** A decision on a live line adds exactly one; on a dead line nothing. -/
theorem C03_one (dead : Nat → Bool) (s : Nat) : one dead s = if dead s = true then 0 else 1 := by
  unfold one; cases dead s <;> rfl

theorem one_antitone {d₁ d₂ : Nat → Bool} (h : ∀ l, d₁ l = true → d₂ l = true) (s : Nat) : one d₂ s ≤ one d₁ s := by
  unfold one
  cases h1 : d₁ s
  · split
    · exact Nat.zero_le _
    · exact Nat.le_refl _
  · rw [h s h1]
    exact Nat.le_refl _

theorem comp_antitone {d₁ d₂ : Nat → Bool} (h : ∀ l, d₁ l = true → d₂ l = true) (hc : Bool) (s c : Nat) :
    (if (hc && !d₂ s) = true then c else 0) ≤ (if (hc && !d₁ s) = true then c else 0) := by
  cases h1 : d₁ s
  · cases hc <;> cases d₂ s <;> simp
  · rw [h s h1]
    exact Nat.le_refl _

/-! the unbounded form of `C03_dead_antitone`, along the recursion of `decisions` / `decS` -/
mutual
theorem decisions_antitone {d₁ d₂ : Nat → Bool} (h : ∀ l, d₁ l = true → d₂ l = true) :
    ∀ l : List Stmt, decisions d₂ l ≤ decisions d₁ l
  | [] => by
    simp only [decisions]
    exact Nat.le_refl _
  | x :: xs => by
    simp only [decisions]
    exact Nat.add_le_add (decS_antitone h x) (decisions_antitone h xs)
theorem decS_antitone {d₁ d₂ : Nat → Bool} (h : ∀ l, d₁ l = true → d₂ l = true) : ∀ x : Stmt, decS d₂ x ≤ decS d₁ x
  | .simple s _ _ hc | .ret s _ _ hc => by
    simp only [decS]
    exact comp_antitone h hc s _
  | .brk .. | .cont .. | .raise .. | .def_ .. => by
    simp only [decS]
    exact Nat.le_refl _
  | .ite s _ a b | .elifc s _ a b | .loop s _ a b => by
    simp only [decS]
    exact Nat.add_le_add (Nat.add_le_add (one_antitone h s) (decisions_antitone h a)) (decisions_antitone h b)
  | .elsec _ _ a | .with_ _ _ a | .match_ _ _ a | .case_ _ _ a | .class_ _ _ a => by
    simp only [decS]
    exact decisions_antitone h a
  | .handler s _ a => by
    simp only [decS]
    exact Nat.add_le_add (one_antitone h s) (decisions_antitone h a)
  | .try_ _ _ a hs c d => by
    simp only [decS]
    exact Nat.add_le_add (Nat.add_le_add (Nat.add_le_add (decisions_antitone h a) (decisions_antitone h hs)) (decisions_antitone h c))
      (decisions_antitone h d)
end

/-- **C03 (independence).** The count is a function of the statement skeleton and of pyscn's own dead-line set
only: it cannot depend on identifiers, literals or comments (they are not part of `Stmt`), and it is monotone:
declaring MORE lines dead never increases it. -/
theorem C03_dead_antitone (d₁ d₂ : Nat → Bool) (h : ∀ l, d₁ l = true → d₂ l = true) :
    ∀ n, (∀ l : List Stmt, sizeL l ≤ n → decisions d₂ l ≤ decisions d₁ l) ∧ (∀ x : Stmt, x.size ≤ n → decS d₂ x ≤ decS d₁ x) :=
  fun _ => ⟨fun l _ => decisions_antitone h l, fun x _ => decS_antitone h x⟩

/-- non-vacuity: `if … elif … else` with a loop holding a filtered comprehension: 1 + (if, elif, loop, for-clause, filter) = 6 -/
example : mccabe (fun _ => false)
    [.ite 1 9 [.loop 2 4 [.simple 3 3 [true] true] []] [.elifc 5 6 [.ret 6 6 [] false] [.elsec 7 8 [.brk 8 8]]]] = 6 := by
  simp [mccabe, decisions, decS, one, compClauses]

end PV.C03
