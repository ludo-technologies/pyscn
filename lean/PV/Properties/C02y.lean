import PV.Proofs.CFGRangesC02
/-!
# C02 (extension) — every structurally dead statement lies INSIDE a range reported by the dead-code detector of the CFG mirror

`findings (build k s e body)` is the detector's output: for every block that the mirror's search does not reach and that holds at
least one statement record, the range *start line of the OLDEST record stored in the block … END line of the NEWEST record stored in
it*.  C02 says that a structurally dead statement (`structDead`, PV/Model/StructDead.lean) must be REPORTED, i.e. covered by such a
range.  The record-level theorem `C02_mirror_complete` (C02x) shows that every structurally dead line `l` (except the heads of `elif`
clauses) has a record `r` with `r.s = l` in an unreachable block `B`; it does not say that `l` lies in the range reported for `B` —
the range is computed from OTHER records of `B` (the oldest and the newest one).  The theorems below close this gap for ALL programs
of the fragment:

* `C02_ranges_complete` (all kinds of definitions, `WFDef`) / `C02_ranges_complete_fn` (functions and modules, `WFLoc`) —
  a structurally dead line is the head of an `elif` clause or lies inside a reported range;
* `C02_ranges_complete_noelif` — no exemption for programs without `elif` clauses;
* `C02_ranges_cover_records` — in terms of the mirror's own output: EVERY record of an unreachable block (located or not) starts
  inside the range reported for its block;
* `C02_block_records_ordered` — the fact about the record list behind it: the start line of every record of a block lies between the
  start line of the oldest and the end line of the newest record of the block;
* `C02_zero_record_first` — the builder invariant: a record with end line 0 (the test of a converted `elif`) is the OLDEST
  record of its block (with `GZ` from C01y: the ONLY one);
* `C02_ranges_cover_span` — if the record of a statement is the NEWEST record of an unreachable block, the whole span `s … e` of the
  statement lies inside the reported range (the mechanism that covers `elif` heads, see below).

**Severity.**  Every finding of the mirror carries `critical : Bool` (`isCritical`, pyscn's `determineDeadCodeReason`): a finding is
reported with severity *critical* or *warning*, never lower.  The report's default minimum severity is *warning*, so every element of
`findings` is shown, whatever `critical` is: C02 needs the EXISTENCE of a covering finding only, and nothing about `critical` has to
be proved (the theorems below do not mention it).

**Hypotheses.**
* `okC2 body = okLC false body && noSEL body`:
  - `okLC false`: exactly the fragment of the record-level theorem `C02_mirror_complete` (both of its restrictions are necessary, C02x);
  - `noSEL`: NO STANDALONE `elif` CLAUSE — an `elifc` node occurs only as the single element of the `orelse` list of an `if` / `elif`
    (the only place where the parser produces one).  Necessary: `procStmt (.elifc …)` ("unexpected elif_clause as standalone
    statement") stores the converted test with location `0..0` in the CURRENT block; if that block is a dead block that already holds
    located records, the `0..0` record becomes its newest record and the block is reported with the range `start … 0`, which covers
    no line: the dead statements of the block are NOT reported (`ryStandalone`, evaluated below; `C02_noSEL_needed_records` shows the
    shape of the record list).
* `WFLoc body` (decidable) / `WFDef k s e body`: the well-formedness of the source spans of C01y — one statement per line, `s ≤ e`,
  start lines ≥ 1, children inside the parent in source order.  Used for: records are stored in source order (`Rel.ord`, from the
  range-level soundness development `build_rq`), `s ≤ e` for every record, no located span ends at line 0.
* `elif` heads (`elifL`).  The builder stores the test of a converted `elif` with `0..0`, so there is no record with `r.s = l` for the
  head `l` of an `elif` clause, `C02_mirror_complete` exempts these lines, and so does `C02_ranges_complete`.
  The statement without the exemption is `C02_ranges_complete_all` (`Properties/C02z.lean`): an `elif` head inside dead code lies
  inside the span `s … e` of its `if` statement, whose test record is the NEWEST record of an unreachable block
  (`C02_if_test_newest`), so `C02_ranges_cover_span` applies.

**Why it holds** (`PV/Proofs/CFGRangesC02*.lean`).  Let `r` be a record of an unreachable block `B`.  `B` is not empty, so it is
reported with `start = ` start line of its oldest record and `stop = ` end line of its newest record `h`.  The records of `B` are
one consecutive segment of the record list (`GZ`, C01y) and located records are stored in source order (`Rel.ord`, C01y), hence
`start ≤ r.s`.  If `h = r` then `r.s ≤ r.e = stop`.  Otherwise `h` is newer than `r`; `h.e ≠ 0`, because a record with end line 0 is
the oldest of its block (`ZF`; `procList_zf` in `CFGRangesC02.lean` reads it off the record trace of the builder, `Tr.zf`: the only place where a `0..0` record
is stored without a standalone `elif` is `procIfElif` called for the `elif` clause of a chain, in the block allocated just before);
so `h` is located, `r.s ≤ h.s ≤ h.e = stop`.
-/
namespace PV.C02
open PV.CFG PV.SD PV.CFGSound

/-- **C02 for the reported ranges**: a structurally dead line is the head of an `elif` clause or lies inside a reported range -/
theorem C02_ranges_complete (k : Kind) (s e : Nat) (body : List Stmt) (hok : okC2 body = true) (hwf : WFDef k s e body) :
    ∀ l ∈ structDead body, l ∈ elifL body ∨ ∃ f ∈ findings (build k s e body), f.s ≤ l ∧ l ≤ f.e := by
  unfold okC2 at hok
  rw [Bool.and_eq_true] at hok
  exact mirror_ranges_complete k s e body hok.1 hok.2 hwf

/-- the same with the two parts of the fragment as separate hypotheses (`okC2` unfolded) -/
theorem C02_ranges_complete' (k : Kind) (s e : Nat) (body : List Stmt) (hok : okLC false body = true) (hno : noSEL body = true)
    (hwf : WFDef k s e body) :
    ∀ l ∈ structDead body, l ∈ elifL body ∨ ∃ f ∈ findings (build k s e body), f.s ≤ l ∧ l ≤ f.e :=
  mirror_ranges_complete k s e body hok hno hwf

/-- for functions and modules `WFLoc body` is all that is needed -/
theorem C02_ranges_complete_fn (k : Kind) (hk : k ≠ .cls) (s e : Nat) (body : List Stmt) (hok : okC2 body = true) (hwf : WFLoc body) :
    ∀ l ∈ structDead body, l ∈ elifL body ∨ ∃ f ∈ findings (build k s e body), f.s ≤ l ∧ l ≤ f.e :=
  C02_ranges_complete k s e body hok (WFDef.of_wfloc s e hk hwf)

/-- **no exemption** for programs without `elif` clauses: every structurally dead line lies inside a reported range -/
theorem C02_ranges_complete_noelif (k : Kind) (s e : Nat) (body : List Stmt) (hok : okC2 body = true) (hwf : WFDef k s e body)
    (hne : elifL body = []) :
    ∀ l ∈ structDead body, ∃ f ∈ findings (build k s e body), f.s ≤ l ∧ l ≤ f.e := by
  intro l hl
  rcases C02_ranges_complete k s e body hok hwf l hl with h | h
  · rw [hne] at h; cases h
  · exact h

/-- in terms of the mirror's own output: every record of an unreachable block starts inside a reported range -/
theorem C02_ranges_cover_records (k : Kind) (s e : Nat) (body : List Stmt) (hok : okC2 body = true) (hwf : WFDef k s e body) :
    ∀ r ∈ (build k s e body).stmts, r.blk ∉ reachable (build k s e body) →
      ∃ f ∈ findings (build k s e body), f.s ≤ r.s ∧ r.s ≤ f.e := by
  unfold okC2 at hok
  rw [Bool.and_eq_true] at hok
  exact ranges_cover_records k s e body hok.1 hok.2 hwf

/-- if the record of a statement is the NEWEST record of an unreachable block (no newer record `a` is in its block), every line of
the span of the statement lies inside a reported range -/
theorem C02_ranges_cover_span (k : Kind) (s e : Nat) (body : List Stmt) (hok : okC2 body = true) (hwf : WFDef k s e body)
    {a c : List SRec} {r : SRec} (hL : (build k s e body).stmts = a ++ r :: c) (ha : ∀ x ∈ a, x.blk ≠ r.blk)
    (hd : r.blk ∉ reachable (build k s e body)) :
    ∀ l, r.s ≤ l → l ≤ r.e → ∃ f ∈ findings (build k s e body), f.s ≤ l ∧ l ≤ f.e := by
  unfold okC2 at hok
  rw [Bool.and_eq_true] at hok
  exact ranges_cover_span k s e body hok.1 hok.2 hwf hL ha hd

/-- **the records of one block are ordered**: for a record list (newest first) whose blocks are consecutive segments (`GZ`), whose
located records are in source order (`Rel`), whose `0..0` records are the oldest of their blocks (`ZF`) and whose records satisfy
`s ≤ e`: the start line of every record lies between `start` (start line of the oldest record of its block) and `stop` (end line of
the newest record of its block) of the block summary that `findings` uses -/
theorem C02_block_records_ordered {E : List Edge} {L : List SRec} (hgz : GZ L) (hpw : L.Pairwise (Rel E)) (hzf : ZF L)
    (hval : ∀ r ∈ L, r.s = 0 → r.e = 0) (hse : ∀ r ∈ L, r.s ≤ r.e) {r : SRec} (hr : r ∈ L) :
    (infoR r.blk L).nonEmpty = true ∧ (infoR r.blk L).start ≤ r.s ∧ r.s ≤ (infoR r.blk L).stop :=
  block_range hgz hpw hzf hval hse hr

/-- the block summary that `findings` uses is `infoR` of the record list -/
theorem C02_blockInfo (st : St) {b : Nat} (hb : b < st.next) : (blockInfo st).getD b {} = infoR b st.stmts := blockInfo_getD st hb

/-- **a record with end line 0 is the oldest record of its block** (`ZF`) in the final record list of every definition of the fragment -/
theorem C02_zero_record_first (k : Kind) (s e : Nat) (body : List Stmt) (hok : okC2 body = true) (hwf : WFDef k s e body) :
    ZF (build k s e body).stmts := by
  unfold okC2 at hok
  rw [Bool.and_eq_true] at hok
  exact build_zf_wf k s e body hok.1 hok.2 hwf

/-- the invariant for statement lists, from every well-formed builder state -/
theorem C02_zero_record_invariant (ss : List Stmt) (il : Bool) (st : St) (w : WF st) (hok : okLC il ss = true) (hno : noSEL ss = true)
    (hnz : ∀ sp ∈ spansL ss, sp.2 ≠ 0) (hz : ZF st.stmts) : ZF (procList st ss).stmts :=
  procList_zf ss il st w hok hno hnz hz

/-- every finding of the mirror is reported as *critical* or as *warning* — there is no third case, so with the default minimum
severity *warning* every finding is shown (nothing else about the severity is needed for C02) -/
theorem C02_severity_two_valued (f : Finding) : f.critical = true ∨ f.critical = false := by
  cases f.critical
  · exact .inr rfl
  · exact .inl rfl

/-! ### evaluated examples -/

/-- every line of `ls` lies inside some range of `fs` -/
def covered (ls : List Nat) (fs : List Finding) : Bool := ls.all (fun l => fs.any (fun f => decide (f.s ≤ l) && decide (l ≤ f.e)))
def rangesOf (fs : List Finding) : List (Nat × Nat) := fs.map (fun f => (f.s, f.e))
def wfloc1 (body : List Stmt) : Bool := wfL 1 body

/-- a function with `return` followed by two statements
```
2  x = 1
3  return x
4  y = 2          # dead
5  z = 3          # dead
``` -/
def ryReturn : List Stmt := [.simple 2 2 [] false, .ret 3 3 [] false, .simple 4 4 [] false, .simple 5 5 [] false]
#guard okC2 ryReturn && wfloc1 ryReturn
#guard structDead ryReturn == [4, 5] && rangesOf (findings (build .func 1 5 ryReturn)) == [(4, 5)]
#guard covered (structDead ryReturn) (findings (build .func 1 5 ryReturn))

/-- an exhaustive `if` / `elif` / `else` with terminators, followed by a statement, inside a loop
```
2  for x in xs:
3      if a:
4          continue
5      elif b:
6          break
7      else:
8          return 0
9      y = 1          # dead
10     z = 2          # dead
11 after = 1
``` -/
def ryLoopChain : List Stmt :=
  [.loop 2 10 [.ite 3 8 [.cont 4 4] [.elifc 5 8 [.brk 6 6] [.elsec 7 8 [.ret 8 8 [] false]]],
               .simple 9 9 [] false, .simple 10 10 [] false] [],
   .simple 11 11 [] false]
#guard okC2 ryLoopChain && wfloc1 ryLoopChain
#guard structDead ryLoopChain == [9, 10] && elifL ryLoopChain == [5]
#guard rangesOf (findings (build .func 1 11 ryLoopChain)) == [(9, 10)]
#guard covered (structDead ryLoopChain) (findings (build .func 1 11 ryLoopChain))

/-- dead code that contains an `elif`: the head of the `elif` clause (line 6, exempt in `C02_ranges_complete`) is covered as well —
by the range `4 … 9` of the block of the dead `if` test
```
2  def f():
3      raise E
4      if a:            # dead   range 4 … 9 (test record = newest record of its block)
5          x = 1        # dead
6      elif b:          # dead, `elif` head: record 0..0 in a block of its own, range 0 … 0
7          x = 2        # dead
8      else:
9          x = 3        # dead
10     y = x            # dead
``` -/
def ryElif : List Stmt :=
  [.raise 3 3, .ite 4 9 [.simple 5 5 [] false] [.elifc 6 9 [.simple 7 7 [] false] [.elsec 8 9 [.simple 9 9 [] false]]],
   .simple 10 10 [] false]
#guard okC2 ryElif && wfloc1 ryElif
#guard structDead ryElif == [4, 5, 6, 7, 9, 10] && elifL ryElif == [6]
#guard rangesOf (findings (build .func 2 10 ryElif)) == [(4, 9), (5, 5), (10, 10), (0, 0), (7, 7), (9, 9)]
#guard covered (structDead ryElif) (findings (build .func 2 10 ryElif))

/-- nested `elif` chains in dead code, inside `with` and `while … else`: all `elif` heads (7, 10, 16) are covered
```
2  while c:
3      continue
4      with m:              # dead
5          if a:            # dead   range 5 … 13
6              x = 1
7          elif b:          # `elif` head
8              if p:        # dead   range 8 … 11
9                  x = 2
10             elif q:      # `elif` head
11                 x = 3
12         else:
13             x = 4
14     if d:                # dead   range 14 … 17
15         break
16     elif e:              # `elif` head
17         y = 1
18 else:
19     return 0
``` -/
def ryElifNested : List Stmt :=
  [.loop 2 19 [.cont 3 3,
      .with_ 4 13 [.ite 5 13 [.simple 6 6 [] false]
        [.elifc 7 13 [.ite 8 11 [.simple 9 9 [] false] [.elifc 10 11 [.simple 11 11 [] false] []]] [.elsec 12 13 [.simple 13 13 [] false]]]],
      .ite 14 17 [.brk 15 15] [.elifc 16 17 [.simple 17 17 [] false] []]]
    [.elsec 18 19 [.ret 19 19 [] false]]]
#guard okC2 ryElifNested && wfloc1 ryElifNested
#guard (elifL ryElifNested) == [7, 10, 16] && (elifL ryElifNested).all (· ∈ structDead ryElifNested)
#guard structDead ryElifNested == [4, 5, 6, 7, 8, 9, 10, 11, 13, 14, 15, 16, 17]
#guard covered (structDead ryElifNested) (findings (build .func 1 19 ryElifNested))

/-- a `try` whose body ends in `raise`, followed by dead statements; dead code after `return` in the handler and in `finally`
```
2  try:
3      raise E
4      a = 1          # dead
5      b = 2          # dead
6  except E:
7      return 0
8      c = 3          # dead
9  finally:
10     d = 4
11 after = 5
``` -/
def ryTry : List Stmt :=
  [.try_ 2 10 [.raise 3 3, .simple 4 4 [] false, .simple 5 5 [] false] [.handler 6 8 [.ret 7 7 [] false, .simple 8 8 [] false]] []
     [.simple 10 10 [] false],
   .simple 11 11 [] false]
#guard okC2 ryTry && wfloc1 ryTry
#guard structDead ryTry == [4, 5, 8] && rangesOf (findings (build .func 1 11 ryTry)) == [(4, 5), (8, 8)]
#guard covered (structDead ryTry) (findings (build .func 1 11 ryTry))

/-- a dead compound statement with a comprehension and a multi-line statement: the ranges use the END line of the newest record -/
def ryMulti : List Stmt :=
  [.ret 2 2 [] false, .simple 3 5 [true, false] true, .match_ 6 9 [.case_ 7 8 [.simple 8 8 [] false], .case_ 9 9 []], .simple 10 12 [] false]
#guard okC2 ryMulti && wfloc1 ryMulti
#guard structDead ryMulti == [3, 6, 7, 8, 9, 10]
#guard covered (structDead ryMulti) (findings (build .func 1 12 ryMulti))

/-- a class definition (header 1 … 6) -/
def ryCls : List Stmt := [.simple 2 2 [] false, .class_ 3 5 [.ret 4 4 [] false, .simple 5 5 [] false], .simple 6 6 [] false]
#guard okC2 ryCls && wfL 2 ryCls
#guard structDead ryCls == [5] && covered (structDead ryCls) (findings (build .cls 1 6 ryCls))

/-! #### the restriction `noSEL` is needed -/

/-- a STANDALONE `elif` clause (not produced by the parser) after dead statements: its `0..0` test record is stored in the dead block
that already holds the record of line 3, the block is reported as `3 … 0`, and line 3 — structurally dead, not an `elif` head — lies in
NO reported range
```
2  return 0
3  x = 1            # dead, NOT covered: range of its block is 3 … 0
4  elif c:          # stray clause
5      y = 2        # dead, covered by 5 … 5
``` -/
def ryStandalone : List Stmt := [.ret 2 2 [] false, .simple 3 3 [] false, .elifc 4 5 [.simple 5 5 [] false] []]
#guard okLC false ryStandalone && wfloc1 ryStandalone && !noSEL ryStandalone && !okC2 ryStandalone
#guard structDead ryStandalone == [3, 4, 5] && elifL ryStandalone == [4]
#guard rangesOf (findings (build .func 1 5 ryStandalone)) == [(3, 0), (5, 5)]
#guard !covered [3] (findings (build .func 1 5 ryStandalone))
#guard 3 ∈ structDead ryStandalone && !(3 ∈ elifL ryStandalone)
-- the record-level statement still holds for line 3 (`C02_mirror_complete` does not need `noSEL`):
#guard 3 ∈ deadLines (build .func 1 5 ryStandalone)

/-- the shape of the record list behind `ryStandalone`: a `0..0` record that is NOT the oldest record of its block — `ZF` fails for a
list of this shape, and the block summary ends at line 0 -/
theorem C02_noSEL_needed_records :
    let L : List SRec := [{ blk := 3, s := 0, e := 0, ty := .other }, { blk := 3, s := 3, e := 3, ty := .other }, { blk := 2, s := 2, e := 2, ty := .ret }]
    ¬ ZF L ∧ (infoR 3 L).start = 3 ∧ (infoR 3 L).stop = 0 := by
  refine ⟨fun h => ?_, by decide, by decide⟩
  exact h.2 rfl _ (List.mem_cons_self ..) rfl

end PV.C02

#print axioms PV.C02.C02_ranges_complete
#print axioms PV.C02.C02_ranges_complete_fn
#print axioms PV.C02.C02_ranges_complete_noelif
#print axioms PV.C02.C02_ranges_cover_records
#print axioms PV.C02.C02_ranges_cover_span
#print axioms PV.C02.C02_block_records_ordered
#print axioms PV.C02.C02_zero_record_first
#print axioms PV.C02.C02_noSEL_needed_records
