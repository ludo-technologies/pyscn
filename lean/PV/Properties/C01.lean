import PV.Model.PySem
/-!
# C01 — dead-code soundness

`C01_live_sound`: whatever values conditions take and whichever calls raise (the nondeterministic
semantics `PV.Py.Exec`), every executed line and the outcome of every execution are inside the static
over-approximation `PV.Py.live`.  The check then requires, for every generated function, that no line in
`live` lies inside a range the REAL pyscn reports as dead: together this gives soundness of the report
for ALL executions of each checked program (the quantifier over executions is discharged by proof, the
one over programs by exhaustive-small + random generation).
-/
namespace PV.C01
open PV.CFG PV.Py

theorem has_union (a b : Outs) (o : Out) : (a.union b).has o = (a.has o || b.has o) := by
  cases o <;> rfl
theorem has_nonNormal (a : Outs) (o : Out) (h : o ≠ .normal) : a.nonNormal.has o = a.has o := by
  cases o <;> first | rfl | exact absurd rfl h
theorem has_nonNormal_le (a : Outs) (o : Out) (h : a.nonNormal.has o = true) : a.has o = true := by
  cases o <;> first | exact h | cases h

/-- the invariant: outcome and executed lines are predicted -/
def Ok (r : R) (o : Out) (tr : List Nat) : Prop := r.outs.has o = true ∧ ∀ i ∈ tr, i ∈ r.lines

theorem live_cons (x : Stmt) (xs : List Stmt) :
    live (x :: xs) = if (liveS x).outs.normal then
        { lines := (liveS x).lines ++ (live xs).lines, outs := (liveS x).outs.nonNormal.union (live xs).outs }
      else liveS x := by
  rw [live]

theorem live_nil : live [] = { lines := [], outs := { normal := true } } := by rw [live]

theorem ok_single_iff {x : Stmt} {o : Out} {tr : List Nat} : Ok (live [x]) o tr ↔ Ok (liveS x) o tr := by
  rw [live_cons, live_nil]
  split
  · next hn =>
    have : ((liveS x).outs.nonNormal.union { normal := true }).has o = (liveS x).outs.has o := by
      cases o <;> simp [Outs.has, Outs.union, Outs.nonNormal, hn]
    simp only [Ok, this, List.append_nil]
  · rfl

theorem ok_single {x : Stmt} {o : Out} {tr : List Nat} : Ok (liveS x) o tr → Ok (live [x]) o tr := ok_single_iff.mpr
theorem single_ok {x : Stmt} {o : Out} {tr : List Nat} : Ok (live [x]) o tr → Ok (liveS x) o tr := ok_single_iff.mp

theorem ok_seqN {x : Stmt} {ss : List Stmt} {o : Out} {t₁ t₂ : List Nat}
    (h₁ : Ok (live [x]) .normal t₁) (h₂ : Ok (live ss) o t₂) : Ok (live (x :: ss)) o (t₁ ++ t₂) := by
  have h₁' := single_ok h₁
  have hn : (liveS x).outs.normal = true := h₁'.1
  rw [live_cons, if_pos hn]
  refine ⟨?_, ?_⟩
  · simp only [has_union, h₂.1, Bool.or_true]
  · intro i hi
    rcases List.mem_append.mp hi with hi | hi
    · exact List.mem_append.mpr (.inl (h₁'.2 i hi))
    · exact List.mem_append.mpr (.inr (h₂.2 i hi))

theorem ok_seqS {x : Stmt} {ss : List Stmt} {o : Out} {t₁ : List Nat}
    (h₁ : Ok (live [x]) o t₁) (ho : o ≠ .normal) : Ok (live (x :: ss)) o t₁ := by
  have h₁' := single_ok h₁
  rw [live_cons]
  split
  · refine ⟨?_, fun i hi => List.mem_append.mpr (.inl (h₁'.2 i hi))⟩
    simp only [has_union, has_nonNormal _ _ ho, h₁'.1, Bool.true_or]
  · exact h₁'

theorem ok_alts {h : Stmt} {hs : List Stmt} {o : Out} {tr : List Nat} (hm : h ∈ hs) (hk : Ok (liveS h) o tr) :
    Ok (liveAlts hs) o tr := by
  induction hs with
  | nil => cases hm
  | cons x xs ih =>
    rw [liveAlts]
    rcases List.mem_cons.mp hm with rfl | hm
    · exact ⟨by simp only [has_union, hk.1, Bool.true_or], fun i hi => List.mem_append.mpr (.inl (hk.2 i hi))⟩
    · have := ih hm
      exact ⟨by simp only [has_union, this.1, Bool.or_true], fun i hi => List.mem_append.mpr (.inr (this.2 i hi))⟩

theorem afterFinally_has {p f : Outs} {o₁ of : Out} (h₁ : p.has o₁ = true) (h₂ : f.has of = true) :
    (p.afterFinally f).has (merge o₁ of) = true := by
  unfold Outs.afterFinally merge
  by_cases hof : of = .normal
  · subst hof
    simp only [if_true]
    have : f.normal = true := h₂
    rw [if_pos this, has_union, h₁, Bool.or_true]
  · simp only [if_neg hof]
    split
    · rw [has_union, has_nonNormal _ _ hof, h₂, Bool.true_or]
    · rw [has_nonNormal _ _ hof, h₂]

theorem live_nil_ok {o : Out} {tr : List Nat} (h : Ok (live []) o tr) : o = .normal ∧ tr = [] := by
  rw [live_nil] at h
  obtain ⟨h1, h2⟩ := h
  refine ⟨?_, ?_⟩
  · cases o <;> simp_all [Outs.has]
  · cases tr with
    | nil => rfl
    | cons a t => exact absurd (h2 a (by simp)) (by simp)

theorem lines_cons {s : Nat} {t l : List Nat} (h : ∀ i ∈ t, i ∈ l) : ∀ i ∈ s :: t, i ∈ s :: l := by
  intro i hi
  rcases List.mem_cons.mp hi with rfl | hi
  · exact List.mem_cons_self
  · exact List.mem_cons_of_mem _ (h i hi)

/-! coverage of a trace by the predicted lines, part by part -/
theorem covL {t a : List Nat} (b : List Nat) (h : ∀ i ∈ t, i ∈ a) : ∀ i ∈ t, i ∈ a ++ b :=
  fun i hi => List.mem_append.mpr (.inl (h i hi))
theorem covR {t b : List Nat} (a : List Nat) (h : ∀ i ∈ t, i ∈ b) : ∀ i ∈ t, i ∈ a ++ b :=
  fun i hi => List.mem_append.mpr (.inr (h i hi))
theorem covApp {t₁ t₂ l : List Nat} (h₁ : ∀ i ∈ t₁, i ∈ l) (h₂ : ∀ i ∈ t₂, i ∈ l) : ∀ i ∈ t₁ ++ t₂, i ∈ l :=
  fun i hi => (List.mem_append.mp hi).elim (h₁ i) (h₂ i)

/-- what `liveS` of a `try` predicts for the moment the `finally` part (if any) is entered: the lines of body, handlers and `else`,
and the outcomes pending there -/
def pend (body hs orelse : List Stmt) : R :=
  { lines := (live body).lines ++ (if (live body).outs.exc then liveAlts hs else {}).lines ++
      (if (live body).outs.normal then live orelse else {}).lines,
    outs := ((live body).outs.nonNormal.union (if (live body).outs.exc then liveAlts hs else {}).outs).union
      (if (live body).outs.normal then live orelse else {}).outs }

theorem liveS_try (s e : Nat) (body hs orelse fin : List Stmt) :
    liveS (.try_ s e body hs orelse fin) = if fin.isEmpty then pend body hs orelse else
      { lines := (pend body hs orelse).lines ++ (live fin).lines, outs := (pend body hs orelse).outs.afterFinally (live fin).outs } := by
  rw [liveS]; rfl

/-- the three ways to reach the end of body / handlers / `else`: the body leaves abnormally, a handler runs, the `else` part runs -/
theorem pend_body {body hs orelse : List Stmt} {ob : Out} {tb : List Nat} (hb : Ok (live body) ob tb) (hob : ob ≠ .normal) :
    Ok (pend body hs orelse) ob tb :=
  ⟨by simp only [pend, has_union, has_nonNormal _ _ hob, hb.1, Bool.true_or], covL _ (covL _ hb.2)⟩

theorem pend_handler {body hs orelse : List Stmt} {h : Stmt} {o₁ : Out} {tb t₁ : List Nat} (hb : Ok (live body) .exc tb) (hm : h ∈ hs)
    (hh : Ok (live [h]) o₁ t₁) : Ok (pend body hs orelse) o₁ (tb ++ t₁) := by
  have hbe : (live body).outs.exc = true := hb.1
  have hh := ok_alts hm (single_ok hh)
  simp only [pend, hbe, if_true]
  exact ⟨by simp only [has_union, hh.1, Bool.or_true, Bool.true_or], covApp (covL _ (covL _ hb.2)) (covL _ (covR _ hh.2))⟩

theorem pend_else {body hs orelse : List Stmt} {o₁ : Out} {tb t₁ : List Nat} (hb : Ok (live body) .normal tb)
    (he : Ok (live orelse) o₁ t₁) : Ok (pend body hs orelse) o₁ (tb ++ t₁) := by
  have hbn : (live body).outs.normal = true := hb.1
  simp only [pend, hbn, if_true]
  exact ⟨by simp only [has_union, he.1, Bool.or_true], covApp (covL _ (covL _ hb.2)) (covR _ he.2)⟩

theorem ok_try_nil {s e : Nat} {body hs orelse : List Stmt} {o₁ : Out} {t : List Nat} (hp : Ok (pend body hs orelse) o₁ t) :
    Ok (live [.try_ s e body hs orelse []]) o₁ t :=
  ok_single (by rw [liveS_try]; exact hp)

theorem ok_try_fin {s e : Nat} {body hs orelse fin : List Stmt} {o₁ of : Out} {t tf : List Nat} (hp : Ok (pend body hs orelse) o₁ t)
    (hf : Ok (live fin) of tf) : Ok (live [.try_ s e body hs orelse fin]) (merge o₁ of) (t ++ tf) := by
  apply ok_single; rw [liveS_try]
  split
  · next hfe =>
    cases List.isEmpty_iff.mp hfe
    obtain ⟨rfl, rfl⟩ := live_nil_ok hf
    rw [List.append_nil]
    exact hp
  · exact ⟨afterFinally_has hp.1 hf.1, covApp (covL _ hp.2) (covR _ hf.2)⟩

/-- **C01 (semantic core).** For every statement list, every execution allowed by the nondeterministic
semantics — any truth values, any number of iterations, any statement raising, `__exit__` swallowing or
not, any handler matching or not — produces an outcome and executes only lines that `live` predicts. -/
theorem C01_live_sound {ss : List Stmt} {o : Out} {tr : List Nat} (ex : Exec ss o tr) : Ok (live ss) o tr := by
  induction ex with
  | nil => rw [live_nil]; exact ⟨rfl, fun _ h => by cases h⟩
  | seqN _ _ ih₁ ih₂ => exact ok_seqN ih₁ ih₂
  | seqS _ ho ih₁ => exact ok_seqS ih₁ ho
  | simpleOk | simpleExc | ret | retExc | brk | cont | raise | defOk | defExc | loopExc | withExc =>
    apply ok_single; rw [liveS]; exact ⟨rfl, by simp⟩
  | iteExc | elifExc | matchExc | classExc =>
    apply ok_single; rw [liveS]; exact ⟨by simp [Outs.union, Outs.has], by simp⟩
  | iteThen _ ih | elifThen _ ih =>
    apply ok_single; rw [liveS]
    exact ⟨by simp only [has_union, ih.1, Bool.true_or, Bool.or_true], lines_cons (covL _ ih.2)⟩
  | iteElse _ ih | elifElse _ ih =>
    apply ok_single; rw [liveS]
    exact ⟨by simp only [has_union, ih.1, Bool.true_or, Bool.or_true], lines_cons (covR _ ih.2)⟩
  | elsec _ ih => apply ok_single; rw [liveS]; exact ih
  | @loopDone s e body orelse o t _ ih =>
    apply ok_single; rw [liveS]
    refine ⟨?_, lines_cons (covR _ ih.2)⟩
    have := ih.1
    cases o <;> simp_all [Outs.has]
  | @loopIter s e body orelse o₁ t₁ o t₂ _ _ _ ih₁ ih₂ =>
    have h2 := single_ok ih₂
    rw [liveS] at h2
    apply ok_single; rw [liveS]
    refine ⟨h2.1, ?_⟩
    intro i hi
    rcases List.mem_cons.mp hi with rfl | hi
    · exact List.mem_cons_self
    · exact covApp (fun i hi => List.mem_cons_of_mem _ (covL _ ih₁.2 i hi)) h2.2 i hi
  | loopBrk _ ih =>
    apply ok_single; rw [liveS]
    refine ⟨?_, lines_cons (covL _ ih.2)⟩
    have : (live _).outs.brk = true := ih.1
    simp [Outs.has, this]
  | @loopStop s e body orelse o₁ t₁ _ ho ih =>
    apply ok_single; rw [liveS]
    refine ⟨?_, lines_cons (covL _ ih.2)⟩
    have := ih.1
    rcases ho with rfl | rfl <;> simp_all [Outs.has]
  | tryN _ _ hf ihb ihe => subst hf; exact ok_try_nil (pend_else ihb ihe)
  | tryNF _ _ _ ihb ihe ihf => exact ok_try_fin (pend_else ihb ihe) ihf
  | tryH _ hm _ hf ihb ihh => subst hf; exact ok_try_nil (pend_handler ihb hm ihh)
  | tryHF _ hm _ _ ihb ihh ihf => exact ok_try_fin (pend_handler ihb hm ihh) ihf
  | tryP _ hob hf ihb => subst hf; exact ok_try_nil (pend_body ihb hob)
  | tryPF _ hob _ ihb ihf => exact ok_try_fin (pend_body ihb hob) ihf
  | handler _ ih | case_ _ ih => apply ok_single; rw [liveS]; exact ⟨ih.1, lines_cons ih.2⟩
  | @withBody s e body o t _ ih =>
    apply ok_single; rw [liveS]
    refine ⟨?_, lines_cons ih.2⟩
    have := ih.1
    cases o <;> simp_all [Outs.has]
  | withSwallow _ ih =>
    apply ok_single; rw [liveS]
    refine ⟨?_, lines_cons ih.2⟩
    have : (live _).outs.exc = true := ih.1
    simp [Outs.has, this]
  | withExitRaise _ ih => apply ok_single; rw [liveS]; exact ⟨rfl, lines_cons ih.2⟩
  | matchNone =>
    apply ok_single; rw [liveS]
    exact ⟨by simp [Outs.union, Outs.has], lines_cons (covL _ fun _ hi => hi)⟩
  | @matchHit s e cases pre c post o t hc _ ih =>
    apply ok_single; rw [liveS]
    have hm : c ∈ cases := by rw [hc]; simp
    have hh := ok_alts hm (single_ok ih)
    refine ⟨by simp only [has_union, hh.1, Bool.or_true], lines_cons (covApp (covL _ ?_) (covR _ hh.2))⟩
    rw [hc, List.map_append]
    exact covL _ fun _ hi => hi
  | classBody _ ih =>
    apply ok_single; rw [liveS]
    exact ⟨by simp only [has_union, ih.1, Bool.or_true], lines_cons ih.2⟩

end PV.C01
