import PV.Model.Gate
import PV.Generated.GateFacts
/-!
# C19 — the check gate fails exactly when a gated violation exists
-/
namespace PV.C19
open PV.Gate

/-- the property, stated without reference to how `runCheck` counts -/
def Spec (f : Flags) (r : Results) : Prop :=
  (enabled f .complexity = true → ∃ cs cfgMax, r.cx = some (cs, cfgMax) ∧ ∀ c ∈ cs, c ≤ effMax f cfgMax) ∧
  (enabled f .deadcode = true → ∃ ss gate, r.dead = some (ss, gate) ∧ (f.allowDead = true ∨ ∀ s ∈ ss, s.isAtLeast gate = false)) ∧
  (enabled f .deps = true → ∃ n, r.cycles = some n ∧ (f.allowCirc = true ∨ (n : Int) ≤ f.maxCycles)) ∧
  (enabled f .mockdata = true → r.mock = some 0)

theorem filter_length_zero {α} (p : α → Bool) (l : List α) : (l.filter p).length = 0 ↔ ∀ x ∈ l, p x = false := by
  rw [List.length_eq_zero_iff, List.filter_eq_nil_iff]
  simp only [Bool.not_eq_true]

theorem cxPart_ok (f : Flags) (r : Results) : cxPart f r = (0, false) ↔
    (enabled f .complexity = true → ∃ cs cfgMax, r.cx = some (cs, cfgMax) ∧ ∀ c ∈ cs, c ≤ effMax f cfgMax) := by
  unfold cxPart
  split
  · next h =>
    simp only [h, true_implies]
    rcases hr : r.cx with _ | ⟨cs, cfgMax⟩
    · simp
    · simp only [Prod.mk.injEq, and_true, Option.some.injEq, exists_eq_left', cxIssues]
      rw [filter_length_zero]
      simp only [decide_eq_false_iff_not, Int.not_lt]
      constructor
      · intro h'; exact ⟨cs, cfgMax, ⟨rfl, rfl⟩, h'⟩
      · rintro ⟨cs', m', ⟨rfl, rfl⟩, h'⟩; exact h'
  · next h => simp [h]

theorem deadPart_ok (f : Flags) (r : Results) : deadPart f r = (0, false) ↔
    (enabled f .deadcode = true → ∃ ss gate, r.dead = some (ss, gate) ∧ (f.allowDead = true ∨ ∀ s ∈ ss, s.isAtLeast gate = false)) := by
  unfold deadPart
  split
  · next h =>
    simp only [h, true_implies]
    rcases hr : r.dead with _ | ⟨ss, gate⟩
    · simp
    · cases ha : f.allowDead
      · simp only [Bool.not_false, if_true, Prod.mk.injEq, and_true, Option.some.injEq, Bool.false_eq_true, false_or, deadIssues]
        rw [filter_length_zero]
        constructor
        · intro h'; exact ⟨ss, gate, ⟨rfl, rfl⟩, h'⟩
        · rintro ⟨ss', g', ⟨rfl, rfl⟩, h'⟩; exact h'
      · simp only [Bool.not_true, Bool.false_eq_true, if_false, true_iff, true_or, and_true]
        exact ⟨ss, gate, rfl⟩
  · next h => simp [h]

theorem depsPart_ok (f : Flags) (r : Results) (hmc : 0 ≤ f.maxCycles) : depsPart f r = (0, false) ↔
    (enabled f .deps = true → ∃ n, r.cycles = some n ∧ (f.allowCirc = true ∨ (n : Int) ≤ f.maxCycles)) := by
  unfold depsPart
  split
  · next h =>
    simp only [h, true_implies]
    rcases hr : r.cycles with _ | n
    · simp
    · simp only [Option.some.injEq, exists_eq_left']
      split
      · next hgt =>
        cases ha : f.allowCirc
        · simp only [Bool.not_false, if_true, Prod.mk.injEq, and_true, Bool.false_eq_true, false_or]
          constructor
          · intro h0; subst h0; omega
          · intro hle; omega
        · simp
      · next hle => simp only [true_iff]; right; omega
  · next h => simp [h]

theorem mockPart_ok (f : Flags) (r : Results) : mockPart f r = (0, false) ↔ (enabled f .mockdata = true → r.mock = some 0) := by
  unfold mockPart
  split
  · next h =>
    simp only [h, true_implies]
    rcases hr : r.mock with _ | n
    · simp
    · simp
  · next h => simp [h]

/-- **C19 (gate).** `pyscn check` exits 0 iff every selected gating analysis ran and found no gated violation
(complexity above the effective maximum, dead code at the gate severity unless allowed, more cycles than the
allowed maximum unless allowed, mock data when selected). -/
theorem C19_gate (f : Flags) (r : Results) (hmc : 0 ≤ f.maxCycles) : exitZero f r = true ↔ Spec f r := by
  unfold Spec
  rw [← cxPart_ok, ← deadPart_ok, ← depsPart_ok f r hmc, ← mockPart_ok]
  unfold exitZero run
  simp only []
  rcases cxPart f r with ⟨a, ea⟩
  rcases deadPart f r with ⟨b, eb⟩
  rcases depsPart f r with ⟨c, ec⟩
  rcases mockPart f r with ⟨d, ed⟩
  simp only [Prod.mk.injEq, Bool.and_eq_true, Bool.not_eq_true', Bool.or_eq_false_iff, beq_iff_eq]
  constructor
  · rintro ⟨⟨⟨⟨h1, h2⟩, h3⟩, h4⟩, hs⟩; exact ⟨⟨by omega, h1⟩, ⟨by omega, h2⟩, ⟨by omega, h3⟩, ⟨by omega, h4⟩⟩
  · rintro ⟨⟨a0, h1⟩, ⟨b0, h2⟩, ⟨c0, h3⟩, ⟨d0, h4⟩⟩; exact ⟨⟨⟨⟨h1, h2⟩, h3⟩, h4⟩, by omega⟩

/-- **C19 (clones).** Clone findings never change the exit status of `runCheck` — and neither does a failing clone analysis, which is MORE than the
property allows (see `specExitZero`, `C19_clone_error_deviation`). -/
theorem C19_clones_never_fail (f : Flags) (r : Results) (x : Option Nat) :
    exitZero f { r with clones := x } = exitZero f r := rfl

/-- **The property's own reading** of "exits non-zero … when an analysis could not run": a selected clone analysis that FAILS also makes the
gate fail (clone *findings* still never do). `exitZero` is what `runCheck` does; this is what C19 states. -/
def specExitZero (f : Flags) (r : Results) : Bool :=
  exitZero f r && !(enabled f .clones && r.clones.isNone)

/-- the implementation agrees with the property whenever the clone analysis is not selected or could run … -/
theorem C19_spec_agrees (f : Flags) (r : Results) (h : enabled f .clones = false ∨ r.clones.isSome = true) :
    specExitZero f r = exitZero f r := by
  unfold specExitZero
  rcases h with h | h
  · simp [h]
  · cases hc : r.clones <;> simp_all

/-- … and deviates exactly at the remaining point: **C19 is false of the implementation there** (finding F54, replayed on the real binary by the check:
`pyscn check --select clones <missing dir>` exits 0). The upstream comment at that line reads "Don't treat clone detection failures as hard errors". -/
theorem C19_clone_error_deviation :
    ∃ (f : Flags) (r : Results), enabled f .clones = true ∧ r.clones = none ∧ exitZero f r = true ∧ specExitZero f r = false :=
  ⟨{ select := [.clones] }, { cx := none, dead := none, clones := none, cycles := none, mock := none }, by decide, rfl, by decide, by decide⟩

/-- **C19 (threshold).** Effective maximum complexity: the explicit flag, else the config value when positive,
else the flag's default (10, pinned by `C19_facts`). -/
theorem C19_effMax (f : Flags) (cfgMax : Int) :
    effMax f cfgMax = if f.maxComplexityChanged = true then f.maxComplexity else if cfgMax > 0 then cfgMax else f.maxComplexity := by
  unfold effMax
  cases f.maxComplexityChanged <;> simp

/-- a configuration file that cannot be resolved (an explicit `--config` that does not exist) fails the check before any analysis runs -/
theorem C19_config_error (f : Flags) (r : Results) : exitZeroCfg false f r = false := rfl

theorem C19_config_ok (f : Flags) (r : Results) : exitZeroCfg true f r = exitZero f r := by simp [exitZeroCfg]

/-- **C19 (selection).** Without `--select`: complexity and dead code always, clones unless skipped, deps and mock
data never; with `--select`: exactly the selected analyses. -/
theorem C19_enabled (f : Flags) (a : Analysis) :
    enabled f a = if f.select = [] then (match a with
        | .complexity => true | .deadcode => true | .clones => !f.skipClones | .deps => false | .mockdata => false)
      else f.select.contains a := by
  unfold enabled
  cases h : f.select with
  | nil => cases a <;> simp
  | cons x xs => simp

/-- **C19 (source tie).** The guards, assignments and defaults of the real `check.go` that the model mirrors,
as re-extracted from /repo on this run. A changed operator, operand, default or assignment breaks this theorem. -/
theorem C19_facts :
    PV.Generated.GateFacts.NewCheckCommand = [
      "return: &CheckCommand{ configFile: \"\", quiet: false, maxComplexity: 10, allowDeadCode: false, skipClones: false, allowCircularDeps: false, maxCycles: 0, selectAnalyses: []string{}, }"] ∧
    PV.Generated.GateFacts.runCheck = [
      "if: len(args) == 0", "if: len(c.selectAnalyses) > 0", "if: err != nil", "return: fmt.Errorf(…)",
      "if: err != nil", "return: fmt.Errorf(…)",
      "assign: skipComplexity, skipDeadCode, skipClones, skipDeps, skipMockdata := c.determineEnabledAnalyses()",
      "if: !c.quiet",
      "if: !skipComplexity", "if: err != nil", "assign: hasErrors = true", "assign: issueCount += complexityIssues",
      "if: !skipDeadCode", "if: err != nil", "assign: hasErrors = true", "if: !c.allowDeadCode", "assign: issueCount += deadCodeIssues",
      "if: deadCodeIssues > 0 && !c.quiet",
      "if: !skipClones", "if: err != nil", "if: cloneIssues > 0", "if: !c.quiet",
      "if: !skipDeps", "if: err != nil", "assign: hasErrors = true", "if: depsIssues > c.maxCycles", "if: !c.allowCircularDeps",
      "assign: issueCount += depsIssues", "if: depsIssues > 0 && !c.quiet", "if: depsIssues > 0 && !c.quiet",
      "if: !skipMockdata", "if: err != nil", "assign: hasErrors = true", "assign: issueCount += mockdataIssues",
      "if: hasErrors", "return: fmt.Errorf(…)", "if: issueCount > 0", "return: fmt.Errorf(…)", "if: !c.quiet", "return: nil"] ∧
    PV.Generated.GateFacts.determineEnabledAnalyses = [
      "if: len(c.selectAnalyses) > 0",
      "assign: skipComplexity = !c.containsAnalysis(\"complexity\")", "assign: skipDeadCode = !c.containsAnalysis(\"deadcode\")",
      "assign: skipClones = !c.containsAnalysis(\"clones\")",
      "assign: skipDeps = !c.containsAnalysis(\"deps\") && !c.containsAnalysis(\"circular\")",
      "assign: skipMockdata = !c.containsAnalysis(\"mockdata\")",
      "assign: skipComplexity = false", "assign: skipDeadCode = false", "assign: skipClones = c.skipClones",
      "assign: skipDeps = true", "assign: skipMockdata = true", "return"] ∧
    PV.Generated.GateFacts.containsAnalysis = [
      "if: lowered == analysis", "return: true",
      "if: (analysis == \"deps\" && lowered == \"circular\") || (analysis == \"circular\" && lowered == \"deps\")",
      "return: true", "return: false"] ∧
    PV.Generated.GateFacts.checkComplexity = [
      "if: ctx == nil", "if: err != nil", "return: 0, err", "assign: maxComplexity := c.maxComplexity",
      "if: !cmd.Flags().Changed(\"max-complexity\") && response.Request != nil && response.Request.MaxComplexity > 0",
      "assign: maxComplexity = response.Request.MaxComplexity", "assign: issueCount := 0",
      "if: function.Metrics.Complexity > maxComplexity", "incdec: issueCount++", "if: !c.quiet", "return: issueCount, nil"] ∧
    PV.Generated.GateFacts.checkDeadCode = [
      "if: ctx == nil", "if: err != nil", "return: 0, err", "assign: minSeverity := domain.DeadCodeSeverityCritical",
      "if: response.Request != nil && response.Request.MinSeverity != \"\"", "assign: minSeverity = response.Request.MinSeverity",
      "assign: issueCount := 0", "if: finding.Severity.IsAtLeast(minSeverity)", "incdec: issueCount++", "if: !c.quiet",
      "return: issueCount, nil"] ∧
    PV.Generated.GateFacts.checkCircularDependencies = [
      "if: len(args) > 0", "if: err != nil", "return: 0, fmt.Errorf(…)", "if: err != nil", "return: 0, fmt.Errorf(…)",
      "if: !result.HasCircularDependencies", "return: 0, nil", "if: len(cycle.Modules) == 0", "if: node == nil", "if: !c.quiet",
      "return: result.TotalCycles, nil"] := by
  exact ⟨rfl, rfl, rfl, rfl, rfl, rfl, rfl⟩

/-- non-vacuity: a run that passes and one that fails on exactly one cycle over the limit -/
example : exitZero { select := [.deps], maxCycles := 1 } { cx := none, dead := none, clones := none, cycles := some 1, mock := none } = true ∧
          exitZero { select := [.deps], maxCycles := 1 } { cx := none, dead := none, clones := none, cycles := some 2, mock := none } = false := by
  decide

end PV.C19
