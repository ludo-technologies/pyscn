import PV.Generated.Walkers
import PV.Properties.WalkersExpected
/-!
# C04 (extension) — the AST walkers follow every populated child field, up to a reviewed list

"Every definition is analysed" presupposes that the hand-written recursive walkers over `parser.Node` reach every node. A recurring
defect is "walker X does not descend into field Y" (F15, F29, F51, F58, F59, and the clone walkers below).  `/verif/extract/walkers.go`
regenerates, on every run, the set of child fields the AST builder populates and, per pinned walker, the set of fields it follows;
they are tied to the reviewed tables (`PV.WalkersExpected`), so a walker that loses (or gains) a field breaks a proof obligation.
The generic lemma of DESIGN §4 C04 is proved on an abstract tree with named child fields and instantiated with the generated tables.

Core only (no Mathlib).
-/
namespace PV.C04
open PV

/-- **Tie.** The field sets extracted from the working tree are the reviewed ones. -/
theorem C04_walkers_facts :
    Generated.Walkers.walkers = WalkersExpected.walkers ∧ Generated.Walkers.assigned = WalkersExpected.assigned := ⟨rfl, rfl⟩

/-- **Tie (guards, field inventory).** No new child-capable field in `parser.Node`; the conditional visits are the reviewed ones. -/
theorem C04_walkers_guards :
    Generated.Walkers.guarded = WalkersExpected.guarded ∧ Generated.Walkers.childFields = WalkersExpected.childFields := ⟨rfl, rfl⟩

/-- the reviewed list of fields a walker does not follow -/
def missingOf (w : String) : List String := (WalkersExpected.missing.lookup w).getD []

/-- The `missing` lists are exact: a walker that starts to follow a listed field makes its classification stale, which must be
noticed too. Also: every pinned walker has a row, every row is a pinned walker. -/
theorem C04_walkers_missing_exact :
    WalkersExpected.missing.map (·.1) = Generated.Walkers.walkers.map (·.1) ∧
    ∀ w ∈ Generated.Walkers.walkers, missingOf w.1 = Generated.Walkers.assigned.filter (fun f => !w.2.contains f) := by decide +kernel

/-- **Complete up to the listed fields.** For every pinned walker, every child field that the builder populates is followed by the
walker or is in its reviewed `missing` list (each entry classified in `WalkersExpected`). Stated about the GENERATED tables. -/
theorem C04_walkers_complete_up_to_listed :
    ∀ w ∈ Generated.Walkers.walkers, ∀ f ∈ Generated.Walkers.assigned, f ∈ w.2 ∨ f ∈ missingOf w.1 := by
  intro w hw f hf
  rw [C04_walkers_missing_exact.2 w hw, List.mem_filter, Bool.not_eq_true']
  cases h : w.2.contains f
  · exact Or.inr ⟨hf, rfl⟩
  · exact Or.inl (List.contains_iff_mem.1 h)

theorem C04_walkers_assigned_all : Generated.Walkers.assigned = Generated.Walkers.childFields := rfl

/-- the walkers that reach every STATEMENT position (definitions, imports, fragment candidates live there) -/
def followsStatements (w : String × List String) : Bool := WalkersExpected.statementFields.all w.2.contains

/-- Only the size function of the clone detector fails to follow every statement-bearing field (`Handlers`, `Finalbody`): recorded in
`WalkersExpected.missing`. Every other pinned walker, the two fragment extractors included (finding F69 was their skipping `Handlers`), reaches all statements. -/
theorem C04_walkers_statement_positions :
    (Generated.Walkers.walkers.filter (fun w => !followsStatements w)).map (·.1) =
      ["internal/analyzer/clone_detector.go:calculateASTSize"] := by decide +kernel

mutual
/-- a node: a label and its children, each hanging in a named field (a field with several children = several entries) -/
inductive T where
  | node (label : Nat) (kids : Kids) : T
inductive Kids where
  | nil : Kids
  | cons (field : String) (child : T) (rest : Kids) : Kids
end

mutual
def T.all : T → List T
  | .node l ks => .node l ks :: ks.all
def Kids.all : Kids → List T
  | .nil => []
  | .cons _ c r => c.all ++ r.all
end

mutual
/-- the walker, parametrised by the fields it follows -/
def T.walk (follow : List String) : T → List T
  | .node l ks => .node l ks :: ks.walk follow
def Kids.walk (follow : List String) : Kids → List T
  | .nil => []
  | .cons f c r => (if follow.contains f then c.walk follow else []) ++ r.walk follow
end

mutual
def T.populated : T → List String
  | .node _ ks => ks.populated
def Kids.populated : Kids → List String
  | .nil => []
  | .cons f c r => f :: (c.populated ++ r.populated)
end

mutual
theorem T.walk_eq_all (follow : List String) : (t : T) → (∀ f ∈ t.populated, f ∈ follow) → t.walk follow = t.all
  | .node l ks, h => by
    have := Kids.walk_eq_all follow ks (by simpa [T.populated] using h)
    simp [T.walk, T.all, this]
theorem Kids.walk_eq_all (follow : List String) : (ks : Kids) → (∀ f ∈ ks.populated, f ∈ follow) → ks.walk follow = ks.all
  | .nil, _ => by simp [Kids.walk, Kids.all]
  | .cons f c r, h => by
    have hf : f ∈ follow := h f (by simp [Kids.populated])
    have hc := T.walk_eq_all follow c (fun g hg => h g (by simp [Kids.populated, hg]))
    have hr := Kids.walk_eq_all follow r (fun g hg => h g (by simp [Kids.populated, hg]))
    simp [Kids.walk, Kids.all, hf, hc, hr]
end

mutual
theorem T.walk_sub_all (follow : List String) : (t : T) → ∀ n ∈ t.walk follow, n ∈ t.all
  | .node l ks, n, hn => by
    simp only [T.walk, T.all, List.mem_cons] at hn ⊢
    rcases hn with hn | hn
    · exact Or.inl hn
    · exact Or.inr (Kids.walk_sub_all follow ks n hn)
theorem Kids.walk_sub_all (follow : List String) : (ks : Kids) → ∀ n ∈ ks.walk follow, n ∈ ks.all
  | .nil, n, hn => by simp [Kids.walk] at hn
  | .cons f c r, n, hn => by
    simp only [Kids.walk, Kids.all, List.mem_append] at hn ⊢
    rcases hn with hn | hn
    · by_cases hf : follow.contains f = true
      · rw [if_pos hf] at hn
        exact Or.inl (T.walk_sub_all follow c n hn)
      · rw [if_neg hf] at hn
        cases hn
    · exact Or.inr (Kids.walk_sub_all follow r n hn)
end

/-- **C04 (walk_exact).** If the followed fields include every field populated in the tree, the walk is the pre-order list of ALL
nodes: every node is visited, exactly as often as it occurs, in source order. -/
theorem C04_walk_exact (follow : List String) (t : T) (h : ∀ f ∈ t.populated, f ∈ follow) : t.walk follow = t.all :=
  T.walk_eq_all follow t h

/-- **C04 (walk_complete).** followed ⊇ populated → every node of the subtree is visited. -/
theorem C04_walk_complete (follow : List String) (t : T) (h : ∀ f ∈ t.populated, f ∈ follow) : ∀ n ∈ t.all, n ∈ t.walk follow := by
  intro n hn
  rw [C04_walk_exact follow t h]
  exact hn

/-- **C04 (walk_sound).** Whatever the followed fields are, the walk visits only nodes of the subtree. -/
theorem C04_walk_sound (follow : List String) (t : T) : ∀ n ∈ t.walk follow, n ∈ t.all := T.walk_sub_all follow t

/-- **Instantiation with the generated tables.** For a pinned walker `w`, on every tree that populates only builder-assigned fields and
none of the fields listed as `missing` for `w`, the walker visits every node. (What remains outside: the listed fields, classified one
by one in `WalkersExpected.missing`.) -/
theorem C04_walkers_cover (w : String × List String) (hw : w ∈ Generated.Walkers.walkers) (t : T)
    (h : ∀ f ∈ t.populated, f ∈ Generated.Walkers.assigned ∧ f ∉ missingOf w.1) : t.walk w.2 = t.all := by
  apply C04_walk_exact
  intro f hf
  rcases C04_walkers_complete_up_to_listed w hw f (h f hf).1 with h1 | h1
  · exact h1
  · exact absurd h1 (h f hf).2

/-! ## The excluded case is real: a walker that skips `Handlers` (the clone SIZE function, as extracted) on `try: … except …: def fallback …` -/

/-- the fields the clone size function follows, as extracted from the working tree -/
def cloneFollow : List String :=
  (Generated.Walkers.walkers.lookup "internal/analyzer/clone_detector.go:calculateASTSize").getD []

/-- `Module(Body=[Try(Body=[Import], Handlers=[ExceptHandler(Body=[FunctionDef])])])`: labels 0 Module, 1 Try, 2 Import, 3 ExceptHandler,
4 FunctionDef -/
def tryExceptDef : T :=
  .node 0 (.cons "Body" (.node 1 (.cons "Body" (.node 2 .nil) (.cons "Handlers" (.node 3 (.cons "Body" (.node 4 .nil) .nil)) .nil))) .nil)

/-- The function definition under `except` is a node of the tree and is NOT visited by a walker with this field set (nor is the handler): the size of a
`try` statement ignores its handlers; with the same field set a fragment extractor never sees a function under `except ImportError:` (finding F69). -/
theorem C04_clone_walker_skips_handlers :
    (tryExceptDef.all.map (fun | .node l _ => l)) = [0, 1, 2, 3, 4] ∧
    ((tryExceptDef.walk cloneFollow).map (fun | .node l _ => l)) = [0, 1, 2] := by decide +kernel

/-- with the LCOM class collector's field set the same tree is walked completely -/
example : ((tryExceptDef.walk ((Generated.Walkers.walkers.lookup "internal/analyzer/lcom.go:LCOMAnalyzer.walkNode").getD [])).map
    (fun | .node l _ => l)) = [0, 1, 2, 3, 4] := by decide +kernel

end PV.C04
