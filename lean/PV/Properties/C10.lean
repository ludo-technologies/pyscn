import PV.Model.Grouping
import PV.Properties.C11
import PV.Generated.GroupReportFacts
import PV.Generated.GroupDetectorFacts
import PV.Properties.GroupFactsExpected
import Mathlib.Data.List.Pairwise
/-!
# C10 — clone groups satisfy the contract of the selected grouping mode

Connected mode and k-core mode: theorems about the models `connectedGroups` / `kcoreGroups`
(the implementation's groups must EQUAL the model's, checked by the correspondence run).
Complete-linkage and star mode, the shared shape of the groups, the k-core contract and "every member is linked to the
first through members" (the whole contract of centroid mode): soundness theorems for the checkers `checkComplete`,
`checkStar`, `checkCommon`, `checkKCore`, `checkLinked` that are run on the implementation's groups.
-/
namespace PV.C10
open PV.SCC PV.Grouping PV.C11

/-- connectivity through links at or above the threshold -/
inductive Conn (θ : Nat) (ps : List Pair) : Nat → Nat → Prop
  | refl (u : Nat) : Conn θ ps u u
  | step {u v w : Nat} : Conn θ ps u v → linked θ ps v w = true → Conn θ ps u w

theorem linked_iff {θ : Nat} {ps : List Pair} {u v : Nat} :
    linked θ ps u v = true ↔ ∃ p ∈ ps, ((p.u = u ∧ p.v = v) ∨ (p.u = v ∧ p.v = u)) ∧ θ ≤ p.sim := by
  unfold linked
  simp only [List.any_eq_true, Bool.and_eq_true, Bool.or_eq_true, beq_iff_eq, decide_eq_true_eq]

theorem linked_symm {θ : Nat} {ps : List Pair} {u v : Nat} (h : linked θ ps u v = true) : linked θ ps v u = true := by
  obtain ⟨p, hp, hk, hθ⟩ := linked_iff.mp h
  exact linked_iff.mpr ⟨p, hp, hk.symm, hθ⟩

theorem mem_linkGraph {n θ : Nat} {ps : List Pair} {keep : Nat → Bool} {a b : Nat} :
    (a, b) ∈ (linkGraph n θ ps keep).edges ↔ linked θ ps a b = true ∧ keep a = true ∧ keep b = true := by
  rw [linked_iff]
  unfold linkGraph
  simp only [List.mem_flatMap, List.mem_filter, Bool.and_eq_true, decide_eq_true_eq, List.mem_cons, Prod.mk.injEq,
    List.not_mem_nil, or_false]
  constructor
  · rintro ⟨p, ⟨hp, ⟨hθ, hku⟩, hkv⟩, ⟨rfl, rfl⟩ | ⟨rfl, rfl⟩⟩
    · exact ⟨⟨p, hp, .inl ⟨rfl, rfl⟩, hθ⟩, hku, hkv⟩
    · exact ⟨⟨p, hp, .inr ⟨rfl, rfl⟩, hθ⟩, hkv, hku⟩
  · rintro ⟨⟨p, hp, ⟨rfl, rfl⟩ | ⟨rfl, rfl⟩, hθ⟩, hka, hkb⟩
    · exact ⟨p, ⟨hp, ⟨hθ, hka⟩, hkb⟩, .inl ⟨rfl, rfl⟩⟩
    · exact ⟨p, ⟨hp, ⟨hθ, hkb⟩, hka⟩, .inr ⟨rfl, rfl⟩⟩

theorem Conn.trans {θ : Nat} {ps : List Pair} {u v w : Nat} (h₁ : Conn θ ps u v) (h₂ : Conn θ ps v w) : Conn θ ps u w := by
  induction h₂ with
  | refl => exact h₁
  | step _ he ih => exact Conn.step ih he

theorem Conn.symm {θ : Nat} {ps : List Pair} {u v : Nat} (h : Conn θ ps u v) : Conn θ ps v u := by
  induction h with
  | refl => exact Conn.refl _
  | step _ he ih => exact Conn.trans (Conn.step (Conn.refl _) (linked_symm he)) ih

theorem Conn.of_linked {θ : Nat} {ps : List Pair} {u v : Nat} (h : linked θ ps u v = true) : Conn θ ps u v :=
  Conn.step (Conn.refl u) h

theorem reach_iff_conn {n θ : Nat} {ps : List Pair} {u v : Nat} :
    Reach (linkGraph n θ ps (fun _ => true)) u v ↔ Conn θ ps u v := by
  constructor
  · exact Reach.least Conn.refl Conn.trans (fun he => Conn.of_linked (mem_linkGraph.mp he).1)
  · intro h
    induction h with
    | refl => exact Reach.refl _
    | step _ he ih => exact Reach.step ih (mem_linkGraph.mpr ⟨he, rfl, rfl⟩)

/-- **C10 (connected mode).** Two different fragments are in the same group iff they are connected
through pairs at or above the threshold; the groups are duplicate-free, pairwise disjoint, and have
at least two members: exactly the non-trivial connected components. -/
theorem C10_connected (n θ : Nat) (ps : List Pair) (gs : List (List Nat)) (h : connectedGroups n θ ps = some gs) :
    (∀ u v, u < n → v < n → u ≠ v → ((∃ g ∈ gs, u ∈ g ∧ v ∈ g) ↔ Conn θ ps u v)) ∧
    gs.Nodup ∧ (∀ g ∈ gs, 2 ≤ g.length ∧ g.Nodup) ∧
    (∀ g₁ ∈ gs, ∀ g₂ ∈ gs, ∀ x, x ∈ g₁ → x ∈ g₂ → g₁ = g₂) := by
  unfold connectedGroups at h
  have hp := C11_partition _ gs h
  refine ⟨?_, hp.1, fun g hg => ⟨(hp.2.1 g hg).1, (hp.2.1 g hg).2.1⟩, hp.2.2⟩
  intro u v hu hv hne
  rw [C11_spec _ gs h u v hu hv hne, reach_iff_conn, reach_iff_conn]
  exact ⟨fun h => h.1, fun h => ⟨h, h.symm⟩⟩

/-- connected mode always returns (the certified closure of the SCC model never runs out of fuel, `C11_total`) -/
theorem C10_connected_total (n θ : Nat) (ps : List Pair) : ∃ gs, connectedGroups n θ ps = some gs :=
  (C11_total _).1

/-- the report: the request filter `keep` (similarity range, enabled clone types) decides which pairs are
reported, and the groups are formed from exactly those pairs (mirrors `service/clone_service.go`, which filters the
pairs before grouping; the example below shows what grouping the unfiltered pairs, finding F20, would give) -/
def reportGroups (n θ : Nat) (keep : Pair → Bool) (ps : List Pair) : Option (List (List Nat)) :=
  connectedGroups n θ (ps.filter keep)

/-- **C10 (report level).** In the report two different fragments share a group iff they are connected
through *reported* pairs at or above the grouping threshold — a pair the request filters out links nothing. -/
theorem C10_report (n θ : Nat) (keep : Pair → Bool) (ps : List Pair) (gs : List (List Nat))
    (h : reportGroups n θ keep ps = some gs) :
    (∀ u v, u < n → v < n → u ≠ v → ((∃ g ∈ gs, u ∈ g ∧ v ∈ g) ↔ Conn θ (ps.filter keep) u v)) ∧
    (∀ g ∈ gs, 2 ≤ g.length ∧ g.Nodup) ∧
    (∀ g₁ ∈ gs, ∀ g₂ ∈ gs, ∀ x, x ∈ g₁ → x ∈ g₂ → g₁ = g₂) :=
  let hc := C10_connected n θ (ps.filter keep) gs h
  ⟨hc.1, hc.2.2.1, hc.2.2.2⟩

/-- why the order of filtering and grouping matters (finding F20): two exact
pairs {0,2} and {1,3} and two cross pairs at 74 %; with pairs below 75 % filtered out of the report, grouping the
*unfiltered* pairs still yields one group of four, grouping the reported pairs yields the two groups -/
example :
    let ps : List Pair := [⟨0, 2, 100⟩, ⟨1, 3, 100⟩, ⟨0, 3, 74⟩, ⟨1, 2, 74⟩]
    connectedGroups 4 65 ps = some [[0, 1, 2, 3]] ∧ reportGroups 4 65 (fun p => decide (75 ≤ p.sim)) ps = some [[0, 2], [1, 3]] := by
  decide +kernel

/-- **Tie (regenerated).** The service filters the detector's pairs by the request, then groups exactly the kept pairs with the
configured strategy (the shape `reportGroups` models); the later per-group filter can only drop whole groups. -/
theorem C10_facts :
    Generated.GroupReportFacts.DetectClonesInFiles = GroupFactsExpected.GroupReportFacts_DetectClonesInFiles ∧
    Generated.GroupReportFacts.filterDetectedPairs = GroupFactsExpected.GroupReportFacts_filterDetectedPairs ∧
    Generated.GroupDetectorFacts.GroupClonePairs = GroupFactsExpected.GroupDetectorFacts_GroupClonePairs ∧
    Generated.GroupDetectorFacts.configuredGroupingStrategy = GroupFactsExpected.GroupDetectorFacts_configuredGroupingStrategy ∧
    Generated.GroupDetectorFacts.groupClonesWithStrategy = GroupFactsExpected.GroupDetectorFacts_groupClonesWithStrategy :=
  ⟨rfl, rfl, rfl, rfl, rfl⟩

theorem peel_fix {θ k : Nat} {ps : List Pair} : ∀ (f : Nat) (R S : List Nat), peel θ k ps f R = some S →
    peelStep θ k ps S = S ∧ (∀ x ∈ S, x ∈ R) ∧ (R.Nodup → S.Nodup)
  | 0, R, S, h => by
    unfold peel at h; split at h
    · next hc => cases h; exact ⟨by simpa using hc, fun _ hx => hx, id⟩
    · cases h
  | f + 1, R, S, h => by
    unfold peel at h; split at h
    · next hc => cases h; exact ⟨by simpa using hc, fun _ hx => hx, id⟩
    · obtain ⟨h1, h2, h3⟩ := peel_fix f _ S h
      refine ⟨h1, fun x hx => ?_, fun hR => h3 ?_⟩
      · have := h2 x hx; unfold peelStep at this; exact (List.mem_filter.mp this).1
      · unfold peelStep; exact List.Nodup.filter _ hR

/-- **C10 (k-core mode).** In every group every member has at least `k` neighbours (links at or above
the threshold) inside its own group; groups are duplicate-free, disjoint, with ≥ 2 members. -/
theorem C10_kcore (n θ k : Nat) (ps : List Pair) (gs : List (List Nat)) (h : kcoreGroups n θ k ps = some gs) :
    (∀ g ∈ gs, ∀ u ∈ g, k ≤ degIn θ ps g u) ∧
    gs.Nodup ∧ (∀ g ∈ gs, 2 ≤ g.length ∧ g.Nodup) ∧
    (∀ g₁ ∈ gs, ∀ g₂ ∈ gs, ∀ x, x ∈ g₁ → x ∈ g₂ → g₁ = g₂) := by
  unfold kcoreGroups at h
  split at h
  · cases h
  · next R hR =>
    obtain ⟨hfix, hsub, hnd⟩ := peel_fix _ _ R hR
    have hRn : ∀ x ∈ R, x < n := fun x hx => List.mem_range.mp (List.mem_filter.mp (hsub x hx)).1
    have hRnd : R.Nodup := hnd (List.Nodup.filter _ List.nodup_range)
    have hdeg : ∀ u ∈ R, k ≤ degIn θ ps R u := by
      intro u hu
      have : u ∈ peelStep θ k ps R := by rw [hfix]; exact hu
      unfold peelStep at this
      simpa using (List.mem_filter.mp this).2
    have hp := C11_partition _ gs h
    refine ⟨?_, hp.1, fun g hg => ⟨(hp.2.1 g hg).1, (hp.2.1 g hg).2.1⟩, hp.2.2⟩
    intro g hg u hug
    have hun : u < n := (hp.2.1 g hg).2.2.2 u hug
    -- u has a partner, hence an outgoing edge, hence it survived the peeling
    obtain ⟨v, _, hvu, h1, _⟩ := (C11_single _ gs h u hun).mp ⟨g, hg, hug⟩
    obtain ⟨c, hc⟩ := h1.exists_edge (Ne.symm hvu)
    have huR : u ∈ R := List.contains_iff_mem.mp (mem_linkGraph.mp hc).2.1
    -- every neighbour of u inside R lies in g
    refine Nat.le_trans (hdeg u huR) ?_
    unfold degIn
    apply PV.ListLemmas.length_filter_le_of_subset hRnd
    intro x hxR hx2
    refine ⟨?_, hx2⟩
    rw [Bool.and_eq_true, bne_iff_ne] at hx2
    obtain ⟨hxu, hl⟩ := hx2
    have e1 : (u, x) ∈ (linkGraph n θ ps (fun u => R.contains u)).edges :=
      mem_linkGraph.mpr ⟨hl, List.contains_iff_mem.mpr huR, List.contains_iff_mem.mpr hxR⟩
    have e2 : (x, u) ∈ (linkGraph n θ ps (fun u => R.contains u)).edges :=
      mem_linkGraph.mpr ⟨linked_symm hl, List.contains_iff_mem.mpr hxR, List.contains_iff_mem.mpr huR⟩
    obtain ⟨c, hc, huc, hxc⟩ := (C11_spec _ gs h u x hun (hRn x hxR) (Ne.symm hxu)).mpr
      ⟨Reach.step (Reach.refl _) e1, Reach.step (Reach.refl _) e2⟩
    rw [← hp.2.2 c hc g hg u huc hug]
    exact hxc

/-- the clamp `k < 2 ↦ 2` only strengthens the guarantee: with the effective k, members still have ≥ k neighbours -/
theorem C10_kcore_effK (n θ k : Nat) (ps : List Pair) (gs : List (List Nat)) (h : kcoreGroups n θ (effK k) ps = some gs) :
    ∀ g ∈ gs, ∀ u ∈ g, k ≤ degIn θ ps g u := by
  intro g hg u hu
  have := (C10_kcore n θ (effK k) ps gs h).1 g hg u hu
  have hk : k ≤ effK k := by unfold effK; split <;> omega
  omega

/-! ## checkers (run on the implementation's output) -/

theorem checkCommon_iff {gs : List (List Nat)} :
    checkCommon gs = true ↔ (∀ g ∈ gs, 2 ≤ g.length) ∧ gs.flatten.Nodup := by
  unfold checkCommon
  simp only [Bool.and_eq_true, List.all_eq_true, decide_eq_true_eq]

theorem checkComplete_iff {θ : Nat} {ps : List Pair} {gs : List (List Nat)} :
    checkComplete θ ps gs = true ↔ ∀ g ∈ gs, ∀ u ∈ g, ∀ v ∈ g, u ≠ v → linked θ ps u v = true := by
  unfold checkComplete
  simp only [List.all_eq_true, Bool.or_eq_true, beq_iff_eq, or_iff_not_imp_left, ne_eq]

theorem checkStar_iff {θ : Nat} {ps : List Pair} {gs : List (List Nat)} :
    checkStar θ ps gs = true ↔ ∀ g ∈ gs, ∃ m ∈ g, ∀ u ∈ g, u ≠ m → linked θ ps u m = true := by
  unfold checkStar
  simp only [List.all_eq_true, List.any_eq_true, Bool.or_eq_true, beq_iff_eq, or_iff_not_imp_left, ne_eq]

/-- **C10 (common).** `checkCommon` accepts only duplicate-free, pairwise disjoint groups with ≥ 2 members. -/
theorem C10_common_sound (gs : List (List Nat)) (h : checkCommon gs = true) :
    (∀ g ∈ gs, 2 ≤ g.length ∧ g.Nodup) ∧ (∀ g₁ ∈ gs, ∀ g₂ ∈ gs, g₁ ≠ g₂ → ∀ x, x ∈ g₁ → x ∈ g₂ → False) := by
  obtain ⟨h1, h2⟩ := checkCommon_iff.mp h
  rw [List.nodup_flatten] at h2
  refine ⟨fun g hg => ⟨h1 g hg, h2.1 g hg⟩, ?_⟩
  intro g₁ hg₁ g₂ hg₂ hne x hx₁ hx₂
  have : Std.Symm (List.Disjoint (α := Nat)) := ⟨fun _ _ h _ hb ha => h ha hb⟩
  exact (h2.2.forall hg₁ hg₂ hne) hx₁ hx₂

/-- **C10 (complete linkage).** Accepted groups have every two different members linked at or above θ. -/
theorem C10_complete_sound (θ : Nat) (ps : List Pair) (gs : List (List Nat)) (h : checkComplete θ ps gs = true) :
    ∀ g ∈ gs, ∀ u ∈ g, ∀ v ∈ g, u ≠ v → linked θ ps u v = true :=
  checkComplete_iff.mp h

/-- **C10 (star).** Accepted groups have a member (the medoid) linked at or above θ with every other member;
in particular the group is connected through such links. -/
theorem C10_star_sound (θ : Nat) (ps : List Pair) (gs : List (List Nat)) (h : checkStar θ ps gs = true) :
    ∀ g ∈ gs, ∃ m ∈ g, (∀ u ∈ g, u ≠ m → linked θ ps u m = true) ∧ (∀ u ∈ g, ∀ v ∈ g, Conn θ ps u v) := by
  intro g hg
  obtain ⟨m, hm, key⟩ := checkStar_iff.mp h g hg
  refine ⟨m, hm, key, ?_⟩
  have toM : ∀ u ∈ g, Conn θ ps u m := by
    intro u hu
    by_cases hum : u = m
    · subst hum; exact Conn.refl _
    · exact Conn.of_linked (key u hu hum)
  intro u hu v hv
  exact (toM u hu).trans (toM v hv).symm

/-- **C10 (k-core, checker form).** The contract of `C10_kcore` as a checker run on the implementation's own groups. -/
theorem C10_kcore_check_sound (θ k : Nat) (ps : List Pair) (gs : List (List Nat)) (h : checkKCore θ k ps gs = true) :
    ∀ g ∈ gs, ∀ u ∈ g, k ≤ degIn θ ps g u := by
  intro g hg u hu
  unfold checkKCore at h
  simpa using List.all_eq_true.mp (List.all_eq_true.mp h g hg) u hu

/-- **C10 (every mode; the whole contract of the centroid mode).** In an accepted group every member is reached from the group's
first member through pairs at or above θ whose two ends are members of the group. -/
theorem C10_linked_sound (n θ : Nat) (ps : List Pair) (gs : List (List Nat)) (h : checkLinked n θ ps gs = true) :
    ∀ g ∈ gs, ∃ m ∈ g, ∀ v ∈ g, Reach (linkGraph n θ ps (fun u => g.contains u)) m v := by
  intro g hg
  have hgl := List.all_eq_true.mp h g hg
  unfold groupLinked at hgl
  split at hgl
  · cases hgl
  · next m rest =>
    split at hgl
    · next S hS =>
      refine ⟨m, List.mem_cons_self .., fun v hv => ?_⟩
      have := List.all_eq_true.mp hgl v hv
      exact (PV.C11.reachSet_spec hS v).mp (by simpa using this)
    · cases hgl

/-- links inside a group are links of the whole pair graph: a linked group lies inside one connected component -/
theorem C10_linked_conn (n θ : Nat) (ps : List Pair) (g : List Nat) {m v : Nat}
    (h : Reach (linkGraph n θ ps (fun u => g.contains u)) m v) : Conn θ ps m v :=
  h.least Conn.refl Conn.trans (fun he => Conn.of_linked (mem_linkGraph.mp he).1)

end PV.C10
