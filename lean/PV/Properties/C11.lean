import PV.Model.SCC
import PV.Proofs.Classes
/-!
# C11 — circular dependencies are exactly the non-trivial strongly connected components

Theorems about the specification-level model `PV.SCC.cycles`.  `Reach` is the (unbounded)
reflexive-transitive closure of the import relation; the executable closure always returns
(`reachSet_total`) and decides it (`reachSet_spec`).  The literal mirror of pyscn's Tarjan code is proved to
return this model's output once sorted by first member, when every edge target is a vertex (`PV/Properties/C11x.lean`);
the implementation itself is tied to both by the correspondence check (all digraphs on ≤ 3 vertices, on 4 in the thorough
tier, + random larger ones).
-/
namespace PV.C11
open PV.SCC

/-! ## the closure computes reachability -/

theorem mem_expand {g : G} {R : List Nat} {x : Nat} :
    x ∈ expand g R ↔ x ∈ R ∨ ∃ e ∈ g.edges, e.1 ∈ R ∧ e.2 = x := by
  unfold expand
  simp only [List.mem_append, List.mem_map, List.mem_filter, List.contains_iff_mem]
  constructor
  · rintro (h | ⟨e, ⟨he, hR⟩, rfl⟩)
    · exact .inl h
    · exact .inr ⟨e, he, hR, rfl⟩
  · rintro (h | ⟨e, he, hR, rfl⟩)
    · exact .inl h
    · exact .inr ⟨e, ⟨he, hR⟩, rfl⟩

theorem closure_spec {g : G} (u : Nat) : ∀ (f : Nat) (R S : List Nat), closure g f R = some S →
    closed g S = true ∧ (∀ x ∈ R, x ∈ S) ∧ ((∀ x ∈ R, Reach g u x) → ∀ x ∈ S, Reach g u x)
  | 0, R, S, h => by
    unfold closure at h; split at h
    · next hc => cases h; exact ⟨hc, fun _ hx => hx, id⟩
    · cases h
  | f + 1, R, S, h => by
    unfold closure at h; split at h
    · next hc => cases h; exact ⟨hc, fun _ hx => hx, id⟩
    · obtain ⟨h1, h2, h3⟩ := closure_spec u f _ S h
      refine ⟨h1, fun x hx => h2 x (mem_expand.mpr (.inl hx)), fun hR => h3 ?_⟩
      intro x hx
      rcases mem_expand.mp hx with hx | ⟨e, he, heR, rfl⟩
      · exact hR x hx
      · exact Reach.step (hR _ heR) he

theorem closed_complete {g : G} {S : List Nat} (hc : closed g S = true) {u x : Nat} (hu : u ∈ S)
    (h : Reach g u x) : x ∈ S := by
  induction h with
  | refl => exact hu
  | step _ he ih =>
    unfold closed at hc
    have := (List.all_eq_true.mp hc) _ he
    simp only [Bool.or_eq_true, Bool.not_eq_true', List.contains_iff_mem] at this
    rcases this with h | h
    · simp at h; exact absurd ih h
    · exact h

theorem reachSet_spec {g : G} {u : Nat} {S : List Nat} (h : reachSet g u = some S) (x : Nat) :
    x ∈ S ↔ Reach g u x := by
  obtain ⟨h1, h2, h3⟩ := closure_spec u _ _ S h
  constructor
  · exact h3 (fun y hy => by rw [List.mem_singleton.mp hy]; exact Reach.refl _) x
  · exact closed_complete h1 (h2 u List.mem_cons_self)

theorem _root_.PV.SCC.Reach.least {g : G} {r : Nat → Nat → Prop} (hrefl : ∀ a, r a a)
    (htrans : ∀ {a b c}, r a b → r b c → r a c) (hedge : ∀ {a b}, (a, b) ∈ g.edges → r a b)
    {u v : Nat} (h : Reach g u v) : r u v := by
  induction h with
  | refl => exact hrefl _
  | step _ he ih => exact htrans ih (hedge he)

theorem _root_.PV.SCC.Reach.trans {g : G} {a b c : Nat} (h₁ : Reach g a b) (h₂ : Reach g b c) : Reach g a c := by
  induction h₂ with
  | refl => exact h₁
  | step _ he ih => exact Reach.step ih he

theorem _root_.PV.SCC.Reach.exists_edge {g : G} {a b : Nat} (h : Reach g a b) (hne : a ≠ b) : ∃ c, (a, c) ∈ g.edges := by
  induction h with
  | refl => exact absurd rfl hne
  | @step v w _ he ih =>
    by_cases hav : a = v
    · exact ⟨w, hav ▸ he⟩
    · exact ih hav

theorem _root_.PV.SCC.Reach.edge {g : G} {a b : Nat} (h : (a, b) ∈ g.edges) : Reach g a b :=
  Reach.step (Reach.refl a) h

def Mutual (g : G) (u v : Nat) : Prop := Reach g u v ∧ Reach g v u

theorem Mutual.symm {g : G} {u v : Nat} (h : Mutual g u v) : Mutual g v u := ⟨h.2, h.1⟩
theorem Mutual.trans {g : G} {u v w : Nat} (h₁ : Mutual g u v) (h₂ : Mutual g v w) : Mutual g u w :=
  ⟨h₁.1.trans h₂.1, h₂.2.trans h₁.2⟩
theorem Mutual.refl (g : G) (u : Nat) : Mutual g u u := ⟨Reach.refl u, Reach.refl u⟩

/-! ## the closure never runs out of fuel: every round that is not yet closed covers the target of one more edge -/

def uncovered (g : G) (R : List Nat) : Nat := (g.edges.filter fun e => !R.contains e.2).length

theorem uncovered_expand_lt (g : G) (R : List Nat) (h : closed g R = false) : uncovered g (expand g R) < uncovered g R := by
  unfold closed at h
  rw [List.all_eq_false] at h
  obtain ⟨e, he, hbad⟩ := h
  have hb : e.1 ∈ R ∧ ¬ e.2 ∈ R := by simpa using hbad
  unfold uncovered
  apply PV.ListLemmas.length_filter_lt_of_imp _ he
  · simpa using hb.2
  · have : e.2 ∈ expand g R := mem_expand.mpr (.inr ⟨e, he, hb.1, rfl⟩)
    simpa using this
  · intro x _ hx
    have hx' : x.2 ∉ expand g R := by simpa using hx
    have : x.2 ∉ R := fun hR => hx' (mem_expand.mpr (.inl hR))
    simpa using this

theorem closure_total (g : G) : ∀ (m : Nat) (R : List Nat), uncovered g R ≤ m → ∀ f, m ≤ f → ∃ S, closure g f R = some S := by
  intro m
  induction m with
  | zero =>
    intro R hm f _
    have hc : closed g R = true := by
      by_contra hne
      have := uncovered_expand_lt g R (Bool.eq_false_iff.mpr hne)
      omega
    cases f with
    | zero => exact ⟨R, by simp [closure, hc]⟩
    | succ f => exact ⟨R, by simp [closure, hc]⟩
  | succ m ih =>
    intro R hm f hf
    cases f with
    | zero => omega
    | succ f =>
      by_cases hc : closed g R = true
      · exact ⟨R, by simp [closure, hc]⟩
      · have hc' : closed g R = false := Bool.eq_false_iff.mpr hc
        have hlt := uncovered_expand_lt g R hc'
        obtain ⟨S, hS⟩ := ih (expand g R) (by omega) f (by omega)
        exact ⟨S, by simp [closure, hc', hS]⟩

theorem reachSet_total (g : G) (u : Nat) : ∃ S, reachSet g u = some S :=
  closure_total g g.edges.length [u] (List.length_filter_le _ _) _ (Nat.le_succ_of_le (Nat.le_add_left _ _))

theorem tableOk_reachTable (g : G) : tableOk (reachTable g) = true := by
  unfold tableOk reachTable
  rw [List.all_eq_true]
  intro o ho
  obtain ⟨u, _, rfl⟩ := List.mem_map.mp ho
  obtain ⟨S, hS⟩ := reachSet_total g u
  rw [hS]; rfl

theorem cycles_eq (g : G) : cycles g = some (cyclesOf g (reachTable g)) := by
  unfold cycles
  simp only [tableOk_reachTable, if_true]

theorem classes_eq (g : G) : classes g = some (classesOf g (reachTable g)) := by
  unfold classes
  simp only [tableOk_reachTable, if_true]

theorem reaches_iff {g : G} {u : Nat} (hu : u < g.n) (v : Nat) :
    reaches (reachTable g) u v = true ↔ Reach g u v := by
  obtain ⟨S, hS⟩ := reachSet_total g u
  have hget : (reachTable g).getD u none = some S := by
    unfold reachTable
    rw [List.getD_eq_getElem?_getD, List.getElem?_map, List.getElem?_range hu, Option.map_some, hS]
    rfl
  unfold reaches; rw [hget]
  simp only [List.contains_iff_mem]
  exact reachSet_spec hS v

theorem mutualB_iff {g : G} {u v : Nat} (hu : u < g.n) (hv : v < g.n) :
    mutualB (reachTable g) u v = true ↔ Mutual g u v := by
  unfold mutualB Mutual
  rw [Bool.and_eq_true, reaches_iff hu, reaches_iff hv]

/-! ## the classes of mutual reachability: `classesOf` is `PV.Classes.classes` of `mutualB`, an equivalence below `g.n` -/

open PV.Classes

theorem equivOn_mutualB (g : G) : EquivOn g.n (mutualB (reachTable g)) :=
  ⟨fun u hu => (mutualB_iff hu hu).mpr (Mutual.refl g u),
    fun _ _ hu hv h => (mutualB_iff hv hu).mpr ((mutualB_iff hu hv).mp h).symm,
    fun _ _ _ hu hv hw h₁ h₂ => (mutualB_iff hu hw).mpr (((mutualB_iff hu hv).mp h₁).trans ((mutualB_iff hv hw).mp h₂))⟩

theorem mem_comp {g : G} {u : Nat} (hu : u < g.n) (v : Nat) :
    v ∈ comp g (reachTable g) u ↔ v < g.n ∧ Mutual g u v :=
  mem_cls.trans (and_congr_right fun hv => mutualB_iff hu hv)

theorem comp_sorted (g : G) (tbl) (u : Nat) : (comp g tbl u).Pairwise (· < ·) := cls_sorted _ _ u

theorem class_listed {g : G} {u : Nat} (hu : u < g.n) :
    comp g (reachTable g) u ∈ classesOf g (reachTable g) := cls_mem_classes (equivOn_mutualB g) hu

/-- two vertices (possibly equal) are in a common class iff they are mutually reachable; in particular every vertex is in a class -/
theorem classes_spec (g : G) (cs : List (List Nat)) (h : classes g = some cs) (u v : Nat) (hu : u < g.n) (hv : v < g.n) :
    (∃ c ∈ cs, u ∈ c ∧ v ∈ c) ↔ Mutual g u v := by
  cases (classes_eq g).symm.trans h
  exact (Classes.classes_spec (equivOn_mutualB g) hu hv).trans (mutualB_iff hu hv)

theorem classes_partition (g : G) (cs : List (List Nat)) (h : classes g = some cs) :
    cs.Nodup ∧ (∀ c ∈ cs, c ≠ [] ∧ c.Nodup ∧ c.Pairwise (· < ·) ∧ ∀ x ∈ c, x < g.n) ∧
    (∀ c₁ ∈ cs, ∀ c₂ ∈ cs, ∀ x, x ∈ c₁ → x ∈ c₂ → c₁ = c₂) := by
  cases (classes_eq g).symm.trans h
  refine ⟨classes_nodup _ _, fun c hc => ?_, fun c₁ h₁ c₂ h₂ x hx₁ hx₂ => classes_disjoint (equivOn_mutualB g) h₁ h₂ hx₁ hx₂⟩
  obtain ⟨w, _, rfl, _⟩ := mem_classes.mp hc
  exact ⟨classes_ne_nil hc, cls_nodup _ _ w, cls_sorted _ _ w, fun x hx => (mem_cls.mp hx).1⟩

/-! ## the cycles are the classes with at least two members -/

theorem cyclesOf_eq_filter (g : G) (tbl : List (Option (List Nat))) :
    cyclesOf g tbl = (classesOf g tbl).filter (fun c => decide (2 ≤ c.length)) := by
  unfold cyclesOf classesOf isRep
  rw [List.filter_map, List.filter_filter]
  congr 1
  apply List.filter_congr
  intro u _
  exact Bool.and_comm _ _

/-- the cycles are the classes (all SCCs, singletons included) with at least two members, in the same order -/
theorem C11_cycles_eq_filter_classes (g : G) :
    cycles g = (classes g).map (fun cs => cs.filter (fun c => decide (2 ≤ c.length))) := by
  rw [cycles_eq, classes_eq, cyclesOf_eq_filter]
  rfl

theorem mem_cycles_iff {g : G} {cs : List (List Nat)} (h : cycles g = some cs) (c : List Nat) :
    c ∈ cs ↔ c ∈ classesOf g (reachTable g) ∧ 2 ≤ c.length := by
  cases (cycles_eq g).symm.trans h
  rw [cyclesOf_eq_filter, List.mem_filter, decide_eq_true_eq]

/-! ## the order of the classes: by first member -/

/-- `c` comes before `d` in the order of the first members (vacuous when one of them is empty; this is
the relation of `PV.Classes.classes_heads`) -/
def HeadLt (c d : List Nat) : Prop := ∀ x ∈ c.head?, ∀ y ∈ d.head?, x < y

theorem headLt_unique {l₁ l₂ : List (List Nat)} (n₁ : ∀ c ∈ l₁, c ≠ [])
    (s₁ : l₁.Pairwise HeadLt) (s₂ : l₂.Pairwise HeadLt) (h : ∀ c, c ∈ l₁ ↔ c ∈ l₂) : l₁ = l₂ := by
  refine PV.ListLemmas.eq_of_pairwise_of_mem_iff ?_ s₁ s₂ h
  intro c hc d hd h1 h2
  match c, d, n₁ c hc, n₁ d hd with
  | x :: _, y :: _, _, _ => exact Nat.lt_asymm (h1 x rfl y rfl) (h2 y rfl x rfl)

theorem reps_heads_sorted (g : G) (tbl : List (Option (List Nat))) (q : Nat → Bool)
    (hq : ∀ u, q u = true → (comp g tbl u).head? = some u) :
    (((List.range g.n).filter q).map (comp g tbl)).Pairwise HeadLt := by
  rw [List.pairwise_map]
  refine (List.Pairwise.filter q List.pairwise_lt_range).imp_of_mem ?_
  intro a b ha hb hab x hx y hy
  rw [hq a (List.mem_filter.mp ha).2] at hx
  rw [hq b (List.mem_filter.mp hb).2] at hy
  cases hx; cases hy; exact hab

/-- **C11.** Two distinct modules are listed in the same cycle iff each can reach the other. -/
theorem C11_spec (g : G) (cs : List (List Nat)) (h : cycles g = some cs) (u v : Nat) (hu : u < g.n) (hv : v < g.n)
    (hne : u ≠ v) : (∃ c ∈ cs, u ∈ c ∧ v ∈ c) ↔ (Reach g u v ∧ Reach g v u) := by
  refine Iff.trans ?_ (classes_spec g _ (classes_eq g) u v hu hv)
  constructor
  · rintro ⟨c, hc, huv⟩
    exact ⟨c, ((mem_cycles_iff h c).mp hc).1, huv⟩
  · rintro ⟨c, hc, huc, hvc⟩
    exact ⟨c, (mem_cycles_iff h c).mpr ⟨hc, PV.ListLemmas.two_le_length huc hvc hne⟩, huc, hvc⟩

/-- **C11 (single).** A module is in some cycle iff it is mutually reachable with a DIFFERENT module:
components of size 1 are not cycles, with or without a self-import. -/
theorem C11_single (g : G) (cs : List (List Nat)) (h : cycles g = some cs) (u : Nat) (hu : u < g.n) :
    (∃ c ∈ cs, u ∈ c) ↔ ∃ v, v < g.n ∧ v ≠ u ∧ Reach g u v ∧ Reach g v u := by
  constructor
  · rintro ⟨c, hc, huc⟩
    obtain ⟨hcl, hl⟩ := (mem_cycles_iff h c).mp hc
    have hp := (classes_partition g _ (classes_eq g)).2.1 c hcl
    obtain ⟨v, hvc, hvu⟩ := PV.ListLemmas.exists_mem_ne hl hp.2.1 u
    have hvn := hp.2.2.2 v hvc
    exact ⟨v, hvn, hvu, (classes_spec g _ (classes_eq g) u v hu hvn).mp ⟨c, hcl, huc, hvc⟩⟩
  · rintro ⟨v, hv, hvu, h1, h2⟩
    obtain ⟨c, hc, huc, _⟩ := (C11_spec g cs h u v hu hv (Ne.symm hvu)).mpr ⟨h1, h2⟩
    exact ⟨c, hc, huc⟩

/-- **C11 (partition).** Reported cycles are duplicate-free, sorted increasingly, have at least two
members, consist of modules of the graph, and two different cycles share no module. -/
theorem C11_partition (g : G) (cs : List (List Nat)) (h : cycles g = some cs) :
    cs.Nodup ∧ (∀ c ∈ cs, 2 ≤ c.length ∧ c.Nodup ∧ c.Pairwise (· < ·) ∧ ∀ x ∈ c, x < g.n) ∧
    (∀ c₁ ∈ cs, ∀ c₂ ∈ cs, ∀ x, x ∈ c₁ → x ∈ c₂ → c₁ = c₂) := by
  obtain ⟨hnd, hcl, hdisj⟩ := classes_partition g _ (classes_eq g)
  have hm := mem_cycles_iff h
  refine ⟨?_, ?_, ?_⟩
  · cases (cycles_eq g).symm.trans h
    rw [cyclesOf_eq_filter]
    exact hnd.filter _
  · intro c hc
    exact ⟨((hm c).mp hc).2, (hcl c ((hm c).mp hc).1).2⟩
  · intro c₁ h₁ c₂ h₂
    exact hdisj c₁ ((hm c₁).mp h₁).1 c₂ ((hm c₂).mp h₂).1

/-- **C11 (statistics).** Cycle count, per-cycle size and size-based severity follow from the partition;
the number of modules in cycles is the sum of the sizes (the cycles are disjoint). -/
theorem C11_stats (g : G) (cs : List (List Nat)) :
    (stats g cs).totalCycles = cs.length ∧
    (stats g cs).sizes = cs.map List.length ∧
    (stats g cs).modulesInCycles = (cs.map List.length).sum ∧
    (stats g cs).severities = cs.map (fun c => severity c.length (hasCore g c)) := ⟨rfl, rfl, rfl, rfl⟩

/-- **C11 (severity).** low / medium / high / critical exactly by the size thresholds 3 / 6 / 10
(literals), critical also when a member has fan-in above 10. -/
theorem C11_severity (size : Nat) (core : Bool) :
    severity size core =
      (if core = true ∨ 10 ≤ size then "critical" else if 6 ≤ size then "high" else if 3 ≤ size then "medium" else "low") := by
  unfold severity
  cases core <;> simp

/-- non-vacuity: a concrete graph with a 3-cycle, a 2-cycle, a self-import and a tail -/
example : cycles { n := 7, edges := [(0,1),(1,2),(2,0),(3,4),(4,3),(5,5),(2,3),(6,0)] } = some [[0,1,2],[3,4]] := by
  decide +kernel

/-- **The model is total**: the certified closure never runs out of fuel, so `cycles` and `classes` always return. -/
theorem C11_total (g : G) : (∃ cs, cycles g = some cs) ∧ (∃ cs, classes g = some cs) :=
  ⟨⟨_, cycles_eq g⟩, ⟨_, classes_eq g⟩⟩

end PV.C11
