import PV.Model.Registry
import Mathlib.Data.List.Perm.Basic
import Mathlib.Data.List.Nodup
/-!
# C04 — every definition is analysed exactly once, under its real name and line span
-/
namespace PV.C04
open PV.Reg

theorem register_names (reg : List Row) (r : Row) (h : (reg.map (·.name)).Nodup) :
    ((register reg r).map (·.name)).Nodup := by
  unfold register
  rw [List.map_append, List.nodup_append]
  refine ⟨(h.sublist ((List.filter_sublist).map _)), by simp, ?_⟩
  intro a ha b hb
  simp only [List.map_cons, List.map_nil, List.mem_singleton] at hb
  subst hb
  obtain ⟨x, hx, rfl⟩ := List.mem_map.mp ha
  have := (List.mem_filter.mp hx).2
  simpa using this

theorem registry_names (rows : List Row) : ∀ reg : List Row,
    (reg.map (·.name)).Nodup → ((rows.foldl register reg).map (·.name)).Nodup := by
  induction rows with
  | nil => intro reg h; exact h
  | cons r rs ih => intro reg h; exact ih _ (register_names reg r h)

/-- **C04 (exactly once).** Names in the registry are pairwise different: no definition is reported twice. -/
theorem C04_once (rows : List Row) : ((registry rows).map (·.name)).Nodup :=
  registry_names rows [] List.nodup_nil

theorem foldl_register_perm (rows : List Row) : ∀ reg : List Row,
    ((reg ++ rows).map (·.name)).Nodup → (rows.foldl register reg).Perm (reg ++ rows) := by
  induction rows with
  | nil => intro reg _; simp
  | cons r rs ih =>
    intro reg h
    have hreg : register reg r = reg ++ [r] := by
      unfold register
      congr 1
      apply List.filter_eq_self.mpr
      intro x hx
      have hne : x.name ≠ r.name := by
        intro heq
        rw [List.map_append, List.nodup_append] at h
        exact h.2.2 x.name (List.mem_map.mpr ⟨x, hx, rfl⟩) r.name (by simp) heq
      simpa using hne
    simp only [List.foldl_cons]
    rw [hreg]
    have : ((reg ++ [r] ++ rs).map (·.name)).Nodup := by simpa using h
    have := ih (reg ++ [r]) this
    simpa using this

/-- **C04 (none dropped).** If the dotted qualified names of a module's function definitions are pairwise different,
the registry holds exactly those definitions (same names, same line spans), each once. -/
theorem C04_complete (m : List Def) (h : ((allFuncs [] m).map (·.name)).Nodup) : (registry (allFuncs [] m)).Perm (allFuncs [] m) := by
  have := foldl_register_perm (allFuncs [] m) [] (by simpa using h)
  simpa [registry] using this

/-- **C04 (names).** A function is registered under the dotted path of its enclosing definitions. -/
theorem C04_name (scope : List String) (n : String) (s e : Nat) (kids : List Def) :
    (funcsOf scope (.fn n s e kids)).head? = some { name := ".".intercalate (scope ++ [n]), s := s, e := e } := by
  simp [funcsOf, dotted]

/-- the excluded case is real: with a repeated qualified name the earlier definition is lost (finding F3) -/
example : registry [⟨"K.x", 3, 5⟩, ⟨"K.y", 6, 7⟩, ⟨"K.x", 9, 11⟩] = [⟨"K.y", 6, 7⟩, ⟨"K.x", 9, 11⟩] := by decide

end PV.C04
