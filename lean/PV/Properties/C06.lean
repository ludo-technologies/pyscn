import PV.Model.Isolation
import PV.Generated.LoopCx
import PV.Generated.LoopDead
import PV.Generated.LoopCBO
import PV.Generated.LoopLCOM
import PV.Generated.LoopClone
import PV.Generated.LoopMain
import PV.Properties.LoopFactsExpected
/-!
# C06 — a bad file never hides the others (the part of C06 that is logic)

Crash-freedom and the time bound are properties of the runtime (tree-sitter's C code, Go's stack, the algorithms' running time) that no
theorem over a model can exhibit; they are SEARCHED by the check (malformed stream, deep nesting, timing) — see DESIGN.md §4 C06.
-/
namespace PV.C06
open PV PV.Isolation

variable {F R E : Type}

/-- what a file contributes to the results / to the errors -/
def okOf (a : F → Except E R) (f : F) : Option (F × R) := match a f with | .ok r => some (f, r) | .error _ => none
def errOf (a : F → Except E R) (f : F) : Option (F × E) := match a f with | .ok _ => none | .error e => some (f, e)

/-- the loop in closed form: every file adds its own result or its own error to what was there, and nothing else -/
theorem fold_eq (a : F → Except E R) (fs : List F) : ∀ acc : Acc F R E, fs.foldl (step a) acc =
    ⟨acc.results ++ fs.filterMap (okOf a), acc.errors ++ fs.filterMap (errOf a), acc.processed + (fs.filterMap (okOf a)).length⟩ := by
  induction fs with
  | nil => intro acc; simp
  | cons f fs ih =>
    intro acc
    rw [List.foldl_cons, ih]
    unfold step
    cases h : a f <;> simp [okOf, errOf, h, Nat.add_assoc, Nat.add_comm 1]

theorem analyzeAll_eq (a : F → Except E R) (fs : List F) :
    analyzeAll a fs = ⟨fs.filterMap (okOf a), fs.filterMap (errOf a), (fs.filterMap (okOf a)).length⟩ := by
  unfold analyzeAll; rw [fold_eq]; simp

/-- **Isolation.** Adding a file that cannot be analysed, at any position, changes nothing for the other files: the same results in the
same order, the same number of processed files; the only trace of the bad file is its own error. -/
theorem C06_isolation (a : F → Except E R) (pre post : List F) (bad : F) (e : E) (hbad : a bad = .error e) :
    (analyzeAll a (pre ++ bad :: post)).results = (analyzeAll a (pre ++ post)).results ∧
    (analyzeAll a (pre ++ bad :: post)).processed = (analyzeAll a (pre ++ post)).processed ∧
    (bad, e) ∈ (analyzeAll a (pre ++ bad :: post)).errors := by
  have h1 : okOf a bad = none := by unfold okOf; rw [hbad]
  have h2 : errOf a bad = some (bad, e) := by unfold errOf; rw [hbad]
  simp only [analyzeAll_eq, List.filterMap_append, List.filterMap_cons, h1, h2, List.mem_append, List.mem_cons, true_or, or_true, and_self]

/-- the results of the good files are exactly what each of them gives alone, in input order -/
theorem C06_results (a : F → Except E R) (fs : List F) :
    (analyzeAll a fs).results = fs.filterMap fun f => match a f with | .ok r => some (f, r) | .error _ => none := by
  rw [analyzeAll_eq]; rfl

/-- **Exit status.** 0 or 1, nothing else. -/
theorem C06_exit (err : Option E) : exitCode err = 0 ∨ exitCode err = 1 := by
  unfold exitCode; cases err <;> simp

/-- **Tie (regenerated).** The per-file loops of the complexity, dead-code, CBO and LCOM services, the clone service's parse loop and
`main` have the skip-and-continue shape the model was written against. -/
theorem C06_facts :
    Generated.LoopCx.Analyze = LoopFactsExpected.LoopCx_Analyze ∧
    Generated.LoopDead.Analyze = LoopFactsExpected.LoopDead_Analyze ∧
    Generated.LoopCBO.Analyze = LoopFactsExpected.LoopCBO_Analyze ∧
    Generated.LoopLCOM.Analyze = LoopFactsExpected.LoopLCOM_Analyze ∧
    Generated.LoopClone.DetectClonesInFiles = LoopFactsExpected.LoopClone_DetectClonesInFiles ∧
    Generated.LoopMain.main = LoopFactsExpected.LoopMain_main :=
  ⟨rfl, rfl, rfl, rfl, rfl, rfl⟩

end PV.C06
