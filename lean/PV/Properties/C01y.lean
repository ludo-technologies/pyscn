import PV.Proofs.CFGRangesElif
/-!
# C01 (extension) — the RANGES reported by the dead-code detector of the CFG mirror contain no live line

`findings (build k s e body)` is the detector's output: for every block that the mirror's search does not reach and that holds at
least one statement record, the range *start line of the first record stored in the block … END line of the last record stored in it*.
C01 ("no statement on a line inside a reported range is ever executed") is about these ranges.  The record-level theorem
`C01_mirror_sound` (C01x) shows that every executed line has a record in a reachable block; it does not exclude that such a line
lies inside the range of ANOTHER, unreachable block.  The theorems below do, for ALL programs of the fragment:

* `C01_ranges_static` — no line of the static summary `sxL body` (⊇ `live body`, the verified over-approximation of what can execute)
  lies inside a reported range;
* `C01_ranges_sound` — whatever an execution `Exec body o tr` executes: an executed line is the head of an `elif` clause
  (`(sxL body).skipped`, see below) or lies outside every reported range;
* `C01_ranges_sound_all`, `C01_ranges_elif` — the same WITHOUT the exemption for `elif` heads, on the fragment `okRE`;
* `C01_ranges_records` — the underlying fact about the mirror's own output: no located record (`1 ≤ r.s`) of a reachable block starts inside a
  reported range;
* `C01_ranges_static_def` / `C01_ranges_sound_def` — the same for every `Kind`; for a class (`Kind.cls`) the header record
  `s … e` of the class itself is part of the graph and has to come first (`WFDef`).

**Hypotheses.**
* `WFLoc body` (decidable, `wfL 1 body = true`): the source spans are those of a real parse tree with ONE STATEMENT PER LINE — every
  statement has `s ≤ e`, start lines are ≥ 1, the statements of a list have increasing, non-overlapping spans, the parts of a compound
  statement lie after its start line inside its span in source order (`then` < `else`; loop body < `else`; `try` body < handlers <
  `else` < `finally`).  It is needed: with `return 1; y = 2` on one line the dead statement's range is the line of the executed
  `return` (`C01_wfloc_needed`; known finding F17).
* `okR body` = `okL3 false false body`: exactly the fragment of the record-level theorem `C01_mirror_sound` (every statement kind incl.
  `try/except/else/finally`, `with`, `match`, loop `else`, comprehensions; `break`/`continue` only inside a loop of the same definition,
  `except`/`case` clauses only as members of `try`/`match`, no `try … finally` nested in a `finally` body).  The range-level proof adds
  NO restriction of its own (its induction `rq_run`, with `rq_list` as the statement for lists, only needs `okLC`, which also admits nested `finally`); a standalone `elif`
  clause (never produced by the parser) is admitted: its `0..0` record is always the LAST record of its block, so it can only make
  a range end at line 0.
* `elif` heads.  The builder stores the test of a converted `elif` with location `0..0`, so the record-level theorem exempts the
  lines of `elif` heads (`(sxL body).skipped`), and so does `C01_ranges_sound` (fragment `okR`, no further restriction).
  `C01_ranges_sound_all` / `C01_ranges_elif` remove the exemption on the fragment `okRE body = okR body && okEL body`: `okEL` says that
  the then-branch of every `elif` clause BEGINS WITH A LOCATED STATEMENT, possibly inside `try:` (any statement except a stray
  `else` / `elif` clause) — every parser-produced tree satisfies it (a block is never empty).  Argument: a live `elif` head `l` is
  followed by a live located line `l₁` (`firstLoc`), every located statement that starts before `l` and reaches `l` also covers `l₁`,
  every located statement after `l` starts at or after `l₁` (`elif_static`), and every record carries `0..0` or the span of a located
  statement (`build_spans`); so a range that contains `l` would contain `l₁`, which `C01_ranges_static_def` excludes.
  (`okEL` is a restriction of this proof method — it needs the witness `l₁` — not a known counter-example.)

**Why it holds** (`PV/Proofs/CFGRanges*.lean`).  For the final record list and the final graph: the records of one block are
consecutive in insertion order and a `0..0` record is the last of its block (`GZ`; read off the record trace of the builder, `Tr.gc`);
and, by induction over the calls of the builder (`rq_run`), the records are pairwise related: located records are
stored in source order; a record whose start line lies inside the span of an OLDER record (the header of an enclosing compound
statement) is in a reachable block only if the older one is (everything the builder creates for a compound statement is reachable
only through the block that was current when it was entered: `zoneR`); the records of one line (comprehensions) are reachable
together.  Hence a reachable record cannot start between the first and the last record of an unreachable block, nor inside the span
of its last record (`findings_sound`).
-/
namespace PV.C01
open PV.CFG PV.Py PV.CFGSound

/-- **C01 for the reported ranges, static form.** -/
theorem C01_ranges_static (k : Kind) (hk : k ≠ .cls) (s e : Nat) (body : List Stmt) (hok : okR body = true) (hwf : WFLoc body) :
    ∀ l ∈ (sxL body).lines, ∀ f ∈ findings (build k s e body), ¬ (f.s ≤ l ∧ l ≤ f.e) :=
  mirror_ranges_static k hk s e body hok hwf

/-- **C01 for the reported ranges, against the semantics.** -/
theorem C01_ranges_sound (k : Kind) (hk : k ≠ .cls) (s e : Nat) (body : List Stmt) (hok : okR body = true) (hwf : WFLoc body)
    {o : Out} {tr : List Nat} (ex : Exec body o tr) :
    ∀ l ∈ tr, l ∈ (sxL body).skipped ∨ ∀ f ∈ findings (build k s e body), ¬ (f.s ≤ l ∧ l ≤ f.e) :=
  mirror_ranges_sound k hk s e body hok hwf ex

/-- the same for every kind of definition; for a class the header line `s` must precede the body (`WFDef`) -/
theorem C01_ranges_static_def (k : Kind) (s e : Nat) (body : List Stmt) (hok : okR body = true) (hwf : WFDef k s e body) :
    ∀ l ∈ (sxL body).lines, ∀ f ∈ findings (build k s e body), ¬ (f.s ≤ l ∧ l ≤ f.e) :=
  mirror_ranges_static_def k s e body hok hwf

theorem C01_ranges_sound_def (k : Kind) (s e : Nat) (body : List Stmt) (hok : okR body = true) (hwf : WFDef k s e body)
    {o : Out} {tr : List Nat} (ex : Exec body o tr) :
    ∀ l ∈ tr, l ∈ (sxL body).skipped ∨ ∀ f ∈ findings (build k s e body), ¬ (f.s ≤ l ∧ l ≤ f.e) :=
  mirror_ranges_sound_def k s e body hok hwf ex


/-- **the heads of live `elif` clauses lie outside every reported range** (fragment `okRE`: `okR`, and the then-branch of every `elif`
clause begins with a located statement) -/
theorem C01_ranges_elif (k : Kind) (s e : Nat) (body : List Stmt) (hok : okRE body = true) (hwf : WFDef k s e body) :
    ∀ l ∈ (sxL body).skipped, ∀ f ∈ findings (build k s e body), ¬ (f.s ≤ l ∧ l ≤ f.e) :=
  mirror_ranges_elif k s e body hok hwf

/-- **C01 for the reported ranges, against the semantics, no exemption**: no executed line lies inside a reported range -/
theorem C01_ranges_sound_all (k : Kind) (hk : k ≠ .cls) (s e : Nat) (body : List Stmt) (hok : okRE body = true) (hwf : WFLoc body)
    {o : Out} {tr : List Nat} (ex : Exec body o tr) :
    ∀ l ∈ tr, ∀ f ∈ findings (build k s e body), ¬ (f.s ≤ l ∧ l ≤ f.e) :=
  mirror_ranges_sound_all k s e body hok (WFDef.of_wfloc s e hk hwf) ex

theorem C01_ranges_sound_all_def (k : Kind) (s e : Nat) (body : List Stmt) (hok : okRE body = true) (hwf : WFDef k s e body)
    {o : Out} {tr : List Nat} (ex : Exec body o tr) :
    ∀ l ∈ tr, ∀ f ∈ findings (build k s e body), ¬ (f.s ≤ l ∧ l ≤ f.e) :=
  mirror_ranges_sound_all k s e body hok hwf ex

/-- every record of the final graph carries the location `0..0` or the span of a located statement of the body -/
theorem C01_ranges_spans (k : Kind) (s e : Nat) (body : List Stmt) (hok : okR body = true) :
    ∀ r ∈ (build k s e body).stmts, r ∈ (preB k s e).stmts ∨ (r.s = 0 ∧ r.e = 0) ∨ (r.s, r.e) ∈ spansL body :=
  build_spans k s e body (okLC_of_okL3 body false false hok)

/-- in terms of the mirror's own output: no located record (`1 ≤ r.s`) of a reachable block starts inside a reported range -/
theorem C01_ranges_records (k : Kind) (s e : Nat) (body : List Stmt) (hok : okR body = true) (hwf : WFDef k s e body) :
    ∀ r ∈ (build k s e body).stmts, r.blk ∈ reachable (build k s e body) → 1 ≤ r.s →
      ∀ f ∈ findings (build k s e body), ¬ (f.s ≤ r.s ∧ r.s ≤ f.e) :=
  ranges_records k s e body hok hwf

/-- the invariant behind it, for statement lists and an arbitrary final graph (no hypothesis on `try … finally` nesting) -/
theorem C01_ranges_invariant (E : List Edge) (ss : List Stmt) : RQL E ss := rq_list E ss

/-- the lines of the static summary of a well-formed body are real line numbers (≥ 1) -/
theorem C01_ranges_lines_pos (body : List Stmt) (h : WFLoc body) :
    (∀ l ∈ (sxL body).lines, 1 ≤ l) ∧ (∀ l ∈ (sxL body).skipped, 1 ≤ l) := ⟨(sx_lines_pos h).lines, (sx_lines_pos h).skipped⟩

/-! ### evaluated examples -/

/-- no line of `ls` lies in a range of `fs` -/
def outside (ls : List Nat) (fs : List Finding) : Bool := ls.all (fun l => fs.all (fun f => !(decide (f.s ≤ l) && decide (l ≤ f.e))))
def ranges (fs : List Finding) : List (Nat × Nat) := fs.map (fun f => (f.s, f.e))
def wfloc (body : List Stmt) : Bool := wfL 1 body

/-- nested `if`/`else` with returns: lines 5 and 8 are dead, next to live code
```
2  if a:
3      if b:
4          return 1
5          x = 0        # dead
6      else:
7          return 2
8      y = 1            # dead
9  z = 3
``` -/
def exNested : List Stmt :=
  [.ite 2 8 [.ite 3 7 [.ret 4 4 [] false, .simple 5 5 [] false] [.elsec 6 7 [.ret 7 7 [] false]], .simple 8 8 [] false] [],
   .simple 9 9 [] false]
#guard okRE exNested && wfloc exNested
#guard (sxL exNested).lines == [2, 3, 4, 7, 9] && ranges (findings (build .func 1 9 exNested)) == [(8, 8), (5, 5)]
#guard outside (sxL exNested).lines (findings (build .func 1 9 exNested))

/-- loop with `break` / `continue` / `else`
```
2  for x in xs:
3      if c:
4          break
5          d = 1        # dead
6      continue
7      d = 2            # dead
8  else:
9      return 0
10     d = 3            # dead
11 after = 1
``` -/
def exLoop : List Stmt :=
  [.loop 2 10 [.ite 3 5 [.brk 4 4, .simple 5 5 [] false] [], .cont 6 6, .simple 7 7 [] false]
     [.elsec 8 10 [.ret 9 9 [] false, .simple 10 10 [] false]],
   .simple 11 11 [] false]
#guard okR exLoop && wfloc exLoop
#guard (sxL exLoop).lines == [2, 3, 4, 6, 9, 11]
#guard ranges (findings (build .func 1 11 exLoop)) == [(5, 5), (7, 7), (10, 10)]
#guard outside (sxL exLoop).lines (findings (build .func 1 11 exLoop))

/-- `try` / `except` / `finally` with dead code after `raise` and after `return` in a handler -/
def exTry : List Stmt :=
  [.try_ 2 9 [.raise 3 3, .simple 4 4 [] false] [.handler 5 7 [.ret 6 6 [] false, .simple 7 7 [] false]] [] [.simple 9 9 [] false],
   .simple 10 10 [] false]
#guard okRE exTry && wfloc exTry
#guard ranges (findings (build .func 1 10 exTry)) == [(4, 4), (7, 7)]
#guard outside (sxL exTry).lines (findings (build .func 1 10 exTry))

/-- a dead compound statement: its range covers the whole statement (lines 3 … 6), the dead block after it line 7
```
2  return 0
3  if a:            # dead, range 3 … 6 (end of the `if`)
4      x = 1
5  else:
6      x = 2
7  y = x            # dead
``` -/
def exDeadIf : List Stmt :=
  [.ret 2 2 [] false, .ite 3 6 [.simple 4 4 [] false] [.elsec 5 6 [.simple 6 6 [] false]], .simple 7 7 [] false]
#guard okR exDeadIf && wfloc exDeadIf
#guard (sxL exDeadIf).lines == [2]
#guard outside (sxL exDeadIf).lines (findings (build .func 1 7 exDeadIf))
#guard ranges (findings (build .func 1 7 exDeadIf)) == [(3, 6), (4, 4), (7, 7), (6, 6)]

/-- an ill-formed variant of `exChain'` (two statements on line 4): `wfloc` rejects it -/
def exChain : List Stmt :=
  [.ite 2 9 [.simple 3 3 [] false, .ret 4 4 [true] true, .simple 4 4 [] false]
     [.elifc 5 9 [.raise 6 6] [.elsec 7 9 [.ret 8 8 [] false]]],
   .simple 10 10 [false, true] true, .loop 11 14 [.cont 12 12, .simple 13 13 [] false] []]
/-- `if` / `elif` / `else` chain with terminators, a comprehension after `return`, code after `continue`:
the heads of the (live) `elif` clauses (line 5) are outside all ranges as well -/
def exChain' : List Stmt :=
  [.ite 2 9 [.simple 3 3 [] false, .ret 4 4 [true] true]
     [.elifc 5 9 [.raise 6 6, .simple 7 7 [true] true] [.elsec 8 9 [.ret 9 9 [] false]]],
   .simple 10 10 [false, true] true, .loop 11 14 [.cont 12 12, .simple 13 13 [] false] []]
#guard okRE exChain' && wfloc exChain' && !wfloc exChain
#guard (sxL exChain').skipped == [5]
#guard outside ((sxL exChain').lines ++ (sxL exChain').skipped) (findings (build .func 1 14 exChain'))
#guard (ranges (findings (build .func 1 14 exChain'))).eraseDups == [(7, 7), (10, 10), (11, 14), (12, 12), (13, 13)]


/-- an `elif` clause whose then-branch begins with `try:`; the `elif` head (line 4) is live and outside all ranges
```
2  if a:
3      return 1
4  elif b:
5      try:
6          raise E
7          x = 1        # dead
8      except E:
9          return 2
``` -/
def exElifTry : List Stmt :=
  [.ite 2 9 [.ret 3 3 [] false]
     [.elifc 4 9 [.try_ 5 9 [.raise 6 6, .simple 7 7 [] false] [.handler 8 9 [.ret 9 9 [] false]] [] []] []]]
#guard okRE exElifTry && wfloc exElifTry
#guard (sxL exElifTry).skipped == [4] && ranges (findings (build .func 1 9 exElifTry)) == [(7, 7)]
#guard outside ((sxL exElifTry).lines ++ (sxL exElifTry).skipped) (findings (build .func 1 9 exElifTry))

/-- a class definition (header 1 … 6) with a method-level `return` in the class body (admitted by the model) -/
def exCls : List Stmt := [.simple 2 2 [] false, .class_ 3 5 [.simple 4 4 [] false, .ret 5 5 [] false], .simple 6 6 [] false]
#guard okR exCls && wfL 2 exCls
#guard outside (sxL exCls).lines (findings (build .cls 1 6 exCls)) && ranges (findings (build .cls 1 6 exCls)) == [(6, 6)]

/-! #### the hypothesis on the spans is needed (F17) -/

/-- `return 1; y = 2` on ONE line: the dead statement `y = 2` is reported with the line of the executed `return` -/
def exOneLine : List Stmt := [.ret 1 1 [] false, .simple 1 1 [] false]
#guard okR exOneLine && !wfloc exOneLine
#guard (sxL exOneLine).lines == [1] && ranges (findings (build .func 1 1 exOneLine)) == [(1, 1)]

theorem C01_wfloc_needed :
    ∃ body : List Stmt, okR body = true ∧ ¬ WFLoc body ∧ ∃ o tr, Exec body o tr ∧
      ∃ l ∈ tr, ∃ f ∈ findings (build .func 1 1 body), f.s ≤ l ∧ l ≤ f.e := by
  have hst : build .func 1 1 exOneLine =
      { next := 4, cur := 3, stmts := [⟨3, 1, 1, .other⟩, ⟨2, 1, 1, .ret⟩], edges := [(3, 1, .normal), (2, 1, .ret), (0, 2, .normal)],
        unreach := [3], loops := [], excs := [] } := by
    simp [exOneLine, build, initSt, procList_cons, procList_nil, procStmt_ret, procRet_eq, procStmt_simple,
      St.add, St.edge, St.hasSucc, St.newBlock, exitB, targetFinallyRet, bumpU, setCur]
  have hf : ((findings (build .func 1 1 exOneLine)).any (fun f => decide (f.s ≤ 1) && decide (1 ≤ f.e))) = true := by
    rw [hst]; decide
  obtain ⟨f, hfm, hfp⟩ := List.any_eq_true.mp hf
  simp only [Bool.and_eq_true, decide_eq_true_eq] at hfp
  refine ⟨exOneLine, ?_, ?_, .ret, [1], Exec.seqS Exec.ret (by intro h; cases h), 1, List.mem_singleton.mpr rfl, f, hfm, hfp⟩
  · simp [okR, exOneLine, okL3_cons, okL3_nil, okS3]
  · simp [WFLoc, exOneLine, wfL_cons, wfL_nil, wfS_ret, wfS_simple, Stmt.span]

end PV.C01

#print axioms PV.C01.C01_ranges_sound
#print axioms PV.C01.C01_ranges_static
#print axioms PV.C01.C01_ranges_sound_all
#print axioms PV.C01.C01_ranges_elif
#print axioms PV.C01.C01_wfloc_needed
