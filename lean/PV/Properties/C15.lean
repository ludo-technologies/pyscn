import PV.Proofs.ScoreLemmas
import PV.Proofs.RatArith
import PV.Model.Summary
import PV.Generated.SummaryFacts
import PV.Generated.ScoreConsts
/-!
# C15 — Health score is bounded, monotone and consistently graded

All statements are about `PV.Generated.Score`, the statement-by-statement translation of
`/repo/domain/analyze.go` that is regenerated on every run, for EVERY carrier `F` that
satisfies the order laws `MonoArith` (Go's float64 is assumed to; `Rat` is proved to,
`PV/Proofs/RatArith.lean`).
-/
namespace PV.C15
open PV PV.MA PV.Score PV.Generated.Score Arith
variable {F : Type} [MonoArith F]

/-- sum of the seven category penalties, exactly as `CalculateHealthScore` subtracts them -/
def totalPenalty (s : AnalyzeSummary F) : Int :=
  calculateComplexityPenalty F s + calculateDeadCodePenalty F s (normFactor s) + calculateDuplicationPenalty F s
    + calculateCouplingPenalty F s + calculateCohesionPenalty F s + calculateDependencyPenalty F s
    + calculateArchitecturePenalty F s

def out (s : AnalyzeSummary F) : AnalyzeSummary F := (CalculateHealthScore F s).2
def health (s : AnalyzeSummary F) : Int := (out s).HealthScore
def grade (s : AnalyzeSummary F) : String := (out s).Grade

/-- `Validate` returned nil -/
def Valid (s : AnalyzeSummary F) : Prop := Validate F s = false

/-! ## the score formula -/

def gradeOf (h : Int) : String :=
  if 90 ≤ h then "A" else if 75 ≤ h then "B" else if 60 ≤ h then "C" else if 45 ≤ h then "D" else "F"

/-- what `CalculateHealthScore` returns for a summary that passes `Validate` -/
def scored (s : AnalyzeSummary F) : AnalyzeSummary F :=
  let h := if 100 - totalPenalty s < 0 then 0 else 100 - totalPenalty s
  { s with
    HealthScore := h
    Grade := gradeOf h
    ComplexityScore := penaltyToScore F (calculateComplexityPenalty F s) 20
    DeadCodeScore := penaltyToScore F (calculateDeadCodePenalty F s (normFactor s)) 20
    DuplicationScore := penaltyToScore F (calculateDuplicationPenalty F s) 20
    CouplingScore := penaltyToScore F (calculateCouplingPenalty F s) 20
    CohesionScore := penaltyToScore F (calculateCohesionPenalty F s) 20
    DependencyScore := penaltyToScore F (normalizeToScoreBase F (calculateDependencyPenalty F s) 16) 20
    ArchitectureScore := roundI (s.ArchCompliance * Arith.lit 100 1) }

theorem score_valid (s : AnalyzeSummary F) (hv : Valid s) : CalculateHealthScore F s = (false, scored s) := by
  have nv : ¬ (Validate F s = true) := by rw [hv]; decide
  -- the translation subtracts the seven penalties one after the other; once regrouped its body is `scored s` as written
  have e : ∀ a b c d e f g : Int, 100 - a - b - c - d - e - f - g = 100 - (a + b + c + d + e + f + g) := by
    intros; omega
  unfold CalculateHealthScore scored totalPenalty normFactor gradeOf
  simp only []
  rw [if_neg nv, e]
  rfl

theorem out_valid (s : AnalyzeSummary F) (hv : Valid s) : out s = scored s := by
  unfold out; rw [score_valid s hv]

theorem health_eq (s : AnalyzeSummary F) (hv : Valid s) :
    health s = if 100 - totalPenalty s < 0 then 0 else 100 - totalPenalty s := by
  unfold health; rw [out_valid s hv]; rfl

/-- **C15 (formula).** The score is `100 − Σ penalties`, floored at 0. -/
theorem C15_formula (s : AnalyzeSummary F) (hv : Valid s) : health s = max 0 (100 - totalPenalty s) := by
  rw [health_eq s hv]; split <;> omega

/-! the widths of the four ramps are positive -/
theorem cxWidth_pos : (z : F) < (Arith.lit 13 1 : F) := lit_pos (by decide) (by decide)
theorem dupWidth_pos : (z : F) < (Arith.lit 10 1 : F) := lit_pos (by decide) (by decide)
theorem cplWidth_pos : (z : F) < (Arith.lit 1 4 : F) := lit_pos (by decide) (by decide)
theorem cohWidth_pos : (z : F) < (Arith.lit 5404319552844595 18014398509481984 : F) := lit_pos (by decide) (by decide)

theorem dep_bounds (s : AnalyzeSummary F) : 0 ≤ calculateDependencyPenalty F s ∧ calculateDependencyPenalty F s ≤ 16 := by
  rw [dep_eq]; split
  · exact ⟨Int.le_refl 0, by decide⟩
  · have a := cyc_bounds (F := F) s.DepsModulesInCycles s.DepsTotalModules
    have b := depth_bounds (F := F) s.DepsMaxDepth s.DepsTotalModules
    have c := msd_bounds s.DepsMainSequenceDeviation
    omega
theorem archP_bounds (s : AnalyzeSummary F) : 0 ≤ calculateArchitecturePenalty F s ∧ calculateArchitecturePenalty F s ≤ 12 := by
  rw [arch_eq]; split
  · exact ⟨Int.le_refl 0, by decide⟩
  · exact arch_bounds _

/-- **C15 (caps).** Every category penalty lies between 0 and its documented maximum
(20/20/20/20/20/16/12). The maxima are literals here: a changed cap breaks the theorem. -/
theorem C15_caps (s : AnalyzeSummary F) (cn : CountsNonneg s) :
    (0 ≤ calculateComplexityPenalty F s ∧ calculateComplexityPenalty F s ≤ 20) ∧
    (0 ≤ calculateDeadCodePenalty F s (normFactor s) ∧ calculateDeadCodePenalty F s (normFactor s) ≤ 20) ∧
    (0 ≤ calculateDuplicationPenalty F s ∧ calculateDuplicationPenalty F s ≤ 20) ∧
    (0 ≤ calculateCouplingPenalty F s ∧ calculateCouplingPenalty F s ≤ 20) ∧
    (0 ≤ calculateCohesionPenalty F s ∧ calculateCohesionPenalty F s ≤ 20) ∧
    (0 ≤ calculateDependencyPenalty F s ∧ calculateDependencyPenalty F s ≤ 16) ∧
    (0 ≤ calculateArchitecturePenalty F s ∧ calculateArchitecturePenalty F s ≤ 12) := by
  exact ⟨by rw [cx_eq]; exact ⟨ramp_nonneg _ _ _ cxWidth_pos, ramp_le _ _ _⟩,
    by rw [dc_eq]; exact ⟨dc_nonneg _ _ (normFactor_pos s), dc_le _ _⟩,
    by rw [dup_eq]; exact ⟨ramp_nonneg _ _ _ dupWidth_pos, ramp_le _ _ _⟩,
    by rw [cpl_eq]; exact ⟨ratio_nonneg _ cplWidth_pos cn.cboH cn.cboM cn.cboC, ratio_le _ _ _ _⟩,
    by rw [coh_eq]; exact ⟨ratio_nonneg _ cohWidth_pos cn.lcomH cn.lcomM cn.lcomC, ratio_le _ _ _ _⟩,
    dep_bounds s, archP_bounds s⟩

theorem totalPenalty_nonneg (s : AnalyzeSummary F) (cn : CountsNonneg s) : 0 ≤ totalPenalty s := by
  have := C15_caps s cn; unfold totalPenalty; omega

/-! ## range -/

theorem floor_range (p : Int) (hp : 0 ≤ p) :
    0 ≤ (if 100 - p < 0 then 0 else 100 - p) ∧ (if 100 - p < 0 then 0 else 100 - p) ≤ 100 := by
  split <;> omega

theorem penaltyToScore_range (p m : Int) : 0 ≤ penaltyToScore F p m ∧ penaltyToScore F p m ≤ 100 := by
  unfold penaltyToScore; split
  · decide
  · simp only []; split <;> split <;> omega

/-- **C15 (range).** The health score and all seven category scores lie in [0,100]
(for the architecture score, which is `round(100·compliance)`, under the validity range of
compliance, which `Validate` only enforces when the architecture analysis ran). -/
theorem C15_range (s : AnalyzeSummary F) (hv : Valid s) (cn : CountsNonneg s)
    (hc : (Arith.lit 0 1 : F) ≤ s.ArchCompliance ∧ s.ArchCompliance ≤ (Arith.lit 1 1 : F)) :
    (0 ≤ health s ∧ health s ≤ 100) ∧
    (0 ≤ (out s).ComplexityScore ∧ (out s).ComplexityScore ≤ 100) ∧
    (0 ≤ (out s).DeadCodeScore ∧ (out s).DeadCodeScore ≤ 100) ∧
    (0 ≤ (out s).DuplicationScore ∧ (out s).DuplicationScore ≤ 100) ∧
    (0 ≤ (out s).CouplingScore ∧ (out s).CouplingScore ≤ 100) ∧
    (0 ≤ (out s).CohesionScore ∧ (out s).CohesionScore ≤ 100) ∧
    (0 ≤ (out s).DependencyScore ∧ (out s).DependencyScore ≤ 100) ∧
    (0 ≤ (out s).ArchitectureScore ∧ (out s).ArchitectureScore ≤ 100) := by
  rw [health_eq s hv, out_valid s hv]
  dsimp only [scored]
  refine ⟨?_, ?_, ?_, ?_, ?_, ?_, ?_, ?_⟩
  · exact floor_range _ (totalPenalty_nonneg s cn)
  · exact penaltyToScore_range (F := F) _ _
  · exact penaltyToScore_range (F := F) _ _
  · exact penaltyToScore_range (F := F) _ _
  · exact penaltyToScore_range (F := F) _ _
  · exact penaltyToScore_range (F := F) _ _
  · exact penaltyToScore_range (F := F) _ _
  · exact roundI_scale_r (by decide) (by decide) hc.1 hc.2

/-- on a validation failure the score is 0 and the grade "N/A" (the caller then uses the fallback) -/
theorem C15_invalid (s : AnalyzeSummary F) (hv : Validate F s = true) :
    (CalculateHealthScore F s).1 = true ∧ health s = 0 ∧ grade s = "N/A" := by
  unfold health grade out CalculateHealthScore
  simp only []
  rw [if_pos hv]
  exact ⟨rfl, rfl, rfl⟩

theorem deduct_bounds (c : Prop) [Decidable c] (x k : Int) (hk : 0 ≤ k) :
    x - k ≤ (if c then x - k else x) ∧ (if c then x - k else x) ≤ x := by
  split <;> omega

/-- the fallback score used on validation failure is in range too -/
theorem C15_fallback_range (s : AnalyzeSummary F) : 0 ≤ CalculateFallbackScore F s ∧ CalculateFallbackScore F s ≤ 100 := by
  unfold CalculateFallbackScore
  simp only []
  -- each deduction lowers the running score by at most its amount; only the final floor needs a case split
  have h1 := deduct_bounds (s.AverageComplexity > (Arith.lit 10 1 : F)) 100 10 (by decide)
  generalize (if s.AverageComplexity > (Arith.lit 10 1 : F) then (100 : Int) - 10 else 100) = a at h1 ⊢
  have h2 := deduct_bounds (s.DeadCodeCount > 0) a 5 (by decide)
  generalize (if s.DeadCodeCount > 0 then a - 5 else a) = b at h2 ⊢
  have h3 := deduct_bounds (s.HighComplexityCount > 0) b 5 (by decide)
  generalize (if s.HighComplexityCount > 0 then b - 5 else b) = c at h3 ⊢
  have h4 := deduct_bounds (s.HighLCOMClasses > 0) c 5 (by decide)
  generalize (if s.HighLCOMClasses > 0 then c - 5 else c) = d at h4 ⊢
  split <;> omega

/-! ## grade -/

/-- **C15 (grade).** A/B/C/D/F exactly by 90/75/60/45 (literals, not the generated names). -/
theorem C15_grade (s : AnalyzeSummary F) (hv : Valid s) : grade s = gradeOf (health s) := by
  unfold grade health; rw [out_valid s hv]; rfl

theorem C15_grade_fn (h : Int) : GetGradeFromScore F h = gradeOf h := by
  unfold GetGradeFromScore gradeOf; simp only [ge_iff_le]

/-! ## monotonicity: componentwise-worse summaries never score higher -/

/-- `s` is at least as good as `s'` in every scored dimension.  Each analysis block is either
"same denominator, no better numerators" or "the block is absent in `s`" (which is what a
skipped analysis looks like). -/
structure NoBetter (s s' : AnalyzeSummary F) : Prop where
  files : s.TotalFiles = s'.TotalFiles
  cx    : s.AverageComplexity ≤ s'.AverageComplexity
  crit  : s.CriticalDeadCode ≤ s'.CriticalDeadCode
  warn  : s.WarningDeadCode ≤ s'.WarningDeadCode
  info  : s.InfoDeadCode ≤ s'.InfoDeadCode
  dup   : s.CodeDuplication ≤ s'.CodeDuplication
  cbo   : (s.CBOClasses = 0 ∧ 0 ≤ s'.CBOClasses ∧ 0 ≤ s'.HighCouplingClasses ∧ 0 ≤ s'.MediumCouplingClasses) ∨
          (s.CBOClasses = s'.CBOClasses ∧ s.HighCouplingClasses ≤ s'.HighCouplingClasses ∧
            s.MediumCouplingClasses ≤ s'.MediumCouplingClasses)
  lcom  : (s.LCOMClasses = 0 ∧ 0 ≤ s'.LCOMClasses ∧ 0 ≤ s'.HighLCOMClasses ∧ 0 ≤ s'.MediumLCOMClasses) ∨
          (s.LCOMClasses = s'.LCOMClasses ∧ s.HighLCOMClasses ≤ s'.HighLCOMClasses ∧
            s.MediumLCOMClasses ≤ s'.MediumLCOMClasses)
  deps  : s.DepsEnabled = false ∨ (s.DepsEnabled = s'.DepsEnabled ∧ s.DepsTotalModules = s'.DepsTotalModules ∧
            s.DepsModulesInCycles ≤ s'.DepsModulesInCycles ∧ s.DepsMaxDepth ≤ s'.DepsMaxDepth ∧
            s.DepsMainSequenceDeviation ≤ s'.DepsMainSequenceDeviation)
  arch  : s.ArchEnabled = false ∨ (s.ArchEnabled = s'.ArchEnabled ∧ s'.ArchCompliance ≤ s.ArchCompliance)

theorem totalPenalty_mono (s s' : AnalyzeSummary F) (cn : CountsNonneg s)
    (h : NoBetter s s') : totalPenalty s ≤ totalPenalty s' := by
  have h1 : calculateComplexityPenalty F s ≤ calculateComplexityPenalty F s' := by
    rw [cx_eq, cx_eq]; exact ramp_mono _ _ cxWidth_pos h.cx
  have hn : normFactor s = normFactor s' := by unfold normFactor; rw [h.files]
  have h2 : calculateDeadCodePenalty F s (normFactor s) ≤ calculateDeadCodePenalty F s' (normFactor s') := by
    rw [dc_eq, dc_eq, hn]
    exact dc_mono _ (normFactor_pos s') (deadWeight_mono h.crit h.warn h.info)
  have h3 : calculateDuplicationPenalty F s ≤ calculateDuplicationPenalty F s' := by
    rw [dup_eq, dup_eq]; exact ramp_mono _ _ dupWidth_pos h.dup
  have h4 : calculateCouplingPenalty F s ≤ calculateCouplingPenalty F s' := by
    rw [cpl_eq, cpl_eq]; exact ratio_mono _ cplWidth_pos cn.cboC h.cbo
  have h5 : calculateCohesionPenalty F s ≤ calculateCohesionPenalty F s' := by
    rw [coh_eq, coh_eq]; exact ratio_mono _ cohWidth_pos cn.lcomC h.lcom
  have h6 : calculateDependencyPenalty F s ≤ calculateDependencyPenalty F s' := by
    rcases h.deps with h0 | ⟨he, ht, hc, hd, hm⟩
    · rw [dep_eq s, if_pos (by rw [h0]; decide)]; exact (dep_bounds s').1
    · rw [dep_eq, dep_eq, ← he, ← ht]
      split
      · exact Int.le_refl 0
      · have a := cyc_mono (F := F) s.DepsTotalModules hc
        have b := depth_mono (F := F) s.DepsTotalModules hd
        have c := msd_mono hm
        omega
  have h7 : calculateArchitecturePenalty F s ≤ calculateArchitecturePenalty F s' := by
    rcases h.arch with h0 | ⟨he, hc⟩
    · rw [arch_eq s, if_pos (by rw [h0]; decide)]; exact (archP_bounds s').1
    · rw [arch_eq, arch_eq, ← he]
      split
      · exact Int.le_refl 0
      · exact arch_anti hc
  unfold totalPenalty; omega

/-- **C15 (monotone), general form.** If `s'` is no better than `s` in every scored dimension,
its health score is no higher. The thirteen single-quantity statements of the property are instances (below);
a skipped analysis is the `inl` alternative of `NoBetter.cbo / lcom / deps / arch`. -/
theorem C15_mono (s s' : AnalyzeSummary F) (hv : Valid s) (hv' : Valid s')
    (cn : CountsNonneg s) (h : NoBetter s s') : health s' ≤ health s := by
  have := totalPenalty_mono s s' cn h
  rw [health_eq s hv, health_eq s' hv']; split <;> split <;> omega

theorem NoBetter.refl (s : AnalyzeSummary F) : NoBetter s s :=
  { files := rfl, cx := le_rfl' _, crit := Int.le_refl _, warn := Int.le_refl _, info := Int.le_refl _,
    dup := le_rfl' _, cbo := .inr ⟨rfl, Int.le_refl _, Int.le_refl _⟩, lcom := .inr ⟨rfl, Int.le_refl _, Int.le_refl _⟩,
    deps := .inr ⟨rfl, rfl, Int.le_refl _, Int.le_refl _, le_rfl' _⟩, arch := .inr ⟨rfl, le_rfl' _⟩ }

/-! ### the single-quantity instances named in the property -/

section single
variable (s : AnalyzeSummary F) (hv : Valid s) (cn : CountsNonneg s)
include hv cn

theorem C15_mono_avgComplexity (x : F) (hx : s.AverageComplexity ≤ x)
    (hv' : Valid { s with AverageComplexity := x }) : health { s with AverageComplexity := x } ≤ health s :=
  C15_mono s _ hv hv' cn { NoBetter.refl s with cx := hx }

theorem C15_mono_critical (n : Int) (hn : s.CriticalDeadCode ≤ n)
    (hv' : Valid { s with CriticalDeadCode := n }) : health { s with CriticalDeadCode := n } ≤ health s :=
  C15_mono s _ hv hv' cn { NoBetter.refl s with crit := hn }

theorem C15_mono_warning (n : Int) (hn : s.WarningDeadCode ≤ n)
    (hv' : Valid { s with WarningDeadCode := n }) : health { s with WarningDeadCode := n } ≤ health s :=
  C15_mono s _ hv hv' cn { NoBetter.refl s with warn := hn }

theorem C15_mono_info (n : Int) (hn : s.InfoDeadCode ≤ n)
    (hv' : Valid { s with InfoDeadCode := n }) : health { s with InfoDeadCode := n } ≤ health s :=
  C15_mono s _ hv hv' cn { NoBetter.refl s with info := hn }

theorem C15_mono_duplication (x : F) (hx : s.CodeDuplication ≤ x)
    (hv' : Valid { s with CodeDuplication := x }) : health { s with CodeDuplication := x } ≤ health s :=
  C15_mono s _ hv hv' cn { NoBetter.refl s with dup := hx }

theorem C15_mono_highCBO (n : Int) (hn : s.HighCouplingClasses ≤ n)
    (hv' : Valid { s with HighCouplingClasses := n }) : health { s with HighCouplingClasses := n } ≤ health s :=
  C15_mono s _ hv hv' cn { NoBetter.refl s with cbo := .inr ⟨rfl, hn, Int.le_refl _⟩ }

theorem C15_mono_mediumCBO (n : Int) (hn : s.MediumCouplingClasses ≤ n)
    (hv' : Valid { s with MediumCouplingClasses := n }) : health { s with MediumCouplingClasses := n } ≤ health s :=
  C15_mono s _ hv hv' cn { NoBetter.refl s with cbo := .inr ⟨rfl, Int.le_refl _, hn⟩ }

theorem C15_mono_highLCOM (n : Int) (hn : s.HighLCOMClasses ≤ n)
    (hv' : Valid { s with HighLCOMClasses := n }) : health { s with HighLCOMClasses := n } ≤ health s :=
  C15_mono s _ hv hv' cn { NoBetter.refl s with lcom := .inr ⟨rfl, hn, Int.le_refl _⟩ }

theorem C15_mono_mediumLCOM (n : Int) (hn : s.MediumLCOMClasses ≤ n)
    (hv' : Valid { s with MediumLCOMClasses := n }) : health { s with MediumLCOMClasses := n } ≤ health s :=
  C15_mono s _ hv hv' cn { NoBetter.refl s with lcom := .inr ⟨rfl, Int.le_refl _, hn⟩ }

theorem C15_mono_modulesInCycles (n : Int) (hn : s.DepsModulesInCycles ≤ n)
    (hv' : Valid { s with DepsModulesInCycles := n }) : health { s with DepsModulesInCycles := n } ≤ health s :=
  C15_mono s _ hv hv' cn { NoBetter.refl s with deps := .inr ⟨rfl, rfl, hn, Int.le_refl _, le_rfl' _⟩ }

theorem C15_mono_maxDepth (n : Int) (hn : s.DepsMaxDepth ≤ n)
    (hv' : Valid { s with DepsMaxDepth := n }) : health { s with DepsMaxDepth := n } ≤ health s :=
  C15_mono s _ hv hv' cn { NoBetter.refl s with deps := .inr ⟨rfl, rfl, Int.le_refl _, hn, le_rfl' _⟩ }

theorem C15_mono_msd (x : F) (hx : s.DepsMainSequenceDeviation ≤ x)
    (hv' : Valid { s with DepsMainSequenceDeviation := x }) : health { s with DepsMainSequenceDeviation := x } ≤ health s :=
  C15_mono s _ hv hv' cn { NoBetter.refl s with deps := .inr ⟨rfl, rfl, Int.le_refl _, Int.le_refl _, hx⟩ }

/-- lower architecture compliance never raises the score -/
theorem C15_mono_archCompliance (x : F) (hx : x ≤ s.ArchCompliance)
    (hv' : Valid { s with ArchCompliance := x }) : health { s with ArchCompliance := x } ≤ health s :=
  C15_mono s _ hv hv' cn { NoBetter.refl s with arch := .inr ⟨rfl, hx⟩ }

end single

/-! ## the summary assembly (`calculateSummary`) -/

/-- `linesInThousands`, raised to at least 1, is positive -/
theorem floor_one_pos (x : F) : (z : F) < (if x < (Arith.lit 1 1 : F) then (Arith.lit 1 1 : F) else x) := by
  split
  · exact lit_pos (by decide) (by decide)
  · next hx => exact MA.lt_of_lt_of_le (MA.lit_pos (by decide) (by decide)) (MA.not_lt.mp hx)

open PV.Summary in
/-- **C15 (duplication input).** The duplication percentage derived from clone groups is in [0,10] ⊆ [0,100]
(so it can never make `Validate` fail). -/
theorem C15_dup_range (groups lines : Int) :
    (Arith.lit 0 1 : F) ≤ duplication F groups lines (Arith.lit 0 1) ∧ duplication F groups lines (Arith.lit 0 1) ≤ (Arith.lit 10 1 : F) := by
  unfold duplication
  split
  · next h =>
    simp only []
    constructor
    · apply MonoArith.le_fmin _ _ _ lit_nonneg
      exact MA.mul_nonneg (MA.div_nonneg (MA.ofInt_nonneg (by omega)) (floor_one_pos _)) MA.lit_nonneg
    · exact MonoArith.fmin_le_l _ _
  · exact ⟨le_rfl' _, lit_nonneg⟩

open PV.Summary in
/-- **C15 (duplication input).** It grows with the number of groups. -/
theorem C15_dup_mono (g g' lines : Int) (h : g ≤ g') :
    duplication F g lines (Arith.lit 0 1) ≤ duplication F g' lines (Arith.lit 0 1) := by
  by_cases hg : lines > 0 ∧ g > 0
  · have hg' : lines > 0 ∧ g' > 0 := ⟨hg.1, by omega⟩
    unfold duplication
    rw [if_pos hg, if_pos hg']
    simp only []
    exact fmin_mono_r _ (mul_le_mul_l _ lit_nonneg (div_le_div_l _ (floor_one_pos _) (ofInt_le h)))
  · have : duplication F g lines (Arith.lit 0 1) = (Arith.lit 0 1 : F) := by unfold duplication; rw [if_neg hg]
    rw [this]; exact (C15_dup_range g' lines).1

open PV.Summary in
/-- **C15 (final score).** Whatever `calculateSummary` is given — valid or not — the reported health score is in
[0,100] and graded by 90/75/60/45 (on a validation failure the fallback score and `GetGradeFromScore` are used). -/
theorem C15_final_range (s : AnalyzeSummary F) (cn : CountsNonneg s) :
    0 ≤ (finalize F s).HealthScore ∧ (finalize F s).HealthScore ≤ 100 ∧ (finalize F s).Grade = gradeOf (finalize F s).HealthScore := by
  unfold finalize
  cases hv : Validate F s
  · rw [score_valid s hv]
    have hr := floor_range _ (totalPenalty_nonneg s cn)
    exact ⟨hr.1, hr.2, rfl⟩
  · have e1 : (CalculateHealthScore F s).1 = true := (C15_invalid s hv).1
    rcases hc : CalculateHealthScore F s with ⟨err, o⟩
    rw [hc] at e1
    simp only [] at e1
    subst e1
    simp only [if_true]
    have := C15_fallback_range o
    exact ⟨this.1, this.2, C15_grade_fn _⟩

/-- the four named constants the hand-written `duplication` model spells as literals, as of this run -/
theorem C15_summary_consts :
    "GroupDensityLinesUnit = 1000" ∈ PV.Generated.ScoreConsts.consts ∧ "GroupDensityMinLines = 1" ∈ PV.Generated.ScoreConsts.consts ∧
    "GroupDensityCoefficient = 20" ∈ PV.Generated.ScoreConsts.consts ∧ "DuplicationThresholdHigh = 10" ∈ PV.Generated.ScoreConsts.consts := by
  simp [PV.Generated.ScoreConsts.consts]

/-- **C15 (source tie for the assembly).** `calculateSummary` as re-extracted from /repo on this run. -/
theorem C15_summary_facts : PV.Generated.SummaryFacts.calculateSummary = [
  "if: response.Complexity != nil",
  "assign: summary.TotalFiles = response.Complexity.Summary.FilesAnalyzed",
  "assign: summary.AnalyzedFiles = response.Complexity.Summary.FilesAnalyzed",
  "assign: summary.TotalFunctions = len(response.Complexity.Functions)",
  "assign: summary.AverageComplexity = response.Complexity.Summary.AverageComplexity",
  "assign: summary.HighComplexityCount = response.Complexity.Summary.HighRiskFunctions",
  "if: response.DeadCode != nil",
  "assign: summary.DeadCodeCount = response.DeadCode.Summary.TotalFindings",
  "assign: summary.CriticalDeadCode = response.DeadCode.Summary.CriticalFindings",
  "assign: summary.WarningDeadCode = response.DeadCode.Summary.WarningFindings",
  "assign: summary.InfoDeadCode = response.DeadCode.Summary.InfoFindings",
  "if: response.Clone != nil",
  "assign: summary.TotalClones = response.Clone.Statistics.TotalClones",
  "assign: summary.ClonePairs = response.Clone.Statistics.TotalClonePairs",
  "assign: summary.CloneGroups = response.Clone.Statistics.TotalCloneGroups",
  "assign: totalLines := response.Clone.Statistics.LinesAnalyzed",
  "assign: groupCount := response.Clone.Statistics.TotalCloneGroups",
  "if: totalLines > 0 && groupCount > 0",
  "assign: linesInThousands := float64(totalLines) / domain.GroupDensityLinesUnit",
  "if: linesInThousands < domain.GroupDensityMinLines",
  "assign: linesInThousands = domain.GroupDensityMinLines",
  "assign: groupDensity := float64(groupCount) / linesInThousands",
  "assign: summary.CodeDuplication = math.Min(domain.DuplicationThresholdHigh, groupDensity*domain.GroupDensityCoefficient)",
  "if: response.CBO != nil",
  "assign: summary.CBOClasses = response.CBO.Summary.TotalClasses",
  "assign: summary.HighCouplingClasses = response.CBO.Summary.HighRiskClasses",
  "assign: summary.MediumCouplingClasses = response.CBO.Summary.MediumRiskClasses",
  "assign: summary.AverageCoupling = response.CBO.Summary.AverageCBO",
  "if: response.LCOM != nil",
  "assign: summary.LCOMClasses = response.LCOM.Summary.TotalClasses",
  "assign: summary.HighLCOMClasses = response.LCOM.Summary.HighRiskClasses",
  "assign: summary.MediumLCOMClasses = response.LCOM.Summary.MediumRiskClasses",
  "assign: summary.AverageLCOM = response.LCOM.Summary.AverageLCOM",
  "if: response.System != nil",
  "if: response.System.DependencyAnalysis != nil",
  "assign: summary.DepsTotalModules = da.TotalModules",
  "assign: summary.DepsMaxDepth = da.MaxDepth",
  "if: da.CircularDependencies != nil",
  "assign: summary.DepsModulesInCycles = da.CircularDependencies.TotalModulesInCycles",
  "if: da.CouplingAnalysis != nil",
  "assign: summary.DepsMainSequenceDeviation = da.CouplingAnalysis.MainSequenceDeviation",
  "if: response.System.ArchitectureAnalysis != nil",
  "assign: summary.ArchCompliance = aa.ComplianceScore",
  "if: err != nil",
  "assign: summary.HealthScore = summary.CalculateFallbackScore()",
  "assign: summary.Grade = domain.GetGradeFromScore(summary.HealthScore)"] := rfl


/-- the order laws assumed of `float64` (`MonoArith`) are satisfiable: exact rational arithmetic is an instance, so none of the theorems above is vacuous -/
theorem C15_assumption_consistent : Nonempty (MonoArith ℚ) := ⟨ratMonoArith⟩

end PV.C15
