import PV.Proofs.CFGSound3
/-!
# C01 (extension) — the MIRROR of pyscn's CFG builder is sound, for every program of the fragment

`PV/Model/CFG.lean` is the executable Lean transliteration of `cfg_builder.go` + `reachability.go` (the real builder and detector
must produce the same findings, complexity and live lines as it on every generated program — the correspondence run by the check).
These theorems are about that mirror, for ALL programs (no bound on size or nesting):

* `C01_mirror_sound` — whatever an execution of the nondeterministic semantics `Exec` executes, every executed line has a located
  statement record in a block that the mirror's own breadth-first search reaches from ENTRY; the only exception are the heads of
  `elif` clauses, whose test the builder stores without a location (they cannot start a finding).
  Fragment `okL3 false false`: every statement kind incl. `try/except/else/finally`, `with`, `match`, loop `else`, comprehensions;
  `break`/`continue` only inside a loop of the same definition, `except`/`case` clauses only as members of `try`/`match`, and no
  `try … finally` nested inside a `finally` body (`C01z` has the same theorems without this restriction, on `okL4`, and the
  theorems here follow from those).
* `C01_mirror_sound_notry` — the same for the `try`-free fragment `okL false` (a part of `okL3 false false`).
* `C01_mirror_live` — the same in terms of the mirror's `liveLines`: every executed line is an `elif` head or a live line of the graph; `C01_fragment_mono` — `okL ⊆ okL3`.
* `C01_mirror_static` — the static form: every line of the summary `sxL` (⊇ `live` up to `elif` heads, `C01_live_le_sx`) is in a reachable block.
* `C01_mirror_frame` — the frame property of the builder used throughout: a builder call only adds edges / statements to blocks it
  owns, keeps all block ids below `next`, and restores the loop and exception stacks (no hypothesis on the program).
* `C01_reachable_iff` — the executable search `reachable` is exactly graph reachability from ENTRY.
-/
namespace PV.C01
open PV.CFG PV.Py PV.CFGSound

theorem C01_mirror_sound (k : Kind) (s e : Nat) (body : List Stmt) (hok : okL3 false false body = true) {o : Out} {tr : List Nat}
    (ex : Exec body o tr) :
    ∀ l ∈ tr, l ∈ (sxL body).skipped ∨ ∃ r ∈ (build k s e body).stmts, r.s = l ∧ r.blk ∈ reachable (build k s e body) :=
  mirror_sound3 k s e body hok ex

/-- in terms of the mirror's own output: an executed line is an `elif` head or one of the mirror's live lines -/
theorem C01_mirror_live (k : Kind) (s e : Nat) (body : List Stmt) (hok : okL3 false false body = true) {o : Out} {tr : List Nat}
    (ex : Exec body o tr) : ∀ l ∈ tr, l ∈ (sxL body).skipped ∨ l ∈ liveLines (build k s e body) := by
  intro l hl
  rcases mirror_sound3 k s e body hok ex l hl with h | ⟨r, hr, hs, hb⟩
  · exact .inl h
  · refine .inr ?_
    unfold liveLines
    exact List.mem_map.mpr ⟨r, List.mem_filter.mpr ⟨hr, by simpa using hb⟩, hs⟩

theorem C01_mirror_sound_notry (k : Kind) (s e : Nat) (body : List Stmt) (hok : okL false body = true) {o : Out} {tr : List Nat}
    (ex : Exec body o tr) :
    ∀ l ∈ tr, l ∈ (sxL body).skipped ∨ ∃ r ∈ (build k s e body).stmts, r.s = l ∧ r.blk ∈ reachable (build k s e body) :=
  mirror_sound k s e body hok ex

theorem C01_mirror_static (k : Kind) (s e : Nat) (body : List Stmt) (hok : okL3 false false body = true) :
    ∀ l ∈ (sxL body).lines, ∃ r ∈ (build k s e body).stmts, r.s = l ∧ r.blk ∈ reachable (build k s e body) :=
  build_sound3 k s e body hok

/-- the static summary covers the semantic over-approximation `live` (and hence every execution, `C01_live_sound`) -/
theorem C01_live_le_sx (ss : List Stmt) (hok : okL3 false false ss = true) :
    ∀ l ∈ (live ss).lines, l ∈ (sxL ss).lines ∨ l ∈ (sxL ss).skipped :=
  (live_le_sx3 ss false false hok).1

/-- the `try`-free fragment is part of the full fragment -/
theorem C01_fragment_mono (ss : List Stmt) (il f : Bool) (h : okL il ss = true) : okL3 il f ss = true := okL3_of_okL ss il f h

theorem C01_mirror_frame (ss : List Stmt) (st : St) (w : WF st) (c n : Nat) (hc : Own c n st.cur) (hn : n ≤ st.next) :
    Inv c n st (procList st ss) ∧ Same st (procList st ss) :=
  procList_frame ss st w c n hc hn

theorem C01_reachable_iff (st : St) (hn : 0 < st.next) (hb : ∀ e ∈ st.edges, e.1 < st.next ∧ e.2.1 < st.next) (b : Nat) :
    b ∈ reachable st ↔ R st.edges b :=
  ⟨reachable_sound st, reachable_complete st hn hb⟩

end PV.C01
