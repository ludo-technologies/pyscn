import PV.Model.StructDead
import PV.Properties.C01
/-!
# C02 — dead-code completeness for structurally unreachable statements

`structDead` (the specification the oracle evaluates on the parser's AST and compares with the REAL report)
contains what the property lists (adequacy: `C02_after_terminator`, `C02_after_exhaustive`,
`C02_nested_*`; that it contains nothing else is not stated), and such statements indeed never run (`C02_stop_sem`, against the nondeterministic
semantics of C01).
-/
namespace PV.C02
open PV.CFG PV.Py PV.SD

theorem deadInBlock_after {pre post : List Stmt} {t : Stmt} (hpre : ∀ x ∈ pre, stops x = false) (ht : stops t = true) :
    deadInBlock (pre ++ t :: post) = linesOfL post := by
  induction pre with
  | nil => simp [deadInBlock, ht]
  | cons x xs ih =>
    have hx : stops x = false := hpre x (by simp)
    simp only [List.cons_append, deadInBlock, hx, Bool.false_eq_true, if_false]
    exact ih (fun y hy => hpre y (by simp [hy]))

theorem linesOfL_mem {l : List Stmt} {x : Stmt} (hx : x ∈ l) : ∀ p ∈ linesOf x, p ∈ linesOfL l := by
  induction l with
  | nil => cases hx
  | cons y ys ih =>
    intro p hp
    rw [linesOfL]
    rcases List.mem_cons.mp hx with rfl | hx
    · exact List.mem_append.mpr (.inl hp)
    · exact List.mem_append.mpr (.inr (ih hx p hp))

/-- the start line of a statement that has one is among the lines to be covered -/
theorem line_mem_linesOf (x : Stmt) (h : (∀ s e a b c d, x ≠ .try_ s e a b c d) ∧ (∀ s e a, x ≠ .elsec s e a)) : Py.Stmt.line x ∈ linesOf x := by
  cases x <;> first | (simp [linesOf, Py.Stmt.line]; done) | (exact absurd rfl (h.1 _ _ _ _ _ _)) | (exact absurd rfl (h.2 _ _ _))

theorem structDead_eq (l : List Stmt) : structDead l = deadInBlock l ++ subDead l := by rw [structDead]

theorem stops_of_isTerm {t : Stmt} (h : isTerm t = true) : stops t = true := by
  cases t
  case ite => cases h
  all_goals exact h

/-- **C02 (after a terminator).** Every statement that follows a return / raise / break / continue in the same
block is in the specification (first such terminator of the block). -/
theorem C02_after_terminator {pre post : List Stmt} {t : Stmt} (hpre : ∀ x ∈ pre, stops x = false) (ht : isTerm t = true) :
    ∀ x ∈ post, ∀ p ∈ linesOf x, p ∈ structDead (pre ++ t :: post) := by
  intro x hx p hp
  rw [structDead_eq, deadInBlock_after hpre (stops_of_isTerm ht)]
  exact List.mem_append.mpr (.inl (linesOfL_mem hx p hp))

/-- **C02 (after an exhaustive conditional).** Every statement that follows an if/elif/else all of whose branches end
with a terminator is in the specification. -/
theorem C02_after_exhaustive {pre post : List Stmt} {s e : Nat} {thn orelse : List Stmt}
    (hpre : ∀ x ∈ pre, stops x = false) (h1 : endsTerm thn = true) (h2 : elseEnds orelse = true) :
    ∀ x ∈ post, ∀ p ∈ linesOf x, p ∈ structDead (pre ++ .ite s e thn orelse :: post) := by
  intro x hx p hp
  have hs : stops (.ite s e thn orelse) = true := by simp [stops, h1, h2]
  rw [structDead_eq, deadInBlock_after hpre hs]
  exact List.mem_append.mpr (.inl (linesOfL_mem hx p hp))

theorem subDead_mem {l : List Stmt} {x : Stmt} (hx : x ∈ l) : ∀ p ∈ inStmt x, p ∈ subDead l := by
  induction l with
  | nil => cases hx
  | cons y ys ih =>
    intro p hp
    rw [subDead]
    rcases List.mem_cons.mp hx with rfl | hx
    · exact List.mem_append.mpr (.inl hp)
    · exact List.mem_append.mpr (.inr (ih hx p hp))

/-- **C02 (any enclosing construct).** What is structurally dead in a block nested inside a statement of `l` — branch of
an if / elif / else, loop body or loop else, try body / handler / else / finally, with body, match case, class body —
is structurally dead in `l`. -/
theorem C02_nested {l : List Stmt} {x : Stmt} (hx : x ∈ l) : ∀ p ∈ inStmt x, p ∈ structDead l := by
  intro p hp
  rw [structDead_eq]
  exact List.mem_append.mpr (.inr (subDead_mem hx p hp))

theorem C02_nested_if {s e : Nat} {a b : List Stmt} : ∀ p : Nat, (p ∈ structDead a ∨ p ∈ structDead b) → p ∈ inStmt (.ite s e a b) := by
  intro p hp; rw [inStmt]; exact List.mem_append.mpr hp
theorem C02_nested_loop {s e : Nat} {a b : List Stmt} : ∀ p : Nat, (p ∈ structDead a ∨ p ∈ structDead b) → p ∈ inStmt (.loop s e a b) := by
  intro p hp; rw [inStmt]; exact List.mem_append.mpr hp
theorem C02_nested_try {s e : Nat} {a hs c d : List Stmt} :
    ∀ p : Nat, (p ∈ structDead a ∨ p ∈ subDead hs ∨ p ∈ structDead c ∨ p ∈ structDead d) → p ∈ inStmt (.try_ s e a hs c d) := by
  intro p hp; rw [inStmt]; simp only [List.mem_append]
  rcases hp with h | h | h | h
  · exact .inl (.inl (.inl h))
  · exact .inl (.inl (.inr h))
  · exact .inl (.inr h)
  · exact .inr h

/-! ## such statements never run

Static: after a stopping statement the over-approximation `live` of C01 has no normal outcome; `C01_live_sound` turns that into a
statement about every execution. -/

theorem liveS_of_isTerm : ∀ {t : Stmt}, isTerm t = true → (liveS t).outs.normal = false
  | .ret .., _ | .brk .., _ | .cont .., _ | .raise .., _ => by rw [liveS]

theorem live_cons_normal (x : Stmt) (xs : List Stmt) :
    (live (x :: xs)).outs.normal = ((liveS x).outs.normal && (live xs).outs.normal) := by
  rw [C01.live_cons]
  cases h : (liveS x).outs.normal
  · rw [if_neg Bool.false_ne_true, h]; rfl
  · rw [if_pos rfl]; rfl

theorem live_of_endsTerm : ∀ {l : List Stmt}, endsTerm l = true → (live l).outs.normal = false
  | [x], h => by rw [live_cons_normal, liveS_of_isTerm (t := x) h]; rfl
  | x :: y :: l, h => by
    rw [live_cons_normal, live_of_endsTerm (l := y :: l) (by unfold endsTerm at *; rwa [List.getLast?_cons_cons] at h), Bool.and_false]

theorem elseEnds_elif (s e : Nat) (thn orelse : List Stmt) :
    elseEnds [.elifc s e thn orelse] = (endsTerm thn && elseEnds orelse) := by rw [elseEnds]
theorem elseEnds_else (s e : Nat) (body : List Stmt) : elseEnds [.elsec s e body] = endsTerm body := by rw [elseEnds]
theorem elseEnds_two (x y : Stmt) (l : List Stmt) : elseEnds (x :: y :: l) = false := by
  simp [elseEnds]

theorem live_of_elseEnds {l : List Stmt} (h : elseEnds l = true) : (live l).outs.normal = false := by
  fun_induction elseEnds l with
  | case1 s e thn orelse ih =>
    rw [Bool.and_eq_true] at h
    rw [live_cons_normal, liveS]
    show ((false || ((live thn).outs.normal || (live orelse).outs.normal)) && _) = false
    rw [live_of_endsTerm h.1, ih h.2]; rfl
  | case2 s e body => rw [live_cons_normal, liveS, live_of_endsTerm h]; rfl
  | case3 => cases h

theorem liveS_of_stops : ∀ {x : Stmt}, stops x = true → (liveS x).outs.normal = false
  | .ite s e thn orelse, h => by
    rw [stops, Bool.and_eq_true] at h
    rw [liveS]
    show (false || ((live thn).outs.normal || (live orelse).outs.normal)) = false
    rw [live_of_endsTerm h.1, live_of_elseEnds h.2]; rfl
  | .ret .., h | .brk .., h | .cont .., h | .raise .., h => liveS_of_isTerm h

/-- **C02 (semantics).** After a statement that stops the block (a terminator, or an if/elif/else all of whose
branches end with one) the rest of the block never runs: any execution of `x :: rest` is an execution of `x`
alone, and it does not complete normally. -/
theorem C02_stop_sem {x : Stmt} {rest : List Stmt} {o : Out} {tr : List Nat} (hs : stops x = true)
    (h : Exec (x :: rest) o tr) : Exec [x] o tr ∧ o ≠ .normal := by
  have key : ∀ {o tr}, Exec [x] o tr → o ≠ .normal := by
    rintro _ _ ex rfl
    exact Bool.false_ne_true ((liveS_of_stops hs).symm.trans (C01.single_ok (C01.C01_live_sound ex)).1)
  cases rest with
  | nil => exact ⟨h, key h⟩
  | cons y ys =>
    cases h with
    | seqN h₁ _ => exact absurd rfl (key h₁)
    | seqS h₁ ho => exact ⟨h₁, ho⟩

end PV.C02
