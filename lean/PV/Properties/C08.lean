import PV.Model.Clone
import PV.Proofs.CloneLemmas
import PV.Properties.CloneFactsExpected
import PV.Generated.CloneLoopFacts
import PV.Generated.CloneServiceFacts
/-!
# C08 — clone reports: verbatim copies are found, every reported pair is justified, order does not matter

Theorems over `PV.Clone` (the per-pair decisions are the functions translated from /repo on every run).
`cmp` — the measurement of a pair — is universally quantified; where a theorem needs a property of it
(symmetry, "identical trees measure (1, 0)") it is a visible hypothesis, checked on the real code by the
correspondence run (symmetry for every ordered pair of every generated project) or provided by C07
(`C07_self_tree`, `C07_similarity_self`).
-/
namespace PV.C08
open PV PV.Clone PV.MA

variable {F : Type} [MonoArith F]

/-- the reporting threshold `isSignificantClone` applies: `SimilarityThreshold` if positive, else the Type-4 threshold -/
def effThr (c : Cfg F) : F := if c.simThr ≤ (Arith.lit 0 1 : F) then c.t4 else c.simThr

/-- what `CloneRequest.Validate` guarantees about the bands -/
structure Valid (c : Cfg F) : Prop where
  t12 : c.t2 < c.t1
  t23 : c.t3 < c.t2
  t34 : c.t4 < c.t3
  t1le : c.t1 ≤ (Arith.lit 1 1 : F)
  simle : c.simThr ≤ (Arith.lit 1 1 : F)

/-- **Bands.** The type is a total function of the similarity: the first threshold reached, in the order `t1 … t4`. -/
theorem C08_bands (c : Cfg F) (sim dist : F) :
    (classify c sim dist = 1 ↔ c.t1 ≤ sim) ∧
    (classify c sim dist = 2 ↔ c.t2 ≤ sim ∧ sim < c.t1) ∧
    (classify c sim dist = 3 ↔ c.t3 ≤ sim ∧ sim < c.t2 ∧ sim < c.t1) ∧
    (classify c sim dist = 4 ↔ c.t4 ≤ sim ∧ sim < c.t3 ∧ sim < c.t2 ∧ sim < c.t1) ∧
    (classify c sim dist = 0 ↔ sim < c.t4 ∧ sim < c.t3 ∧ sim < c.t2 ∧ sim < c.t1) := classify_spec c sim dist

/-- with validated (strictly descending) thresholds the side conditions collapse: band k is `[t_k, t_{k-1})` -/
theorem C08_bands_valid (c : Cfg F) (hv : Valid c) (sim dist : F) :
    (classify c sim dist = 3 ↔ c.t3 ≤ sim ∧ sim < c.t2) ∧
    (classify c sim dist = 4 ↔ c.t4 ≤ sim ∧ sim < c.t3) ∧
    (classify c sim dist = 0 ↔ sim < c.t4) :=
  classify_spec_desc (MA.le_of_lt hv.t12) (MA.le_of_lt hv.t23) (MA.le_of_lt hv.t34) sim dist

/-- **Every reported pair is justified.** -/
theorem C08_justified (c : Cfg F) (fr : Nat → Frag) (cmp : Cmp F) (n : Nat)
    (hinc : ∀ k, k < n → included c (fr k) = true) (p : Pair F) (hp : p ∈ report c fr cmp n) :
    p.i < p.j ∧ p.j < n ∧
    cmp p.i p.j = some (p.sim, p.dist) ∧
    effThr c ≤ p.sim ∧
    c.minSim ≤ p.sim ∧ p.sim ≤ c.maxSim ∧
    p.ty = classify c p.sim p.dist ∧ p.ty ≠ 0 ∧ p.ty ∈ c.enabled ∧
    ((Arith.lit 0 1 : F) < c.maxDist → p.dist ≤ c.maxDist) ∧
    c.minNodes ≤ (fr p.i).size ∧ c.minNodes ≤ (fr p.j).size ∧ c.minLines ≤ (fr p.i).lines ∧ c.minLines ≤ (fr p.j).lines ∧
    ¬ ((fr p.i).file = (fr p.j).file ∧ ¬ ((fr p.i).e < (fr p.j).s ∨ (fr p.j).e < (fr p.i).s)) := by
  obtain ⟨hstd, hkeep⟩ := mem_report hp
  obtain ⟨hij, hjn, hmk⟩ := mem_standard.mp hstd
  obtain ⟨⟨hov, hcmp, hty, hty0, hsig⟩, _, _⟩ := mkPair_some.mp hmk
  obtain ⟨hthr, hdist, _⟩ := significant_spec.mp hsig
  obtain ⟨hlo, hhi, hen⟩ := svcKeep_spec.mp hkeep
  obtain ⟨hsi, hli⟩ := included_spec.mp (hinc p.i (by omega))
  obtain ⟨hsj, hlj⟩ := included_spec.mp (hinc p.j hjn)
  exact ⟨hij, hjn, hcmp, (by unfold effThr; exact hthr), hlo, hhi, hty, hty0, hen, hdist, hsi, hsj, hli, hlj, overlap_spec.not.mp (by simpa using hov)⟩

/-- **Verbatim copies are found**: two non-overlapping fragments of at least the minimum size whose trees are identical
(so that the measurement is similarity 1, distance 0 — C07) are reported as a Type-1 pair with similarity 1 and
distance 0, unless the pair limit truncates the list or the request's own filters exclude Type-1 / similarity 1. -/
theorem C08_verbatim (c : Cfg F) (hv : Valid c) (fr : Nat → Frag) (cmp : Cmp F) (n i j : Nat) (hij : i < j) (hjn : j < n)
    (hinc : ∀ k, k < n → included c (fr k) = true)
    (hno : ¬ ((fr i).file = (fr j).file ∧ ¬ ((fr i).e < (fr j).s ∨ (fr j).e < (fr i).s)))
    (hid : cmp i j = some ((Arith.lit 1 1 : F), (Arith.lit 0 1 : F)))
    (htrunc : (standard c fr cmp n).length ≤ c.maxPairs)
    (hen : (1 : Int) ∈ c.enabled) (hlo : c.minSim ≤ (Arith.lit 1 1 : F)) (hhi : (Arith.lit 1 1 : F) ≤ c.maxSim) :
    (⟨i, j, Arith.lit 1 1, Arith.lit 0 1, 1⟩ : Pair F) ∈ report c fr cmp n := by
  have hcl : classify c (Arith.lit 1 1 : F) (Arith.lit 0 1 : F) = 1 := (classify_spec c _ _).1.mpr hv.t1le
  have hsig : significant c (fr i) (fr j) (Arith.lit 1 1 : F) (Arith.lit 0 1 : F) = true := by
    apply significant_spec.mpr
    obtain ⟨hsi, _⟩ := included_spec.mp (hinc i (by omega))
    obtain ⟨hsj, _⟩ := included_spec.mp (hinc j hjn)
    refine ⟨?_, ?_, ?_⟩
    · split
      · exact le_tr (MA.le_of_lt hv.t34) (le_tr (MA.le_of_lt hv.t23) (le_tr (MA.le_of_lt hv.t12) hv.t1le))
      · exact hv.simle
    · exact MA.le_of_lt
    · exact MonoArith.le_fmin _ _ _ (ofInt_le (by exact_mod_cast hsi)) (ofInt_le (by exact_mod_cast hsj))
  have hmk : mkPair c fr cmp i j = some ⟨i, j, Arith.lit 1 1, Arith.lit 0 1, 1⟩ :=
    mkPair_some.mpr ⟨⟨by simpa using overlap_spec.not.mpr hno, hid, hcl.symm, (by show (1 : Int) ≠ 0; decide), hsig⟩, rfl, rfl⟩
  exact mem_report_of_not_truncated htrunc (mem_standard.mpr ⟨hij, hjn, hmk⟩)
    (svcKeep_spec.mpr ⟨hlo, hhi, hen⟩)

/-- the unordered pair {u, v} is reported (by the exhaustive detector) with these values -/
def Reported (c : Cfg F) (fr : Nat → Frag) (cmp : Cmp F) (n u v : Nat) (s d : F) (t : Int) : Prop :=
  ReportedIn (standard c fr cmp n) u v s d t

/-- **Order.** Listing the fragments in another order (position k now holds the fragment formerly at `σ k`, any
injective renumbering — this covers any order of files and any order within files) reports the same unordered pairs
with the same similarity, distance and type, provided the measurement does not depend on which fragment comes first. -/
theorem C08_order (c : Cfg F) (fr : Nat → Frag) (cmp : Cmp F) (n : Nat) (σ : Nat → Nat)
    (hσ : ∀ k, k < n → σ k < n) (hinj : ∀ a b, a < n → b < n → σ a = σ b → a = b)
    (hsym : ∀ a b, cmp a b = cmp b a)
    (u v : Nat) (hu : u < n) (hv : v < n) (s d : F) (t : Int) :
    Reported c (fun k => fr (σ k)) (fun a b => cmp (σ a) (σ b)) n u v s d t ↔ Reported c fr cmp n (σ u) (σ v) s d t := by
  by_cases huv : u = v
  · subst huv
    exact iff_of_false not_reportedIn_standard_self not_reportedIn_standard_self
  · have hne : σ u ≠ σ v := fun h => huv (hinj u v hu hv h)
    unfold Reported
    rw [reported_iff (fun a b => hsym (σ a) (σ b)) hu hv huv, reported_iff hsym (hσ u hu) (hσ v hv) hne]

/-- the same through the service filter, when the pair limit does not truncate -/
theorem C08_order_report (c : Cfg F) (fr : Nat → Frag) (cmp : Cmp F) (n : Nat) (σ : Nat → Nat)
    (hσ : ∀ k, k < n → σ k < n) (hinj : ∀ a b, a < n → b < n → σ a = σ b → a = b)
    (hsym : ∀ a b, cmp a b = cmp b a)
    (h₁ : (standard c fr cmp n).length ≤ c.maxPairs)
    (h₂ : (standard c (fun k => fr (σ k)) (fun a b => cmp (σ a) (σ b)) n).length ≤ c.maxPairs)
    (u v : Nat) (hu : u < n) (hv : v < n) (s d : F) (t : Int) :
    (∃ p ∈ report c (fun k => fr (σ k)) (fun a b => cmp (σ a) (σ b)) n, ((p.i = u ∧ p.j = v) ∨ (p.i = v ∧ p.j = u)) ∧ p.sim = s ∧ p.dist = d ∧ p.ty = t) ↔
    (∃ p ∈ report c fr cmp n, ((p.i = σ u ∧ p.j = σ v) ∨ (p.i = σ v ∧ p.j = σ u)) ∧ p.sim = s ∧ p.dist = d ∧ p.ty = t) := by
  have key := C08_order c fr cmp n σ hσ hinj hsym u v hu hv s d t
  exact (reportedIn_report h₂).trans ((and_congr_left' key).trans (reportedIn_report h₁).symm)

/-- **Tie (regenerated).** The loops and glue the model writes by hand — the exhaustive pair loop, `compareFragments` and the two
comparison back ends, the final sort/limit, fragment extraction and its candidate types, the service's pair filter, the
detector configuration the service builds, the clone-type conversion — have exactly the guards, bounds, returns and tracked
assignments the model was written against. -/
theorem C08_facts :
    Generated.CloneLoopFacts.detectClonePairsStandardWithContext = CloneExpected.CloneLoopFacts_detectClonePairsStandardWithContext ∧
    Generated.CloneLoopFacts.compareFragments = CloneExpected.CloneLoopFacts_compareFragments ∧
    Generated.CloneLoopFacts.compareWithAPTED = CloneExpected.CloneLoopFacts_compareWithAPTED ∧
    Generated.CloneLoopFacts.compareFragmentsWithClassifier = CloneExpected.CloneLoopFacts_compareFragmentsWithClassifier ∧
    Generated.CloneLoopFacts.limitAndSortClonePairs = CloneExpected.CloneLoopFacts_limitAndSortClonePairs ∧
    Generated.CloneLoopFacts.extractFragmentsRecursive = CloneExpected.CloneLoopFacts_extractFragmentsRecursive ∧
    Generated.CloneLoopFacts.isFragmentCandidate = CloneExpected.CloneLoopFacts_isFragmentCandidate ∧
    Generated.CloneServiceFacts.filterClonePairs = CloneExpected.CloneServiceFacts_filterClonePairs ∧
    Generated.CloneServiceFacts.createDetectorConfig = CloneExpected.CloneServiceFacts_createDetectorConfig ∧
    Generated.CloneServiceFacts.convertCloneType = CloneExpected.CloneServiceFacts_convertCloneType :=
  ⟨rfl, rfl, rfl, rfl, rfl, rfl, rfl, rfl, rfl, rfl⟩

end PV.C08
