/-! Expected shape of the report-level grouping path (service/clone_service.go DetectClonesInFiles, filterDetectedPairs; internal/analyzer/clone_detector.go
GroupClonePairs): the detector's pairs are filtered by the request FIRST, and the groups are
formed from exactly those pairs with the configured strategy; `C10_facts`. -/
namespace PV.GroupFactsExpected


def GroupReportFacts_DetectClonesInFiles : List String := [
  "if: ctx == nil",
  "return: nil, fmt.Errorf(…)",
  "if: req == nil",
  "return: nil, fmt.Errorf(…)",
  "if: len(filePaths) == 0",
  "return: nil, fmt.Errorf(…)",
  "if: req.Timeout > 0",
  "range: _, filePath := filePaths",
  "return: nil, fmt.Errorf(…)",
  "if: err != nil",
  "continue",
  "if: err != nil",
  "continue",
  "if: parseResult == nil || parseResult.AST == nil",
  "continue",
  "if: parseResult.AST != nil",
  "if: len(allFragments) == 0",
  "return: &domain.CloneResponse{ Clones: []*domain.Clone{}, ClonePairs: []*domain.ClonePair{}, CloneGroups: []*domain.CloneGroup{}, Statistics: &domain.CloneStatistics{ TotalFragments: 0, FilesAnalyzed: filesAnalyzed, LinesAnalyzed: linesAnalyzed, NodesAnalyzed: nodesAnalyzed, }, Request: req, Duration: time.Since(startTime).Milliseconds(), Success: true, }, nil",
  "assign: clonePairs, _ := detector.DetectClonesWithLSH(ctx, allFragments)",
  "assign: clonePairs = s.filterDetectedPairs(clonePairs, req)",
  "assign: cloneGroups := detector.GroupClonePairs(clonePairs)",
  "assign: domainClonePairs := s.convertClonePairsToDomain(clonePairs)",
  "assign: domainCloneGroups := s.convertCloneGroupsToDomain(cloneGroups)",
  "assign: domainClonePairs = s.filterClonePairs(domainClonePairs, req)",
  "assign: domainCloneGroups = s.filterCloneGroups(domainCloneGroups, req)",
  "return: &domain.CloneResponse{ Clones: domainClones, ClonePairs: domainClonePairs, CloneGroups: domainCloneGroups, Statistics: statistics, Request: req, Duration: duration, Success: true, }, nil"
]

def GroupReportFacts_filterDetectedPairs : List String := [
  "assign: filtered := make([]*analyzer.ClonePair, 0, len(pairs))",
  "range: _, pair := pairs",
  "if: pair.Similarity < req.MinSimilarity || pair.Similarity > req.MaxSimilarity",
  "continue",
  "if: !slices.Contains(req.CloneTypes, s.convertCloneType(pair.CloneType))",
  "continue",
  "assign: filtered = append(filtered, pair)",
  "return: filtered"
]


def GroupDetectorFacts_GroupClonePairs : List String := [
  "return: cd.configuredGroupingStrategy().GroupClones(pairs)"
]

def GroupDetectorFacts_configuredGroupingStrategy : List String := [
  "assign: thr := cd.cloneDetectorConfig.GroupingThreshold",
  "if: thr < 0.0",
  "assign: thr = 0.0",
  "if: thr > 1.0",
  "assign: thr = 1.0",
  "assign: k := cd.cloneDetectorConfig.KCoreK",
  "if: k < 2",
  "assign: k = 2",
  "return: CreateGroupingStrategy(GroupingConfig{ Mode: cd.cloneDetectorConfig.GroupingMode, Threshold: thr, KCoreK: k, Type1Threshold: cd.cloneDetectorConfig.Type1Threshold, Type2Threshold: cd.cloneDetectorConfig.Type2Threshold, Type3Threshold: cd.cloneDetectorConfig.Type3Threshold, Type4Threshold: cd.cloneDetectorConfig.Type4Threshold, })"
]

def GroupDetectorFacts_groupClonesWithStrategy : List String := [
  "if: strategy == nil",
  "assign: cd.cloneGroups = []*CloneGroup{}",
  "return",
  "assign: cd.cloneGroups = strategy.GroupClones(cd.clonePairs)"
]

end PV.GroupFactsExpected
