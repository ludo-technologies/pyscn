import PV.Proofs.CFGComplete
/-!
# C02 — the MIRROR of pyscn's CFG builder is complete for structurally dead code, for every program of the fragment

`PV/Model/CFG.lean` is the executable Lean transliteration of `cfg_builder.go` + `reachability.go` + `dead_code.go`; `PV/Model/StructDead.lean`
is the specification of C02 (`structDead`: the statements that FOLLOW, in the same block, a `return` / `raise` / `break` / `continue`, or an
`if/elif/else` all of whose branches END with one).  These theorems are about that mirror, for ALL programs (no bound on size or nesting):

* `C02_mirror_complete` — every structurally dead statement has a located statement record in a block that the mirror's own
  breadth-first search does NOT reach from ENTRY; the only exception are the heads of `elif` clauses (`elifL`): the builder stores the
  test of a converted `elif` with line 0, so an `elif` head inside dead code has no located record (it cannot start a finding).
  `C02_mirror_deadLines` — the same in terms of the mirror's output `deadLines`.
  Fragment `okLC false`: every statement kind incl. `try/except/else/finally` (also `try … finally` nested in a `finally` body, which the
  soundness theorem C01x excludes), `with`, `match`, loop `else`, comprehensions, with two restrictions, both necessary:
  - `break` / `continue` only inside a loop of the same definition: outside a loop `procBrk` / `procCont` keep the current block
    (no edge, no fresh block), so the statements after it stay in a reachable block (`C02_break_outside_loop_needed`);
  - `except` / `case` clauses only as members of `try` / `match`, and only such clauses there: a stray clause is stored as ONE statement
    record, its body gets no records at all (`C02_stray_clause_needed`).
  `C02_fragment_okL3`: the fragment `okL3 false false` of the soundness theorem is included, `C02_mirror_complete_okL3`.
* `C02_target_frame` — the TARGET frame property of the builder (no hypothesis on the program): every edge a
  builder call adds leads into a block allocated during the call, into EXIT, or into a block named by the loop / exception context
  stacks at the start of the call.  (`C01_mirror_frame` is the SOURCE frame property.)  Hence later calls never add an edge into the
  blocks of a finished call: a dead zone stays dead (`C02_dead_zone`).
* `C02_mirror_complete_list` — the statement-list form, for an arbitrary final graph that respects the zone of the list.
* `C02_coverage` — every line of `linesOfL` gets a located record in a block the call owns (except `elif` heads).
-/
namespace PV.C02
open PV.CFG PV.SD PV.CFGSound

theorem C02_mirror_complete (k : Kind) (s e : Nat) (body : List Stmt) (hok : okLC false body = true) :
    ∀ l ∈ structDead body, l ∈ elifL body ∨
      ∃ r ∈ (build k s e body).stmts, r.s = l ∧ r.blk ∉ reachable (build k s e body) :=
  build_complete k s e body hok

theorem C02_mirror_deadLines (k : Kind) (s e : Nat) (body : List Stmt) (hok : okLC false body = true) :
    ∀ l ∈ structDead body, l ∈ elifL body ∨ l ∈ deadLines (build k s e body) :=
  build_complete_deadLines k s e body hok

/-- the fragment of the soundness theorem `C01_mirror_sound` is part of the fragment of the completeness theorem -/
theorem C02_fragment_okL3 (ss : List Stmt) (il f : Bool) (h : okL3 il f ss = true) : okLC il ss = true := okLC_of_okL3 ss il f h

theorem C02_mirror_complete_okL3 (k : Kind) (s e : Nat) (body : List Stmt) (hok : okL3 false false body = true) :
    ∀ l ∈ structDead body, l ∈ elifL body ∨ l ∈ deadLines (build k s e body) :=
  build_complete_deadLines k s e body (okLC_of_okL3 body false false hok)

/-- `C02_mirror_complete` with unreachability stated by the relation `R` instead of the mirror's search -/
theorem C02_dead_not_reported_live (k : Kind) (s e : Nat) (body : List Stmt) (hok : okLC false body = true) :
    ∀ l ∈ structDead body, l ∉ elifL body → ∃ r ∈ (build k s e body).stmts, r.s = l ∧ ¬ R (build k s e body).edges r.blk := by
  intro l hl hne
  rcases build_complete k s e body hok l hl with h | ⟨r, hr, hs, hb⟩
  · exact absurd h hne
  · refine ⟨r, hr, hs, fun hR => hb ?_⟩
    have hwf := build_wf k s e body
    exact reachable_complete _ (by have := hwf.two; omega) hwf.edges hR

/-- **target frame**: every edge added while a statement list is processed leads into a block allocated during the call
(`st.next ≤ target`), into EXIT, or into a block named by the loop / exception stacks at the start of the call
(any `G` that holds of all those, `TG G st`, holds of every new target); the stacks are restored afterwards (`C01_mirror_frame`) -/
theorem C02_target_frame (ss : List Stmt) (st : St) (w : WF st) (G : Nat → Prop) (g : TG G st) :
    ∃ ne, (procList st ss).edges = ne ++ st.edges ∧ ∀ e ∈ ne, G e.2.1 :=
  procList_target ss st w G g

theorem C02_target_frame_stmt (x : Stmt) (st : St) (w : WF st) (G : Nat → Prop) (g : TG G st) :
    ∃ ne, (procStmt st x).edges = ne ++ st.edges ∧ ∀ e ∈ ne, G e.2.1 :=
  procStmt_target x st w G g

/-- the explicit form: a new edge targets a fresh block, EXIT, or a block of the context stacks -/
theorem C02_target_frame_explicit (ss : List Stmt) (st : St) (w : WF st) :
    ∃ ne, (procList st ss).edges = ne ++ st.edges ∧ ∀ e ∈ ne,
      st.next ≤ e.2.1 ∨ e.2.1 = exitB ∨ (∃ l ∈ st.loops, e.2.1 = l.1 ∨ e.2.1 = l.2.1) ∨
        (∃ c ∈ st.excs, c.fin = some e.2.1 ∨ e.2.1 ∈ c.handlers) :=
  procList_target ss st w
    (fun x => st.next ≤ x ∨ x = exitB ∨ (∃ l ∈ st.loops, x = l.1 ∨ x = l.2.1) ∨ (∃ c ∈ st.excs, c.fin = some x ∨ x ∈ c.handlers))
    ⟨fun _ h => .inl h, .inr (.inl rfl), fun l hl => ⟨.inr (.inr (.inl ⟨l, hl, .inl rfl⟩)), .inr (.inr (.inl ⟨l, hl, .inr rfl⟩))⟩,
     fun c hc => ⟨fun _ hf => .inr (.inr (.inr ⟨c, hc, .inl hf⟩)), fun _ hh => .inr (.inr (.inr ⟨c, hc, .inr hh⟩))⟩⟩

/-- **dead zones stay dead**: if the block that is current when a statement list is entered is unreachable in a final graph `E`
that adds no edge into the blocks allocated for the list, then every block the list's processing owns is unreachable in `E` -/
theorem C02_dead_zone (ss : List Stmt) (st : St) (w : WF st) (E : List Edge)
    (hE : ∃ later, E = later ++ (procList st ss).edges ∧ ∀ e ∈ later, e.2.1 < st.next ∨ (procList st ss).next ≤ e.2.1)
    (hd : ¬ R E st.cur) : ∀ x, (x = st.cur ∨ st.next ≤ x) → x < (procList st ss).next → ¬ R E x :=
  zone_dead w (procList_frame ss st w st.cur st.next (Or.inl rfl) (Nat.le_refl _)).1 hE hd

theorem C02_mirror_complete_list (ss : List Stmt) (il : Bool) (st : St) (w : WF st) (hl : il = true → st.loops ≠ []) (hok : okLC il ss = true)
    (E : List Edge) (S : List SRec)
    (hE : ∃ later, E = later ++ (procList st ss).edges ∧ ∀ e ∈ later, e.2.1 < st.next ∨ (procList st ss).next ≤ e.2.1)
    (hS : ∀ r ∈ (procList st ss).stmts, r ∈ S) :
    ∀ l ∈ structDead ss, l ∈ elifL ss ∨ ∃ r ∈ S, r.s = l ∧ ¬ R E r.blk :=
  complete_list ss il st w hl hok E S hE hS

theorem C02_coverage (ss : List Stmt) (il : Bool) (hok : okLC il ss = true) (st : St) (w : WF st) :
    ∀ l ∈ linesOfL ss, l ∈ elifL ss ∨ ∃ r ∈ (procList st ss).stmts, r.s = l ∧ (r.blk = st.cur ∨ st.next ≤ r.blk) :=
  procList_covers ss il hok st w st.cur st.next (Or.inl rfl) (Nat.le_refl _)

/-- `x = 0; return x; a = 1; b = 2` — lines 4 and 5 are dead -/
def exReturn : List Stmt := [.simple 2 2 [] false, .ret 3 3 [] false, .simple 4 4 [] false, .simple 5 5 [] false]
#guard okLC false exReturn
#guard structDead exReturn == [4, 5] && deadLines (build .func 1 5 exReturn) == [5, 4]

/-- `if c: return 1 / else: raise E` followed by `x = 1` — line 7 is dead -/
def exIfElse : List Stmt := [.ite 2 6 [.ret 3 3 [] false] [.elsec 4 6 [.raise 5 5]], .simple 7 7 [] false]
#guard okLC false exIfElse
#guard structDead exIfElse == [7] && deadLines (build .func 1 7 exIfElse) == [7]

/-- `if / elif / else`, every branch ending in a terminator, followed by a statement and a loop whose body has code after `continue` -/
def exChain : List Stmt :=
  [.ite 2 9 [.simple 3 3 [] false, .ret 4 4 [] false] [.elifc 5 9 [.raise 6 6] [.elsec 7 9 [.ret 8 8 [] false]]],
   .simple 10 10 [] false, .loop 11 14 [.cont 12 12, .simple 13 13 [] false] []]
#guard okLC false exChain
#guard (structDead exChain).all (· ∈ deadLines (build .func 1 14 exChain)) && (deadLines (build .func 1 14 exChain)).all (· ∈ structDead exChain)
#guard structDead exChain == [10, 11, 12, 13, 13]

/-- dead code in a `try` body and in a handler -/
def exTry : List Stmt :=
  [.try_ 2 9 [.raise 3 3, .simple 4 4 [] false] [.handler 5 7 [.ret 6 6 [] false, .simple 7 7 [] false]] [] [.simple 9 9 [] false],
   .simple 10 10 [] false]
#guard okLC false exTry
#guard structDead exTry == [4, 7] && deadLines (build .func 1 10 exTry) == [7, 4]

/-- the exemption is needed: an `elif` head (line 5) inside dead code has only a record with line 0 -/
def exElifHead : List Stmt := [.ret 2 2 [] false, .ite 3 6 [.simple 4 4 [] false] [.elifc 5 6 [.simple 6 6 [] false] []]]
#guard okLC false exElifHead
#guard structDead exElifHead == [3, 4, 5, 6] && deadLines (build .func 1 6 exElifHead) == [6, 0, 4, 3] && elifL exElifHead == [5]

/-- the restriction on `break` is needed: at module level `break` (outside any loop) keeps the current block, line 3 stays live -/
def exBreak : List Stmt := [.brk 2 2, .simple 3 3 [] false]
#guard okLC false exBreak == false
#guard structDead exBreak == [3] && deadLines (build .module 1 3 exBreak) == [] && elifL exBreak == []
theorem C02_break_outside_loop_needed :
    ∃ body : List Stmt, ∃ l ∈ structDead body, l ∉ elifL body ∧ l ∉ deadLines (build .module 1 3 body) := by
  have t1 : 3 ∈ structDead exBreak := by
    simp [exBreak, structDead_eq', deadInBlock_cons, stops, isTerm, linesOfL_cons, linesOfL_nil, linesOf_simple, subDead_cons, subDead_nil,
      inStmt_brk, inStmt_simple]
  have t2 : 3 ∉ elifL exBreak := by simp [exBreak, elifL_cons, elifL_nil, elifS]
  have hst : build .module 1 3 exBreak =
      { next := 2, cur := 0, stmts := [⟨0, 3, 3, .other⟩, ⟨0, 2, 2, .brk⟩], edges := [(0, 1, .normal)],
        unreach := [], loops := [], excs := [] } := by
    simp [exBreak, build, initSt, procList_cons, procList_nil, procStmt_brk, procBrk_eq, procStmt_simple, St.add, St.edge, St.hasSucc, exitB]
  exact ⟨exBreak, 3, t1, t2, by rw [hst]; decide⟩

/-- the restriction on stray clauses is needed: a stray `except` clause is ONE record, its body (line 4) gets none -/
def exStray : List Stmt := [.ret 2 2 [] false, .handler 3 4 [.simple 4 4 [] false]]
#guard okLC false exStray == false
#guard structDead exStray == [3, 4] && deadLines (build .func 1 4 exStray) == [3]

theorem C02_stray_clause_needed :
    ∃ body : List Stmt, ∃ l ∈ structDead body, l ∉ elifL body ∧ l ∉ deadLines (build .func 1 4 body) := by
  have t1 : 4 ∈ structDead exStray := by
    simp [exStray, structDead_eq', deadInBlock_cons, stops, isTerm, linesOfL_cons, linesOfL_nil, linesOf_simple, linesOf_handler, subDead_cons,
      subDead_nil, inStmt_ret, inStmt_handler, inStmt_simple, deadInBlock_nil]
  have t2 : 4 ∉ elifL exStray := by simp [exStray, elifL_cons, elifL_nil, elifS]
  have hst : build .func 1 4 exStray =
      { next := 4, cur := 3, stmts := [⟨3, 3, 4, .other⟩, ⟨2, 2, 2, .ret⟩], edges := [(3, 1, .normal), (2, 1, .ret), (0, 2, .normal)],
        unreach := [3], loops := [], excs := [] } := by
    simp [exStray, build, initSt, procList_cons, procList_nil, procStmt_ret, procRet_eq, procStmt_handler,
      St.add, St.edge, St.hasSucc, St.newBlock, exitB, targetFinallyRet, bumpU, setCur]
  exact ⟨exStray, 4, t1, t2, by rw [hst]; decide⟩

end PV.C02

#print axioms PV.C02.C02_mirror_complete
#print axioms PV.C02.C02_mirror_deadLines
#print axioms PV.C02.C02_target_frame
