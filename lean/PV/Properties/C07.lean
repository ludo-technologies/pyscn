import PV.Model.TED
import PV.Proofs.ZSTed
/-!
# C07 — tree edit distance: upper bound, identity, symmetry, similarity

Theorems about the specification-level model `PV.TED.ted` (the textbook forest-edit-distance
recursion) for EVERY pair of forests and EVERY cost model with the stated symmetry/identity
assumptions.  That the mirror of pyscn's Zhang–Shasha implementation computes `ted` is proved in
`C07x.lean`, that `ted` is the minimum over all edit SCRIPTS (Tai's theorem) in `C07y.lean`; the
mirror is tied to the Go code by the correspondence check.  See DESIGN.md §4 C07.
-/
namespace PV.C07
open PV.TED PV.ZSProof

theorem delAllL_append (c : Cost) (a b : List Tree) : delAllL c (a ++ b) = delAllL c a + delAllL c b := by
  induction a with
  | nil => simp [delAllL]
  | cons t ts ih => simp [delAllL, ih]; omega
theorem delAllL_reverse (c : Cost) (a : List Tree) : delAllL c a.reverse = delAllL c a := by
  induction a with
  | nil => rfl
  | cons t ts ih => simp [delAllL, delAllL_append, ih]; omega
theorem insAllL_append (c : Cost) (a b : List Tree) : insAllL c (a ++ b) = insAllL c a + insAllL c b := by
  induction a with
  | nil => simp [insAllL]
  | cons t ts ih => simp [insAllL, ih]; omega
theorem insAllL_reverse (c : Cost) (a : List Tree) : insAllL c a.reverse = insAllL c a := by
  induction a with
  | nil => rfl
  | cons t ts ih => simp [insAllL, insAllL_append, ih]; omega

theorem ted_nil_right_eq (c : Cost) (F : List Tree) : ted c F [] = delAllL c F := by
  induction F using pop_ind with
  | nil => rw [ted, delAllL]
  | pop a as F ih =>
    rw [ted_cons_nil, ih]
    simp only [delAllL, delAll, delAllL_append, delAllL_reverse]
    omega

theorem ted_nil_left_eq (c : Cost) (G : List Tree) : ted c [] G = insAllL c G := by
  induction G using pop_ind with
  | nil => rw [ted, insAllL]
  | pop b bs G ih =>
    rw [ted_nil_cons, ih]
    simp only [insAllL, insAll, insAllL_append, insAllL_reverse]
    omega

/-- against the empty forest the distance is delete-all / insert-all -/
theorem ted_nil_right (c : Cost) : ∀ (n : Nat) (F : List Tree), sizeL F ≤ n → ted c F [] = delAllL c F :=
  fun _ F _ => ted_nil_right_eq c F
theorem ted_nil_left (c : Cost) : ∀ (n : Nat) (G : List Tree), sizeL G ≤ n → ted c [] G = insAllL c G :=
  fun _ G _ => ted_nil_left_eq c G

/-- **C07 (upper bound).** The distance never exceeds delete-all plus insert-all. -/
theorem C07_upper (c : Cost) (F G : List Tree) : ted c F G ≤ delAllL c F + insAllL c G := by
  have := ted_append_le c [] G F []
  rwa [List.append_nil, List.nil_append, ted_nil_right_eq, ted_nil_left_eq] at this

theorem ted_self (c : Cost) (h : ∀ a, c.ren a a = 0) (F : List Tree) : ted c F F = 0 := by
  suffices ∀ F G, F = G → ted c F G = 0 from this F F rfl
  intro F G
  induction F, G using ted_ind with
  | nil => intro _; rw [ted]
  | del | ins => intro e; cases e
  | both a as F b bs G _ _ ih3 ih4 =>
    intro e; cases e
    have := ted_match_le c a as F a as F
    rwa [ih3 rfl, ih4 rfl, h a, Nat.le_zero] at this

/-- **C07 (identity).** If relabelling a node to itself is free, every forest (of any size) is at
distance 0 from itself. -/
theorem C07_self (c : Cost) (h : ∀ a, c.ren a a = 0) : ∀ (n : Nat) (F : List Tree), sizeL F ≤ n → ted c F F = 0 :=
  fun _ F _ => ted_self c h F

theorem C07_self_tree (c : Cost) (h : ∀ a, c.ren a a = 0) (t : Tree) : dist c t t = 0 :=
  ted_self c h [t]

def Symmetric (c : Cost) : Prop := (∀ a, c.del a = c.ins a) ∧ (∀ a b, c.ren a b = c.ren b a)

/-- **C07 (symmetry).** For a symmetric cost model the distance is symmetric. -/
theorem C07_symm (c : Cost) (hs : Symmetric c) (F G : List Tree) : ted c F G = ted c G F := by
  induction F, G using ted_ind with
  | nil => rfl
  | del a as F ih => rw [ted_cons_nil, ted_nil_cons, ih, hs.1 a]
  | ins b bs G ih => rw [ted_cons_nil, ted_nil_cons, ih, hs.1 b]
  | both a as F b bs G ih1 ih2 ih3 ih4 =>
    rw [ted_cons_cons, ted_cons_cons c b bs G a as F, ih1, ih2, ih3, ih4, hs.1 a, ← hs.1 b, hs.2 a b]
    exact Nat.min_left_comm ..

/-- **C07 (similarity).** The derived similarity is a fraction in [0,1]; it is 1 at distance 0. -/
theorem C07_similarity (unit d n₁ n₂ : Nat) :
    (similarity unit d n₁ n₂).1 ≤ (similarity unit d n₁ n₂).2 ∧ 0 < (similarity unit d n₁ n₂).2 ∨ (max n₁ n₂ * unit = 0) := by
  unfold similarity
  simp only []
  split
  · left; simp
  · by_cases hu : max n₁ n₂ * unit = 0
    · right; exact hu
    · left; constructor
      · exact Nat.sub_le _ _
      · omega

theorem C07_similarity_self (unit n₁ n₂ : Nat) : (similarity unit 0 n₁ n₂).1 = (similarity unit 0 n₁ n₂).2 := by
  unfold similarity
  simp only []
  split <;> simp

/-- non-vacuity / sanity: a concrete pair under the unit cost model (swapping two leaves
labelled 1 and 2 costs 2) -/
example : dist ⟨fun _ => 1, fun _ => 1, fun a b => if a = b then 0 else 1⟩
    (.node 0 [.node 1 [], .node 2 []]) (.node 0 [.node 2 [], .node 1 []]) = 2 := by
  simp [dist, ted]

end PV.C07
