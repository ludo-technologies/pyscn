import PV.Properties.C02y
import PV.Proofs.CFGRangesC02ElifTop
/-!
# C02 (extension) — EVERY structurally dead line lies inside a reported range: no exemption for the heads of `elif` clauses

C02y proves that a structurally dead line (`structDead`) is the head of an `elif` clause (`elifL`) or lies inside a range
`start of the oldest record … end of the newest record` reported by `findings (build k s e body)` for an unreachable block.  The
exemption is there because the builder stores the test of a converted `elif` with location `0..0`: the head line of an `elif`
clause has no record of its own.  This file removes the exemption:

* `C02_ranges_complete_all` (all kinds of definitions, `WFDef`) / `C02_ranges_complete_all_fn` (functions and modules, `WFLoc`) /
  `C02_ranges_complete_all'` (hypotheses spelled out): for every `l ∈ structDead body` there is a finding `f` with `f.s ≤ l ≤ f.e`.
  Hypotheses: exactly those of C02y — `okLC false` (the fragment of the record-level theorem), `noSEL` (no STANDALONE `elif` clause;
  necessary, `ryStandalone` in C02y) and well-formed source spans `WFDef` (necessary for `elif` heads: `rzBadSpan` below).  No
  further condition (`okEL` is NOT needed).

**How an `elif` head is covered.**  A structurally dead `elif` head `l` lies inside the span `s₀ … e₀` of an `if` statement of the
body whose own start line `s₀` is structurally dead and is not an `elif` head (`C02_elif_head_in_dead_if`, static).  The record-level
theorem gives a record `r` with `r.s = s₀` in an unreachable block; `r` is the test record of that `if` statement: `r.e = e₀`, and `r`
is the NEWEST record of its block in the final record list (`C02_if_test_newest`), so the range reported for that block ends at `e₀`
(`C02_ranges_cover_span`, C02y) and contains `l`.

**The builder invariant** (`C02_if_test_invariant`; `procList_jp` in `PV/Proofs/CFGRangesC02ElifTop.lean`).  Fix a line `t ≠ 0` at which no
statement other than an `if` statement `t … e` starts (`UT t e (tlL ss)`; `tlL`: the tagged header lines of all statements, tag `0` for
`if`, `2` for `elif`, `1` for the others).  `JP t e st`: every record of `st.stmts` that starts at `t` ends at `e` and is the newest
record of its block (`NW t e`), and no record that starts at `t` is in the CURRENT block.  `procList` preserves `JP t e` from every
well-formed state, WITHOUT any fragment condition.  This is read off the record trace of the builder (`Tr`, `PV/Proofs/CFGTrace.lean`;
every call follows it, `tr_run`): seen from the record list the builder only stores a record in the current block or makes a block
WITHOUT records current, and right after the test of an `if` it does the latter (rule `test`), so the test stays the newest record of
its block (`Tr.jp`).  An `if` that is the single element of an `orelse` list (processed like an `elif` with a located test) falls
under the same rule.

**The static facts** (`PV/Proofs/CFGRangesDefs.lean`, `CFGRangesC02ElifTop.lean`, `…Dead.lean`).  Under `wfL p body` the tagged lines `tlL body`
(pre-order) are strictly increasing in the start line (`C02_lines_distinct`: one statement per line), so the line of an `if`
statement is not the line of any other statement and not an `elif` head (`UT`).  `structDead_alt`: under `noSEL`, a structurally
dead line is the start of a located statement, or lies in the span of an `if` statement whose start line is structurally dead (an
`elif` head only enters `structDead` through `linesOf y` of a dead statement `y` that contains the whole chain, `if` included).
-/
namespace PV.C02
open PV.CFG PV.SD PV.CFGSound

/-- **C02 for the reported ranges, no exemption**: every structurally dead line — heads of `elif` clauses included — lies inside a
range reported by the dead-code detector of the mirror -/
theorem C02_ranges_complete_all (k : Kind) (s e : Nat) (body : List Stmt) (hok : okC2 body = true) (hwf : WFDef k s e body) :
    ∀ l ∈ structDead body, ∃ f ∈ findings (build k s e body), f.s ≤ l ∧ l ≤ f.e := by
  unfold okC2 at hok
  rw [Bool.and_eq_true] at hok
  exact mirror_ranges_complete_all k s e body hok.1 hok.2 hwf

/-- the same with the two parts of the fragment as separate hypotheses (`okC2` unfolded) -/
theorem C02_ranges_complete_all' (k : Kind) (s e : Nat) (body : List Stmt) (hok : okLC false body = true) (hno : noSEL body = true)
    (hwf : WFDef k s e body) :
    ∀ l ∈ structDead body, ∃ f ∈ findings (build k s e body), f.s ≤ l ∧ l ≤ f.e :=
  mirror_ranges_complete_all k s e body hok hno hwf

/-- for functions and modules `WFLoc body` is all that is needed -/
theorem C02_ranges_complete_all_fn (k : Kind) (hk : k ≠ .cls) (s e : Nat) (body : List Stmt) (hok : okC2 body = true) (hwf : WFLoc body) :
    ∀ l ∈ structDead body, ∃ f ∈ findings (build k s e body), f.s ≤ l ∧ l ≤ f.e :=
  C02_ranges_complete_all k s e body hok (WFDef.of_wfloc s e hk hwf)

/-- **the test record of an `if` statement is the newest record of its block**: in the final record list of a well-formed
definition (`stmts = a ++ r :: c`, newest first), a record `r` that starts at the line `s₀` of an `if` statement `s₀ … e₀` of the body
(`(s₀, e₀, 0) ∈ tlL body`, at any depth; also an `if` that is the single element of an `orelse` list) ends at `e₀`, and no newer
record (`a`) is in its block.  No fragment condition (`okLC`, `noSEL`) is needed -/
theorem C02_if_test_newest (k : Kind) (s e : Nat) (body : List Stmt) (hwf : WFDef k s e body) {s₀ e₀ : Nat}
    (hif : (s₀, e₀, 0) ∈ tlL body) {a c : List SRec} {r : SRec} (hL : (build k s e body).stmts = a ++ r :: c) (hr : r.s = s₀) :
    r.e = e₀ ∧ ∀ x ∈ a, x.blk ≠ r.blk :=
  build_if_test_newest k s e body hwf hif hL hr

/-- the same without well-formedness of the spans, from its actual premise: no statement other than an `if` statement `t … q` starts
at line `t ≠ 0` (and `t` is not the header line of the class) -/
theorem C02_if_test_newest_of_unique (k : Kind) (s e : Nat) (body : List Stmt) (t q : Nat) (ht : t ≠ 0) (hu : UT t q (tlL body))
    (hk : k = .cls → s ≠ t) : NW t q (build k s e body).stmts :=
  build_nw k s e body t q ht hu hk

/-- **the builder invariant** for statement lists, from every well-formed builder state and for EVERY program (no fragment
condition): `JP t e` — every record that starts at `t` ends at `e` and is the newest record of its block, and none is in the current
block — is preserved -/
theorem C02_if_test_invariant (t e : Nat) (ht : t ≠ 0) (ss : List Stmt) (st : St) (w : WF st) (hu : UT t e (tlL ss)) (h : JP t e st) :
    JP t e (procList st ss) :=
  procList_jp t e ss st ht w hu h

/-- the reading of `NW`: no newer record is in the block of a record that starts at `t` -/
theorem C02_NW_split {t e : Nat} {L : List SRec} (h : NW t e L) {a c : List SRec} {r : SRec} (hL : L = a ++ r :: c) (hr : r.s = t) :
    r.e = e ∧ ∀ x ∈ a, x.blk ≠ r.blk :=
  h.split hL hr

/-- **one statement per line**: two tagged lines of a well-formed list with the same start line are the same -/
theorem C02_lines_distinct (ss : List Stmt) (p : Nat) (hw : wfL p ss = true) :
    ∀ x ∈ tlL ss, ∀ y ∈ tlL ss, x.1 = y.1 → x = y :=
  tl_unique ss p hw

/-- **static part**: a structurally dead `elif` head lies inside the span `s₀ … e₀` of an `if` statement of the body whose start
line `s₀` is structurally dead and is not the head of an `elif` clause -/
theorem C02_elif_head_in_dead_if (body : List Stmt) (p : Nat) (hw : wfL p body = true) (hno : noSEL body = true) (l : Nat)
    (hl : l ∈ structDead body) (hel : l ∈ elifL body) :
    ∃ s₀ e₀, (s₀, e₀, 0) ∈ tlL body ∧ s₀ ∈ structDead body ∧ s₀ ∉ elifL body ∧ s₀ ≤ l ∧ l ≤ e₀ :=
  elif_head_in_dead_if body p hw hno l hl hel

/-! ### evaluated examples -/

/-- executable form of `NW t q L` -/
def nwB (t q : Nat) : List SRec → Bool
  | [] => true
  | r :: L => nwB t q L && (r.s != t || r.e == q) && L.all (fun x => x.s != t || x.blk != r.blk)

/-- every `if` statement of the body has its test record as the newest record of its block -/
def ifTestsNewest (body : List Stmt) (st : St) : Bool := (tlL body).all (fun x => x.2.2 != 0 || nwB x.1 x.2.1 st.stmts)

/-- the `if` statements (start, end) of a body -/
def ifsOf (body : List Stmt) : List (Nat × Nat) := (tlL body).filterMap (fun x => if x.2.2 == 0 then some (x.1, x.2.1) else none)

/-- a chain with two `elif` clauses and `else` in dead code: both `elif` heads (6, 8) are covered by the range `4 … 11` of the block
of the dead `if` test
```
2  def f(x):
3      return 0
4      if a:            # dead   range 4 … 11
5          p = 1
6      elif b:          # `elif` head
7          p = 2
8      elif c:          # `elif` head
9          p = 3
10     else:
11         p = 4
12     q = p            # dead
``` -/
def rzChain : List Stmt :=
  [.ret 3 3 [] false,
   .ite 4 11 [.simple 5 5 [] false]
     [.elifc 6 11 [.simple 7 7 [] false] [.elifc 8 11 [.simple 9 9 [] false] [.elsec 10 11 [.simple 11 11 [] false]]]],
   .simple 12 12 [] false]
#guard okC2 rzChain && wfloc1 rzChain
#guard structDead rzChain == [4, 5, 6, 7, 8, 9, 11, 12] && elifL rzChain == [6, 8] && ifsOf rzChain == [(4, 11)]
#guard rangesOf (findings (build .func 2 12 rzChain)) == [(4, 11), (5, 5), (12, 12), (0, 0), (7, 7), (0, 0), (9, 9), (11, 11)]
#guard covered (structDead rzChain) (findings (build .func 2 12 rzChain))
#guard ifTestsNewest rzChain (build .func 2 12 rzChain)

/-- chains nested in dead `try` / `except` / `finally` code inside a loop, a chain in the `else` branch of a dead `if`, and a chain
whose `elif` then-branch contains another chain
```
2  while c:
3      break
4      try:                      # dead (a `try` has no record)
5          if a:                 # dead   range 5 … 8
6              x = 1
7          elif b:               # `elif` head
8              x = 2
9      except E:                 # dead
10         if p:                 # dead
11             y = 1
12         else:
13             if q:             # dead   range 13 … 19
14                 y = 2
15             elif r:           # `elif` head
16                 if u:         # dead   range 16 … 19
17                     y = 3
18                 elif v:       # `elif` head
19                     y = 4
20             z = 0             # dead (after the chain, still in the `else` branch of line 10)
21     finally:
22         w = 1                 # dead
``` -/
def rzNested : List Stmt :=
  [.loop 2 22
    [.brk 3 3,
     .try_ 4 22
       [.ite 5 8 [.simple 6 6 [] false] [.elifc 7 8 [.simple 8 8 [] false] []]]
       [.handler 9 20
         [.ite 10 20 [.simple 11 11 [] false]
           [.elsec 12 20
             [.ite 13 19 [.simple 14 14 [] false]
                [.elifc 15 19 [.ite 16 19 [.simple 17 17 [] false] [.elifc 18 19 [.simple 19 19 [] false] []]] []],
              .simple 20 20 [] false]]]]
       []
       [.simple 22 22 [] false]]
    []]
#guard okC2 rzNested && wfloc1 rzNested
#guard elifL rzNested == [7, 15, 18] && (elifL rzNested).all (· ∈ structDead rzNested)
#guard ifsOf rzNested == [(5, 8), (10, 20), (13, 19), (16, 19)]
#guard structDead rzNested == [5, 6, 7, 8, 9, 10, 11, 13, 14, 15, 16, 17, 18, 19, 20, 22]
#guard covered (structDead rzNested) (findings (build .func 1 22 rzNested))
#guard ifTestsNewest rzNested (build .func 1 22 rzNested)

/-- an `if` as the single element of an `orelse` list (processed like an `elif` with a LOCATED test) followed by an `elif` clause;
all branches terminate, so the code after the chain is dead as far as the builder is concerned; the whole statement is dead after `raise`
```
3  raise E
4  if a:              # dead   range 4 … 9
5      return 1
6  if b:              # (orelse of line 4, no `else:` wrapper)  dead   range 6 … 9
7      return 2
8  elif c:            # `elif` head: covered by 6 … 9 (and by 4 … 9)
9      return 3
10 t = 0              # dead
``` -/
def rzElseIf : List Stmt :=
  [.raise 3 3,
   .ite 4 9 [.ret 5 5 [] false] [.ite 6 9 [.ret 7 7 [] false] [.elifc 8 9 [.ret 9 9 [] false] []]],
   .simple 10 10 [] false]
#guard okC2 rzElseIf && wfloc1 rzElseIf
#guard structDead rzElseIf == [4, 5, 6, 7, 8, 9, 10] && elifL rzElseIf == [8] && ifsOf rzElseIf == [(4, 9), (6, 9)]
#guard covered (structDead rzElseIf) (findings (build .func 2 10 rzElseIf))
#guard ifTestsNewest rzElseIf (build .func 2 10 rzElseIf)

-- the examples of C02y: the `elif` heads are covered, and every `if` test is the newest record of its block
#guard covered (structDead ryElif) (findings (build .func 2 10 ryElif)) && covered (structDead ryElifNested) (findings (build .func 1 19 ryElifNested))
#guard ifTestsNewest ryElif (build .func 2 10 ryElif) && ifTestsNewest ryElifNested (build .func 1 19 ryElifNested)
#guard ifTestsNewest ryLoopChain (build .func 1 11 ryLoopChain)

/-- a class body (header line 1) with a dead chain -/
def rzCls : List Stmt :=
  [.class_ 2 8 [.ret 3 3 [] false, .ite 4 7 [.simple 5 5 [] false] [.elifc 6 7 [.simple 7 7 [] false] []], .simple 8 8 [] false]]
#guard okC2 rzCls && wfL 2 rzCls
#guard structDead rzCls == [4, 5, 6, 7, 8] && elifL rzCls == [6]
#guard covered (structDead rzCls) (findings (build .cls 1 8 rzCls))
#guard ifTestsNewest rzCls (build .cls 1 8 rzCls)

/-! #### the restrictions are needed -/

/-- **`WFDef` is needed for `elif` heads** (children inside the span of the parent): an `if` statement whose span `4 … 5` does NOT
contain its `elif` clause.  The block of the dead `if` test is reported as `4 … 5`, the `elif` test has the range `0 … 0`: the
structurally dead `elif` head 6 lies in NO reported range
```
3  raise E
4  if a:              # dead, span given as 4 … 5
5      x = 1
6  elif b:            # `elif` head, dead, NOT covered
7      x = 2
``` -/
def rzBadSpan : List Stmt :=
  [.raise 3 3, .ite 4 5 [.simple 5 5 [] false] [.elifc 6 7 [.simple 7 7 [] false] []]]
#guard okC2 rzBadSpan && !wfloc1 rzBadSpan
#guard structDead rzBadSpan == [4, 5, 6, 7] && elifL rzBadSpan == [6]
#guard rangesOf (findings (build .func 2 7 rzBadSpan)) == [(4, 5), (5, 5), (0, 0), (7, 7)]
#guard !covered [6] (findings (build .func 2 7 rzBadSpan))
-- the builder invariant does not depend on the spans: the `if` test is still the newest record of its block
#guard ifTestsNewest rzBadSpan (build .func 2 7 rzBadSpan)

-- `noSEL` is needed: `ryStandalone` (C02y)
#guard !covered [3] (findings (build .func 1 5 ryStandalone)) && !noSEL ryStandalone && okLC false ryStandalone && wfloc1 ryStandalone
#guard 3 ∈ structDead ryStandalone

/-- **one statement per line is needed for the builder invariant** (`UT`): two statements on line 4, a simple statement and an `if`.
The record of the simple statement starts at the line of the `if` statement and is NOT the newest record of its block (the `if` test
is stored after it in the same block) -/
def rzSameLine : List Stmt := [.simple 4 4 [] false, .ite 4 6 [.simple 5 5 [] false] []]
#guard !wfloc1 rzSameLine && ifsOf rzSameLine == [(4, 6)]
#guard !ifTestsNewest rzSameLine (build .func 1 6 rzSameLine)

end PV.C02

#print axioms PV.C02.C02_ranges_complete_all
#print axioms PV.C02.C02_ranges_complete_all'
#print axioms PV.C02.C02_ranges_complete_all_fn
#print axioms PV.C02.C02_if_test_newest
#print axioms PV.C02.C02_if_test_newest_of_unique
#print axioms PV.C02.C02_if_test_invariant
#print axioms PV.C02.C02_lines_distinct
#print axioms PV.C02.C02_elif_head_in_dead_if
