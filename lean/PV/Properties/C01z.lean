import PV.Proofs.CFGSound4
/-!
# C01 (extension 2) — the mirror of pyscn's CFG builder is sound also for `try … finally` nested inside `finally` bodies

`C01_mirror_sound` / `C01_mirror_static` (C01x.lean) hold on the fragment `okL3 false false`, which excludes a `try` with a non-empty
`finally` inside a `finally` body: there `finallyPropagation` links the inner `finally` block to the FIRST outer `finally` whether or
not that one is being processed, while `targetFinally` / `targetFinallyLoop` skip contexts that are being processed.

**Proof**: PV/Proofs/CFGSound4.lean (namespace `PV.CFGSound.S4`), an induction over the builder's calls (`S4.sound_run`); its
header gives the invariant on the exception stack, under which the two notions of "next target" agree up to reachability.

Fragment `okL4 false` = `okL3 false false` without the `inFin` conjunct; everything else identical (`break` / `continue` only inside a
loop of the same definition, `except` / `case` clauses only as members of `try` / `match`).
-/
namespace PV.C01
open PV.CFG PV.Py PV.CFGSound

/-- static form: every line of the summary `sxL` (⊇ `live` up to `elif` heads) has a located record in a block reachable from ENTRY -/
theorem C01_mirror_sound_finally_nested (k : Kind) (s e : Nat) (body : List Stmt) (hok : okL4 false body = true) :
    ∀ l ∈ (sxL body).lines, ∃ r ∈ (build k s e body).stmts, r.s = l ∧ r.blk ∈ reachable (build k s e body) :=
  build_sound4 k s e body hok

/-- against the semantics: every executed line is an `elif` head or has a located record in a reachable block -/
theorem C01_mirror_sound_finally_nested_exec (k : Kind) (s e : Nat) (body : List Stmt) (hok : okL4 false body = true) {o : Out}
    {tr : List Nat} (ex : Exec body o tr) :
    ∀ l ∈ tr, l ∈ (sxL body).skipped ∨ ∃ r ∈ (build k s e body).stmts, r.s = l ∧ r.blk ∈ reachable (build k s e body) :=
  mirror_sound4 k s e body hok ex

/-- in terms of the mirror's own output -/
theorem C01_mirror_live_finally_nested (k : Kind) (s e : Nat) (body : List Stmt) (hok : okL4 false body = true) {o : Out}
    {tr : List Nat} (ex : Exec body o tr) : ∀ l ∈ tr, l ∈ (sxL body).skipped ∨ l ∈ liveLines (build k s e body) := by
  intro l hl
  rcases mirror_sound4 k s e body hok ex l hl with h | ⟨r, hr, hs, hb⟩
  · exact .inl h
  · refine .inr ?_
    unfold liveLines
    exact List.mem_map.mpr ⟨r, List.mem_filter.mpr ⟨hr, by simpa using hb⟩, hs⟩

/-- the static summary covers the semantic over-approximation `live` on the larger fragment -/
theorem C01_live_le_sx_finally_nested (ss : List Stmt) (il : Bool) (hok : okL4 il ss = true) :
    ∀ l ∈ (live ss).lines, l ∈ (sxL ss).lines ∨ l ∈ (sxL ss).skipped :=
  live_le_sx4 ss il hok

theorem C01_okL4_of_okL3 (ss : List Stmt) (il f : Bool) (h : okL3 il f ss = true) : okL4 il ss = true := okL4_of_okL3 ss il f h

/-! ### evaluated examples -/
def covered (n : Nat) (body : List Stmt) : Bool :=
  (sxL body).lines.all (fun l => (liveLines (build .func 1 n body)).contains l)
def ranges' (fs : List Finding) : List (Nat × Nat) := fs.map (fun f => (f.s, f.e))

/-- `try … finally` inside a `finally` body
```
1  def f():
2      try:
3          a()
4      finally:
5          try:
6              b()
7          finally:
8              c()
9          d()
10     e()
``` -/
def exFinFin : List Stmt :=
  [.try_ 2 9 [.simple 3 3 [] false] [] [] [.try_ 5 8 [.simple 6 6 [] false] [] [] [.simple 8 8 [] false], .simple 9 9 [] false],
   .simple 10 10 [] false]
#guard okL4 false exFinFin && !okL3 false false exFinFin
#guard (sxL exFinFin).lines == [3, 6, 8, 9, 10] && covered 10 exFinFin && ranges' (findings (build .func 1 10 exFinFin)) == []

/-- inside a loop, `break` in the inner `finally`; the statement after the inner `try` is dead
```
1  def f():
2      for x in xs:
3          try:
4              a()
5          finally:
6              try:
7                  b()
8              finally:
9                  break
10             c()          # dead
11     d()
``` -/
def exFinLoopBrk : List Stmt :=
  [.loop 2 10 [.try_ 3 10 [.simple 4 4 [] false] [] []
      [.try_ 6 9 [.simple 7 7 [] false] [] [] [.brk 9 9], .simple 10 10 [] false]] [],
   .simple 11 11 [] false]
#guard okL4 false exFinLoopBrk && !okL3 false false exFinLoopBrk
#guard (sxL exFinLoopBrk).lines == [2, 4, 7, 9, 11] && covered 11 exFinLoopBrk
#guard ranges' (findings (build .func 1 11 exFinLoopBrk)) == [(10, 10)]

/-- `return` in the inner `try` body
```
1  def f():
2      try:
3          a()
4      finally:
5          try:
6              return 1
7          finally:
8              c()
9          d()
10     e()
``` -/
def exFinRet : List Stmt :=
  [.try_ 2 9 [.simple 3 3 [] false] [] [] [.try_ 5 8 [.ret 6 6 [] false] [] [] [.simple 8 8 [] false], .simple 9 9 [] false],
   .simple 10 10 [] false]
#guard okL4 false exFinRet && !okL3 false false exFinRet
#guard (sxL exFinRet).lines == [3, 6, 8, 9, 10] && covered 10 exFinRet

/-- three levels, `raise` in the innermost `try` body
```
1  def f():
2      try:
3          a()
4      finally:
5          try:
6              b()
7          finally:
8              try:
9                  raise E
10             finally:
11                 c()
12     d()
``` -/
def exFin3 : List Stmt :=
  [.try_ 2 11 [.simple 3 3 [] false] [] []
     [.try_ 5 11 [.simple 6 6 [] false] [] [] [.try_ 8 11 [.raise 9 9] [] [] [.simple 11 11 [] false]]],
   .simple 12 12 [] false]
#guard okL4 false exFin3 && !okL3 false false exFin3
#guard (sxL exFin3).lines == [3, 6, 9, 11, 12] && covered 12 exFin3

/-- handlers on both levels, `continue` in the inner handler, inside a loop
```
1  def f():
2      for x in xs:
3          try:
4              a()
5          except A:
6              raise
7          finally:
8              try:
9                  b()
10             except B:
11                 continue
12             finally:
13                 c()
14     d()
``` -/
def exFinHs : List Stmt :=
  [.loop 2 13 [.try_ 3 13 [.simple 4 4 [] false] [.handler 5 6 [.raise 6 6]] []
      [.try_ 8 13 [.simple 9 9 [] false] [.handler 10 11 [.cont 11 11]] [] [.simple 13 13 [] false]]] [],
   .simple 14 14 [] false]
#guard okL4 false exFinHs && !okL3 false false exFinHs
#guard (sxL exFinHs).lines == [2, 4, 5, 6, 9, 10, 11, 13, 14] && covered 14 exFinHs

#guard okL3 false false [.try_ 2 5 [.ret 3 3 [] false] [] [] [.simple 5 5 [] false]] &&
  okL4 false [.try_ 2 5 [.ret 3 3 [] false] [] [] [.simple 5 5 [] false]]

end PV.C01

#print axioms PV.C01.C01_mirror_sound_finally_nested
#print axioms PV.C01.C01_mirror_sound_finally_nested_exec
#print axioms PV.C01.C01_mirror_live_finally_nested
#print axioms PV.C01.C01_live_le_sx_finally_nested
#print axioms PV.C01.C01_okL4_of_okL3
