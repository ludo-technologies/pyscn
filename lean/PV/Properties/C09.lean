import PV.Proofs.CloneBatchLemmas
import PV.Properties.CloneFactsExpected
import PV.Generated.CloneLoopFacts
import PV.Generated.LSHFacts
import PV.Generated.MinHashFacts
/-!
# C09 — LSH and batching never invent pairs and never lose exact duplicates

Theorems over `PV.Clone`.  The hash family `hs`, the band-key hash `kh`, the measurement `cmp`, the candidate relation
and the similarity estimate are universally quantified wherever the statement does not depend on them.
-/
namespace PV.C09
open PV PV.Clone PV.MA

variable {F : Type} [MonoArith F]

/-- **LSH never invents a pair**: for ANY candidate relation and ANY estimate, every pair the LSH path verifies and keeps is a
pair the exhaustive comparison reports, with the same orientation, similarity, distance and type. -/
theorem C09_lsh_sound (c : Cfg F) (fr : Nat → Frag) (cmp : Cmp F) (n : Nat) (cand : Nat → Nat → Bool) (est : Nat → Nat → F) (thr : F)
    (p : Pair F) (hp : p ∈ sortTrunc c.maxPairs (lshDetect c fr cmp n cand est thr)) : p ∈ standard c fr cmp n := by
  have h1 : p ∈ lshDetect c fr cmp n cand est thr := mem_sortDesc.mp (List.mem_of_mem_take hp)
  unfold lshDetect lshCandPairs at h1
  obtain ⟨ij, hij, hmk⟩ := List.mem_filterMap.mp h1
  exact List.mem_filterMap.mpr ⟨ij, (List.mem_filter.mp hij).1, hmk⟩

/-- **Signatures are functions of the feature SET** (order and multiplicity of features do not matter), for any hash family. -/
theorem C09_sig_set (hs : List (Nat → Nat)) (top : Nat) (f₁ f₂ : List Nat) (h : ∀ x, x ∈ f₁ ↔ x ∈ f₂) :
    signature hs top f₁ = signature hs top f₂ := by
  unfold signature
  have he : f₁.isEmpty = f₂.isEmpty := by
    rw [Bool.eq_iff_iff, List.isEmpty_iff, List.isEmpty_iff, List.eq_nil_iff_forall_not_mem, List.eq_nil_iff_forall_not_mem]
    exact forall_congr' fun x => not_congr (h x)
  rw [he]
  split
  · rfl
  · exact List.map_congr_left fun g _ => minOver_congr g top h

/-- at least one band exists whenever the signature is not empty (it never is: `NewMinHasher` uses 128 hashes when asked for ≤ 0).
`effBands` mirrors the code that keeps one band in the region `hashes < rows` (finding F18: with no band there every pair was lost). -/
theorem C09_effBands_pos (bands rows : Int) (total : Nat) (h : 0 < total) : 0 < effBands bands rows total := by
  unfold effBands effRows
  simp only
  have hb : 0 < (if bands ≤ 0 then 32 else bands.toNat) := by split <;> omega
  have hr : 0 < (if rows ≤ 0 then 4 else rows.toNat) := by split <;> omega
  generalize (if rows ≤ 0 then 4 else rows.toNat) = r at hr ⊢
  refine Nat.lt_min.mpr ⟨hb, Nat.div_pos ?_ ?_⟩
  · split <;> omega
  · split <;> omega

/-- equal signatures share a band key as soon as one band exists -/
theorem C09_cand_of_eq_sig (kh : List Nat → Nat) (bands rows : Int) (sigs : Nat → List Nat) (i j : Nat)
    (heq : sigs i = sigs j) (hb : 0 < effBands bands rows (sigs i).length) :
    isCand kh bands rows sigs i j = true := by
  unfold isCand
  rw [← heq]
  rw [List.any_eq_true]
  have hmem : (0, kh (((sigs i).drop (0 * effRows rows (sigs i).length)).take (effRows rows (sigs i).length))) ∈ bandKeys kh bands rows (sigs i) := by
    unfold bandKeys
    exact List.mem_map.mpr ⟨0, List.mem_range.mpr hb, rfl⟩
  exact ⟨_, hmem, by simpa using hmem⟩

/-- **LSH never loses an exact duplicate**: if two fragments have the same feature set (structurally identical fragments do) and the exhaustive comparison reports the pair, then the LSH path verifies and keeps it too (up to the pair limit). -/
theorem C09_lsh_dups (c : Cfg F) (fr : Nat → Frag) (cmp : Cmp F) (n : Nat)
    (hs : List (Nat → Nat)) (top : Nat) (kh : List Nat → Nat) (bands rows : Int) (thr : F) (feats : Nat → List Nat)
    (p : Pair F) (hp : p ∈ standard c fr cmp n)
    (hfe : ∀ x, x ∈ feats p.i ↔ x ∈ feats p.j) (hne : 0 < hs.length) :
    p ∈ lshDetect c fr cmp n (isCand kh bands rows fun k => signature hs top (feats k))
      (fun a b => estimate (signature hs top (feats a)) (signature hs top (feats b))) thr := by
  obtain ⟨hij, hjn, hmk⟩ := mem_standard.mp hp
  have hb : 0 < effBands bands rows hs.length := C09_effBands_pos bands rows hs.length hne
  have hsig : signature hs top (feats p.i) = signature hs top (feats p.j) := C09_sig_set hs top _ _ hfe
  have hlen : (signature hs top (feats p.i)).length = hs.length := by unfold signature; split <;> simp
  unfold lshDetect
  refine List.mem_filterMap.mpr ⟨(p.i, p.j), ?_, hmk⟩
  unfold lshCandPairs
  refine List.mem_filter.mpr ⟨mem_stdPairs.mpr ⟨hij, hjn⟩, ?_⟩
  have hc : isCand kh bands rows (fun k => signature hs top (feats k)) p.i p.j = true :=
    C09_cand_of_eq_sig kh bands rows _ p.i p.j hsig (by simpa [hlen] using hb)
  have he : (estimate (signature hs top (feats p.i)) (signature hs top (feats p.j)) : F) = Arith.lit 1 1 := by
    rw [← hsig]; exact estimate_self (by rw [hlen]; exact hne)
  simp only [hc, Bool.true_or, Bool.true_and, he, Bool.not_eq_true', decide_eq_false_iff_not]
  exact MA.not_lt.mpr (clampThr_le_one thr)

/-- **Batching visits every unordered pair of different fragments, in exactly one orientation.** -/
theorem C09_batch_cover (n bs : Nat) (hbs : 0 < bs) :
    (∀ i j, (i, j) ∈ batchPairs n bs → i < n ∧ j < n ∧ i ≠ j) ∧
    (∀ u v, u < n → v < n → u ≠ v → ((u, v) ∈ batchPairs n bs ∨ (v, u) ∈ batchPairs n bs)) ∧
    (∀ u v, (u, v) ∈ batchPairs n bs → (v, u) ∉ batchPairs n bs) :=
  ⟨fun _ _ h => batchPairs_ne hbs h, fun _ _ hu hv huv => batchPairs_cover hbs hu hv huv, fun _ _ h => batchPairs_not_both hbs h⟩

/-- … and visits no (i, j) twice: together with `C09_batch_cover` every unordered pair is compared exactly once. -/
theorem C09_batch_once (n bs : Nat) (hbs : 0 < bs) : (batchPairs n bs).Nodup := batchPairs_nodup n bs hbs

/-- **Without truncation batched = unbatched**: if the pair limit is not exceeded, the batched detector (any batch size, including the
defaults it substitutes for non-positive arguments) reports exactly the unordered pairs the exhaustive double loop reports, with the
same similarity, distance and type — provided the measurement does not depend on the orientation of a pair. -/
theorem C09_batch_eq (c : Cfg F) (fr : Nat → Frag) (cmp : Cmp F) (n : Nat) (maxPairs0 bs0 : Int)
    (h43 : c.t4 ≤ c.t3) (h32 : c.t3 ≤ c.t2) (h21 : c.t2 ≤ c.t1)
    (hsym : ∀ a b, cmp a b = cmp b a)
    (hnt : ((batchPairs n (if bs0 ≤ 0 then 100 else bs0.toNat)).filterMap fun ij => mkPair c fr cmp ij.1 ij.2).length
            ≤ (if maxPairs0 ≤ 0 then 10000 else maxPairs0.toNat))
    (u v : Nat) (hu : u < n) (hv : v < n) (huv : u ≠ v) (s d : F) (t : Int) :
    ReportedIn (batched c fr cmp n maxPairs0 bs0) u v s d t ↔ ReportedIn (standard c fr cmp n) u v s d t := by
  have hbs : 0 < (if bs0 ≤ 0 then 100 else bs0.toNat) := by split <;> omega
  have hmem : ∀ p, p ∈ batched c fr cmp n maxPairs0 bs0 ↔
      p ∈ (batchPairs n (if bs0 ≤ 0 then 100 else bs0.toNat)).filterMap fun ij => mkPair c fr cmp ij.1 ij.2 :=
    fun p => (batched_perm c fr cmp _ h43 h32 h21 _ hnt).mem_iff
  rw [reported_iff hsym hu hv huv]
  exact reportedIn_iff_core hsym hmem (batchPairs_cover hbs hu hv huv)

/-- whatever the limits, every pair in the running list of the batched fold is `mkPair` of an index pair the loops visit
(invariant of `batchStep`; truncation only drops pairs) -/
theorem C09_batch_sound (c : Cfg F) (fr : Nat → Frag) (cmp : Cmp F) (n : Nat) (maxPairs bs : Nat) (hbs : 0 < bs)
    (hsym : ∀ a b, cmp a b = cmp b a) :
    ∀ (l : List (Nat × Nat)) (st : BState F),
      (∀ p ∈ st.top, ∃ ij ∈ batchPairs n bs, mkPair c fr cmp ij.1 ij.2 = some p) →
      (∀ ij ∈ l, ij ∈ batchPairs n bs) →
      ∀ p ∈ (l.foldl (batchStep c fr cmp maxPairs) st).top, ∃ ij ∈ batchPairs n bs, mkPair c fr cmp ij.1 ij.2 = some p := by
  intro l st hst hl
  refine List.foldlRecOn (motive := fun st : BState F => ∀ p ∈ st.top, ∃ ij ∈ batchPairs n bs, mkPair c fr cmp ij.1 ij.2 = some p)
    l _ hst ?_
  intro st hst ij hij p hp
  rcases batchStep_top c fr cmp maxPairs st ij with h | ⟨q, hm, h⟩
  · exact hst p (h ▸ hp)
  · rcases mem_addPairWithLimit (h ▸ hp) with hq | rfl
    · exact hst p hq
    · exact ⟨ij, hl ij hij, hm⟩

/-- **Auto-activation rule** (the translated `ShouldUseLSH`): explicit "true"/"false" win; otherwise LSH is on from the threshold (500 when 0). -/
theorem C09_lsh_auto (mode : String) (n thr : Int) :
    (mode = "true" → Generated.LSHAuto.ShouldUseLSH F mode n thr = true) ∧
    (mode = "false" → Generated.LSHAuto.ShouldUseLSH F mode n thr = false) ∧
    (mode ≠ "true" → mode ≠ "false" → (Generated.LSHAuto.ShouldUseLSH F mode n thr = true ↔ (if thr = 0 then 500 else thr) ≤ n)) := by
  unfold Generated.LSHAuto.ShouldUseLSH
  refine ⟨fun h => by simp [h], fun h => by simp [h], fun h1 h2 => ?_⟩
  simp only [h1, h2, if_false]
  split <;> simp

/-- **Tie (regenerated).** The batching loops, the running-minimum logic, the LSH stage of the detector, the band-key computation, the
index and the MinHash signature/estimate have exactly the guards, bounds, defaults and tracked assignments the model was written against. -/
theorem C09_facts :
    Generated.CloneLoopFacts.detectClonePairsWithContext = CloneExpected.CloneLoopFacts_detectClonePairsWithContext ∧
    Generated.CloneLoopFacts.detectClonePairsWithBatchingContext = CloneExpected.CloneLoopFacts_detectClonePairsWithBatchingContext ∧
    Generated.CloneLoopFacts.tryCreateClonePair = CloneExpected.CloneLoopFacts_tryCreateClonePair ∧
    Generated.CloneLoopFacts.addPairWithLimit = CloneExpected.CloneLoopFacts_addPairWithLimit ∧
    Generated.CloneLoopFacts.DetectClonesWithLSH = CloneExpected.CloneLoopFacts_DetectClonesWithLSH ∧
    Generated.LSHFacts.NewLSHIndex = CloneExpected.LSHFacts_NewLSHIndex ∧
    Generated.LSHFacts.AddFragment = CloneExpected.LSHFacts_AddFragment ∧
    Generated.LSHFacts.FindCandidates = CloneExpected.LSHFacts_FindCandidates ∧
    Generated.LSHFacts.addToBuckets = CloneExpected.LSHFacts_addToBuckets ∧
    Generated.LSHFacts.computeBandKeys = CloneExpected.LSHFacts_computeBandKeys ∧
    Generated.MinHashFacts.NewMinHasher = CloneExpected.MinHashFacts_NewMinHasher ∧
    Generated.MinHashFacts.generateHashFunctions = CloneExpected.MinHashFacts_generateHashFunctions ∧
    Generated.MinHashFacts.ComputeSignature = CloneExpected.MinHashFacts_ComputeSignature ∧
    Generated.MinHashFacts.EstimateJaccardSimilarity = CloneExpected.MinHashFacts_EstimateJaccardSimilarity :=
  ⟨rfl, rfl, rfl, rfl, rfl, rfl, rfl, rfl, rfl, rfl, rfl, rfl, rfl, rfl⟩

end PV.C09
