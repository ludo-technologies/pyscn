import PV.Proofs.GroupingAlgoContracts
import PV.Proofs.GroupingAlgoStarFuel
/-!
# C10 (extension) — executable MIRRORS of the four remaining grouping algorithms satisfy the contract for ALL inputs

`PV/Model/GroupingAlgo.lean` mirrors `k_core_grouping.go`, `star_medoid_grouping.go`, `complete_linkage_grouping.go` and
`centroid_grouping.go` (connected mode is `C10x.lean`).  This file restates the results proved in
`PV/Proofs/GroupingAlgoKCore.lean`, `PV/Proofs/GroupingAlgoContracts.lean` and `PV/Proofs/GroupingAlgoStarFuel.lean` in the
vocabulary of `C10.lean`.

How the nondeterminism of the Go code is modelled
* **k-core**: the work queue is filled by ranging over the map `degree`, the neighbours are visited by ranging over the
  map `adj[v]`.  Both orders are PARAMETERS: `q0` is any permutation of the low-degree fragments, `nbrs v` any permutation
  of the neighbours of `v` (`MapOrders`).  The theorems hold for every such pair of orders; consequently the result is
  the same for all of them (`C10_kcore_order_independent`).  The second phase of the Go code (components of what
  remains, members sorted) is NOT mirrored: the mirror uses the component function of the specification there.
* **star, complete linkage, centroid**: the Go code ranges over slices only (first appearance / index order), so these
  mirrors are deterministic.  The final `sort.Slice` of the GROUPS by their floating-point average similarity is not
  modelled; the groups are listed in the order of creation and the checkers are shown to be independent of that order
  (`C10_group_order_irrelevant`).  The medoid selection of star mode is a parameter of the contract theorem (any
  selection that returns a member), so the result does not depend on how the float averages are rounded.

Preconditions that are needed (evaluated counter-examples below; for `InRange` in `C10x.lean`)
* k-core = specification needs `NoSelf` (no pair at or above the threshold joins a fragment with itself: the Go code
  counts such a self-loop in `len(adj[v])`, and never removes it) and `InRange` (as in `C10x.lean`);
* star and complete linkage need a POSITIVE threshold: with threshold 0 the test `similarity(…) >= threshold` accepts
  the value 0.0 that `similarity` returns for a pair that was never reported.
-/
namespace PV.C10
open PV.SCC PV.Grouping PV.C11 PV.GroupingAlgo

/-- the two map iteration orders of one run of `KCoreGrouping.GroupClones`: ANY enumeration of the fragments whose
initial degree is below `k`, and for every fragment ANY enumeration of its neighbours -/
structure MapOrders (θ k : Nat) (ps : List Pair) (q0 : List Nat) (nbrs : Nat → List Nat) : Prop where
  queue : q0.Perm (lowDegree θ k ps)
  adj : ∀ v, (nbrs v).Perm (adjOf θ ps v)

/-- the orders the executable default `kcoreGroupsAlgo` uses are one instance -/
theorem C10_kcore_default_orders (θ k : Nat) (ps : List Pair) : MapOrders θ k ps (lowDegree θ k ps) (adjOf θ ps) :=
  ⟨List.Perm.refl _, fun _ => List.Perm.refl _⟩

/-- **The fuel never runs out.** For every map order the peeling loop returns within `number of fragments` pops
(every fragment enters the queue at most once). -/
theorem C10_kcore_queue_total (θ k : Nat) (ps : List Pair) (q0 : List Nat) (nbrs : Nat → List Nat)
    (ho : MapOrders θ k ps q0 nbrs) : ∃ removed, kcoreRemovedWith θ k ps q0 nbrs = some removed :=
  kcoreRemovedWith_total θ k ps q0 nbrs ho.queue ho.adj

def remainingList (ps : List Pair) (removed : List Nat) : List Nat := (nodesOf ps).filter (remaining ps removed)

theorem C10_mem_remainingList {ps : List Pair} {removed : List Nat} {u : Nat} :
    u ∈ remainingList ps removed ↔ remaining ps removed u = true := by
  unfold remainingList
  rw [List.mem_filter]
  exact ⟨fun h => h.2, fun h => ⟨(remaining_iff.mp h).1, h⟩⟩

/-- **What remains is the k-core: the LARGEST set in which every fragment has at least `k` neighbours inside the set.**
For every map order: every remaining fragment has at least `k` remaining neighbours (`degIn` of the specification), and
every duplicate-free set `S` of fragments whose members have at least `k` neighbours inside `S` remains entirely. -/
theorem C10_kcore_queue_largest (θ k : Nat) (ps : List Pair) (q0 : List Nat) (nbrs : Nat → List Nat)
    (hns : NoSelf θ ps) (ho : MapOrders θ k ps q0 nbrs) (removed : List Nat)
    (h : kcoreRemovedWith θ k ps q0 nbrs = some removed) :
    (∀ u ∈ remainingList ps removed, k ≤ degIn θ ps (remainingList ps removed) u) ∧
    (∀ S : List Nat, S.Nodup → (∀ u ∈ S, u ∈ nodesOf ps) → (∀ u ∈ S, k ≤ degIn θ ps S u) →
      ∀ u ∈ S, u ∈ remainingList ps removed) := by
  obtain ⟨hdeg, hmax⟩ := kcoreRemovedWith_spec hns ho.queue ho.adj h
  have hrem : ∀ u, u ∈ remainingList ps removed ↔ u ∈ nodesOf ps ∧ u ∉ removed :=
    fun u => C10_mem_remainingList.trans remaining_iff
  constructor
  · intro u hu
    obtain ⟨huV, hur⟩ := (hrem u).mp hu
    exact hdeg u huV hur _ (fun y hl hyr => (hrem y).mpr ⟨mem_nodesOf.mpr (occurs_of_linked hl).2, hyr⟩)
  · intro S hSnd hSV hSk u hu
    exact (hrem u).mpr ⟨hSV u hu, hmax S hSnd hSk u hu⟩

/-- **The work queue computes the fixed point of the specification's `peel`.** For every map order, both sides
return, and a fragment remains after the queue-driven loop iff it is in the set at which the round-by-round peeling of
the specification stabilises. -/
theorem C10_kcore_queue_eq_peel (n θ k : Nat) (ps : List Pair) (q0 : List Nat) (nbrs : Nat → List Nat)
    (hr : InRange n θ ps) (hns : NoSelf θ ps) (ho : MapOrders θ k ps q0 nbrs) :
    ∃ removed R, kcoreRemovedWith θ k ps q0 nbrs = some removed ∧
      peel θ k ps (n + 1) ((List.range n).filter (occurs ps)) = some R ∧
      ∀ u, u < n → (remaining ps removed u = true ↔ u ∈ R) := by
  obtain ⟨removed, hrem⟩ := kcoreRemovedWith_total θ k ps q0 nbrs ho.queue ho.adj
  obtain ⟨R, hR⟩ := peel_specStart_total n θ k ps
  exact ⟨removed, R, hrem, hR, kcore_queue_eq_peel hr hns ho.queue ho.adj hrem hR⟩

/-- **Mirror = specification (k-core mode).** For every map order the mirror returns exactly `kcoreGroups`: the same
groups, the same order of members, the same order of groups. -/
theorem C10_kcore_algo_eq_spec (n θ k : Nat) (ps : List Pair) (q0 : List Nat) (nbrs : Nat → List Nat)
    (hr : InRange n θ ps) (hns : NoSelf θ ps) (ho : MapOrders θ k ps q0 nbrs) :
    kcoreGroupsWith n θ k ps q0 nbrs = kcoreGroups n θ k ps :=
  kcoreGroupsWith_eq hr hns ho.queue ho.adj

/-- **The result does not depend on the map iteration order**: two runs with different queue orders and different
neighbour orders remove the same fragments (as sets) and report the same groups. No range hypothesis is needed. -/
theorem C10_kcore_order_independent (n θ k : Nat) (ps : List Pair) (hns : NoSelf θ ps)
    (q0 q0' : List Nat) (nbrs nbrs' : Nat → List Nat) (ho : MapOrders θ k ps q0 nbrs) (ho' : MapOrders θ k ps q0' nbrs') :
    (∀ removed removed', kcoreRemovedWith θ k ps q0 nbrs = some removed → kcoreRemovedWith θ k ps q0' nbrs' = some removed' →
      ∀ u, remaining ps removed u = remaining ps removed' u) ∧
    kcoreGroupsWith n θ k ps q0 nbrs = kcoreGroupsWith n θ k ps q0' nbrs' := by
  have key : ∀ removed removed', kcoreRemovedWith θ k ps q0 nbrs = some removed →
      kcoreRemovedWith θ k ps q0' nbrs' = some removed' → ∀ u, remaining ps removed u = remaining ps removed' u := by
    intro removed removed' h h' u
    obtain ⟨a1, a2⟩ := C10_kcore_queue_largest θ k ps q0 nbrs hns ho removed h
    obtain ⟨b1, b2⟩ := C10_kcore_queue_largest θ k ps q0' nbrs' hns ho' removed' h'
    have hnd : ∀ r, (remainingList ps r).Nodup := fun r => (nodup_nodesOf ps).filter _
    have hV : ∀ r, ∀ x ∈ remainingList ps r, x ∈ nodesOf ps := fun r x hx => (List.mem_filter.mp hx).1
    rw [Bool.eq_iff_iff, ← C10_mem_remainingList, ← C10_mem_remainingList]
    exact ⟨b2 _ (hnd _) (hV _) a1 u, a2 _ (hnd _) (hV _) b1 u⟩
  refine ⟨key, ?_⟩
  obtain ⟨removed, h⟩ := C10_kcore_queue_total θ k ps q0 nbrs ho
  obtain ⟨removed', h'⟩ := C10_kcore_queue_total θ k ps q0' nbrs' ho'
  unfold kcoreGroupsWith
  rw [h, h']
  simp only
  congr 2
  funext u
  exact key removed removed' h h' u

/-- the executable default mirror (first-appearance orders, `k` raised to 2 as `NewKCoreGrouping` does) is the specification -/
theorem C10_kcore_algo_default (n θ k : Nat) (ps : List Pair) (hr : InRange n θ ps) (hns : NoSelf θ ps) :
    kcoreGroupsAlgo n θ k ps = kcoreGroups n θ (effK k) ps :=
  C10_kcore_algo_eq_spec n θ (effK k) ps _ _ hr hns (C10_kcore_default_orders θ (effK k) ps)

/-- **k-core mode, contract of the mirror**, for every map order: the mirror returns groups, every member has at least
`k` neighbours inside its group, groups have ≥ 2 members, no repetition, pairwise disjoint. -/
theorem C10_kcore_algo_contract (n θ k : Nat) (ps : List Pair) (q0 : List Nat) (nbrs : Nat → List Nat)
    (hr : InRange n θ ps) (hns : NoSelf θ ps) (ho : MapOrders θ (effK k) ps q0 nbrs) :
    ∃ gs, kcoreGroupsWith n θ (effK k) ps q0 nbrs = some gs ∧
      (∀ g ∈ gs, ∀ u ∈ g, k ≤ degIn θ ps g u) ∧ (∀ g ∈ gs, 2 ≤ g.length ∧ g.Nodup) ∧
      (∀ g₁ ∈ gs, ∀ g₂ ∈ gs, ∀ x, x ∈ g₁ → x ∈ g₂ → g₁ = g₂) := by
  rw [C10_kcore_algo_eq_spec n θ (effK k) ps q0 nbrs hr hns ho]
  obtain ⟨R, hR⟩ := peel_specStart_total n θ (effK k) ps
  unfold specStart at hR
  obtain ⟨gs, hgs⟩ := (C11_total (linkGraph n θ ps (fun u => R.contains u))).1
  have hk : kcoreGroups n θ (effK k) ps = some gs := by unfold kcoreGroups; rw [hR]; exact hgs
  have hc := C10_kcore n θ (effK k) ps gs hk
  exact ⟨gs, hk, C10_kcore_effK n θ k ps gs hk, hc.2.2.1, hc.2.2.2⟩

/-- **Star/medoid mode.** For every input, every positive threshold and every medoid selection that returns a member of
the cluster (in particular the mirror of `findMedoid`), the emitted groups pass `checkStar` and `checkCommon`; hence
(`C10_star_sound`, `C10_common_sound`) every group has a member that is linked at or above the threshold with every
other member, groups have ≥ 2 members, no repetition, and are pairwise disjoint. -/
theorem C10_star_algo_contract (fuel θ : Nat) (ps : List Pair) (hθ : 0 < θ) (medoid : List Nat → Option Nat)
    (hm : MedoidOK medoid) :
    let gs := starGroupsWith fuel θ ps medoid
    checkStar θ ps gs = true ∧ checkCommon gs = true ∧
    (∀ g ∈ gs, ∃ m ∈ g, (∀ u ∈ g, u ≠ m → linked θ ps u m = true) ∧ (∀ u ∈ g, ∀ v ∈ g, Conn θ ps u v)) ∧
    (∀ g ∈ gs, 2 ≤ g.length ∧ g.Nodup) ∧ (∀ g₁ ∈ gs, ∀ g₂ ∈ gs, g₁ ≠ g₂ → ∀ x, x ∈ g₁ → x ∈ g₂ → False) := by
  intro gs
  obtain ⟨h1, h2⟩ := starGroupsWith_contract fuel θ ps medoid hm hθ
  exact ⟨h1, h2, C10_star_sound θ ps gs h1, (C10_common_sound gs h2).1, (C10_common_sound gs h2).2⟩

/-- the mirror of `findMedoid` returns a member (never `nil`) on every cluster of two or more -/
theorem C10_star_findMedoid_member (ps : List Pair) : MedoidOK (findMedoid ps) := findMedoid_ok ps

/-- the star mirror with the mirrored `findMedoid` -/
theorem C10_star_algo_default (n θ : Nat) (ps : List Pair) (hθ : 0 < θ) :
    checkStar θ ps (starGroupsAlgo n θ ps) = true ∧ checkCommon (starGroupsAlgo n θ ps) = true :=
  starGroupsWith_contract n θ ps (findMedoid ps) (findMedoid_ok ps) hθ

/-- the fuel that bounds the recursion of the path-compressing `find` in the star mirror never runs out: with all
fragments below `n`, every fuel `≥ n` yields the same groups as fuel `n` (the union–find invariant of `UFCorrect.lean`
holds throughout the improvement loop) -/
theorem C10_star_fuel (n θ : Nat) (ps : List Pair) (hr : ∀ p ∈ ps, p.u < n ∧ p.v < n) (fuel : Nat) (hf : n ≤ fuel) :
    starGroupsWith fuel θ ps (findMedoid ps) = starGroupsAlgo n θ ps :=
  starGroupsWith_fuel θ ps (findMedoid ps) (findMedoid_mem ps) hr fuel hf

/-- **Complete-linkage mode.** For every input and every positive threshold the emitted groups pass `checkComplete` and
`checkCommon`; hence every two different members of a group are a reported pair at or above the threshold. -/
theorem C10_complete_algo_contract (θ one : Nat) (ps : List Pair) (hθ : 0 < θ) :
    let gs := completeGroupsAlgo θ one ps
    checkComplete θ ps gs = true ∧ checkCommon gs = true ∧
    (∀ g ∈ gs, ∀ u ∈ g, ∀ v ∈ g, u ≠ v → linked θ ps u v = true) ∧
    (∀ g ∈ gs, 2 ≤ g.length ∧ g.Nodup) ∧ (∀ g₁ ∈ gs, ∀ g₂ ∈ gs, g₁ ≠ g₂ → ∀ x, x ∈ g₁ → x ∈ g₂ → False) := by
  intro gs
  obtain ⟨h1, h2⟩ := completeGroupsAlgo_contract θ one ps hθ
  exact ⟨h1, h2, C10_complete_sound θ ps gs h1, (C10_common_sound gs h2).1, (C10_common_sound gs h2).2⟩

/-- the merge loop of complete linkage never stops for lack of fuel: when it returns, no two clusters can be merged -/
theorem C10_complete_fuel (θ one : Nat) (ps : List Pair) :
    bestPair θ one ps (mergeLoop θ one ps (nodesOf ps).length ((nodesOf ps).map (fun f => [f]))) = none :=
  mergeLoop_done θ one ps _ _ (by simp)

/-- **Centroid mode.** For every input and every threshold (zero included) the mirror returns (neither the BFS nor the
seed loop runs out of fuel) and the emitted groups pass `checkLinked` and `checkCommon` — with the `maxGroupSize = 50`
cut-off and the last-duplicate-wins similarity index; hence every member is reached from the seed through reported
pairs at or above the threshold between members of the group. -/
theorem C10_centroid_algo_contract (n θ : Nat) (ps : List Pair) :
    ∃ gs, centroidGroupsAlgo θ ps = some gs ∧ checkLinked n θ ps gs = true ∧ checkCommon gs = true ∧
      (∀ g ∈ gs, ∃ m ∈ g, ∀ v ∈ g, Reach (linkGraph n θ ps (fun u => g.contains u)) m v) ∧
      (∀ g ∈ gs, 2 ≤ g.length ∧ g.Nodup) ∧ (∀ g₁ ∈ gs, ∀ g₂ ∈ gs, g₁ ≠ g₂ → ∀ x, x ∈ g₁ → x ∈ g₂ → False) := by
  obtain ⟨gs, h0, h1, h2⟩ := centroidGroupsAlgo_contract n θ ps
  exact ⟨gs, h0, h1, h2, C10_linked_sound n θ ps gs h1, (C10_common_sound gs h2).1, (C10_common_sound gs h2).2⟩

/-- the final `sort.Slice` of the groups (by average similarity, size, then first member or, in centroid mode, group ID) is not mirrored; it cannot matter:
every checker gives the same verdict on every reordering of the groups -/
theorem C10_group_order_irrelevant (n θ : Nat) (ps : List Pair) (gs gs' : List (List Nat)) (hp : gs'.Perm gs) :
    (checkCommon gs = true → checkCommon gs' = true) ∧ (checkStar θ ps gs = true → checkStar θ ps gs' = true) ∧
    (checkComplete θ ps gs = true → checkComplete θ ps gs' = true) ∧
    (checkLinked n θ ps gs = true → checkLinked n θ ps gs' = true) :=
  ⟨fun h => checkCommon_iff.mpr ⟨fun g hg => (checkCommon_iff.mp h).1 g (hp.mem_iff.mp hg),
      hp.flatten.nodup_iff.mpr (checkCommon_iff.mp h).2⟩,
    fun h => checkStar_iff.mpr (fun g hg => checkStar_iff.mp h g (hp.mem_iff.mp hg)),
    fun h => checkComplete_iff.mpr (fun g hg => checkComplete_iff.mp h g (hp.mem_iff.mp hg)),
    fun h => List.all_eq_true.mpr (fun g hg => List.all_eq_true.mp h g (hp.mem_iff.mp hg))⟩

/-- the members of a group emitted by the mirrors of star and complete linkage are the cluster's, in increasing order:
`sortNat` sorts AND permutes (both halves, despite the name) -/
theorem C10_sortNat_sorted (l : List Nat) : (sortNat l).Pairwise (· ≤ ·) ∧ (sortNat l).Perm l :=
  ⟨sortNat_sorted l, sortNat_perm l⟩

/-- a triangle 0-1-2 with a tail 2-3-4, a square 5-6-7-8 with a diagonal, and a pair below the threshold -/
def demo : List Pair :=
  [⟨3, 4, 90⟩, ⟨0, 1, 90⟩, ⟨1, 2, 80⟩, ⟨0, 2, 70⟩, ⟨2, 3, 90⟩, ⟨5, 6, 90⟩, ⟨6, 7, 90⟩, ⟨7, 8, 90⟩, ⟨8, 5, 90⟩, ⟨5, 7, 60⟩, ⟨4, 5, 10⟩]

-- k-core: mirror = specification, for the default orders and for reversed queue / neighbour orders
#guard kcoreGroupsAlgo 9 50 2 demo == some [[0, 1, 2], [5, 6, 7, 8]]
#guard kcoreGroups 9 50 2 demo == some [[0, 1, 2], [5, 6, 7, 8]]
#guard kcoreGroupsWith 9 50 2 demo (lowDegree 50 2 demo).reverse (fun v => (adjOf 50 demo v).reverse) == some [[0, 1, 2], [5, 6, 7, 8]]
#guard kcoreRemovedWith 50 2 demo (lowDegree 50 2 demo) (adjOf 50 demo) == some [3, 4]
#guard kcoreRemovedWith 50 2 demo (lowDegree 50 2 demo).reverse (adjOf 50 demo) == some [3, 4]
#guard kcoreGroupsAlgo 9 50 3 demo == some [] && kcoreGroups 9 50 3 demo == some []
#guard kcoreGroupsAlgo 9 50 0 demo == kcoreGroups 9 50 2 demo    -- k < 2 is raised to 2
-- a cascade: the path 0-1-2-3 hangs off the triangle 3-4-5; the queue removes 0, then 1, then 2
#guard kcoreRemovedWith 1 2 [⟨0, 1, 1⟩, ⟨1, 2, 1⟩, ⟨2, 3, 1⟩, ⟨3, 4, 1⟩, ⟨4, 5, 1⟩, ⟨5, 3, 1⟩] [0] (adjOf 1 [⟨0, 1, 1⟩, ⟨1, 2, 1⟩, ⟨2, 3, 1⟩, ⟨3, 4, 1⟩, ⟨4, 5, 1⟩, ⟨5, 3, 1⟩]) == some [2, 1, 0]

example : InRange 9 50 demo ∧ NoSelf 50 demo := by
  unfold InRange NoSelf
  decide +kernel

/-- `NoSelf` cannot be dropped: a pair of a fragment with itself is a self-loop in the Go adjacency map, it is counted in
`len(adj[v])` and never removed, so the ends of the path 0-1-2 keep degree 2; the specification (and the property) count
neighbours OTHER than the fragment itself -/
example : kcoreGroupsAlgo 3 1 2 [⟨0, 0, 1⟩, ⟨0, 1, 1⟩, ⟨1, 2, 1⟩, ⟨2, 2, 1⟩] = some [[0, 1, 2]] ∧
    kcoreGroups 3 1 2 [⟨0, 0, 1⟩, ⟨0, 1, 1⟩, ⟨1, 2, 1⟩, ⟨2, 2, 1⟩] = some [] := by decide +kernel

-- star, complete linkage, centroid on the same input: the checkers accept
#guard starGroupsAlgo 9 50 demo == [[2, 3, 4], [0, 1], [5, 6, 7, 8]] && checkStar 50 demo (starGroupsAlgo 9 50 demo) && checkCommon (starGroupsAlgo 9 50 demo)
#guard completeGroupsAlgo 50 100 demo == [[3, 4], [0, 1, 2], [5, 6], [7, 8]]
#guard checkComplete 50 demo (completeGroupsAlgo 50 100 demo) && checkCommon (completeGroupsAlgo 50 100 demo) 
#guard centroidGroupsAlgo 50 demo == some [[3, 4, 2, 0, 1], [5, 6, 7, 8]]
#guard (centroidGroupsAlgo 50 demo).all (fun gs => checkLinked 9 50 demo gs && checkCommon gs)
-- centroid keeps the LAST duplicate of a pair: 90 then 10 does not link, 10 then 90 does
#guard centroidGroupsAlgo 50 [⟨0, 1, 90⟩, ⟨0, 1, 10⟩] == some [] && centroidGroupsAlgo 50 [⟨0, 1, 10⟩, ⟨0, 1, 90⟩] == some [[0, 1]]
-- star / complete keep the HIGHEST duplicate
#guard starGroupsAlgo 2 50 [⟨0, 1, 90⟩, ⟨0, 1, 10⟩] == [[0, 1]] && completeGroupsAlgo 50 100 [⟨1, 0, 10⟩, ⟨0, 1, 90⟩] == [[0, 1]]

/-- the positive threshold cannot be dropped (star): on the path 0-1-2-3 with threshold 0 the mirror of the Go loop emits the group
{0,1,2,3} with medoid 1, and fragment 3 has NO reported pair with the medoid (`similarity` returns 0.0 for the absent
pair and `0.0 >= 0` holds); no member is linked with all the others, `checkStar` rejects.  With threshold 1 the same
input gives {0,1,2}. -/
example : starGroupsAlgo 4 0 [⟨0, 1, 50⟩, ⟨1, 2, 90⟩, ⟨2, 3, 50⟩] = [[0, 1, 2, 3]] ∧
    checkStar 0 [⟨0, 1, 50⟩, ⟨1, 2, 90⟩, ⟨2, 3, 50⟩] [[0, 1, 2, 3]] = false ∧
    starGroupsAlgo 4 1 [⟨0, 1, 50⟩, ⟨1, 2, 90⟩, ⟨2, 3, 50⟩] = [[0, 1, 2]] := by decide +kernel

/-- the positive threshold cannot be dropped (complete linkage): with threshold 0 every two clusters can be merged
(the early rejection `s < threshold` never fires, and the rejected score 0.0 is `>= 0` anyway), the final verification
accepts absent pairs, and the whole path is reported as one group although 0 and 2 are not a pair -/
example : completeGroupsAlgo 0 100 [⟨0, 1, 50⟩, ⟨1, 2, 90⟩] = [[0, 1, 2]] ∧
    checkComplete 0 [⟨0, 1, 50⟩, ⟨1, 2, 90⟩] [[0, 1, 2]] = false ∧
    completeGroupsAlgo 1 100 [⟨0, 1, 50⟩, ⟨1, 2, 90⟩] = [[1, 2]] := by decide +kernel

#print axioms C10_kcore_queue_total
#print axioms C10_kcore_queue_largest
#print axioms C10_kcore_queue_eq_peel
#print axioms C10_kcore_algo_eq_spec
#print axioms C10_kcore_order_independent
#print axioms C10_kcore_algo_contract
#print axioms C10_star_algo_contract
#print axioms C10_star_fuel
#print axioms C10_complete_algo_contract
#print axioms C10_complete_fuel
#print axioms C10_centroid_algo_contract
#print axioms C10_group_order_irrelevant

end PV.C10
