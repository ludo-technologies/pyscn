/-! Reviewed field tables of the hand-written AST walkers (see PV.Properties.C04x: `C04_walkers_facts`, `C04_walkers_complete_up_to_listed`).

`PV.Generated.Walkers` is regenerated from the Go source on every run by `/verif/extract/walkers.go`; this file is the value that was
reviewed against the source once (pinned tree), plus — per walker — the reviewed list `missing` of populated child fields it does NOT
follow, each with the reason why that is harmless for what the walker is used for, or the finding it causes.
After a REVIEWED change of a walker: copy the new rows from `lean/PV/Generated/Walkers.lean`, re-derive `missing`, re-classify. -/
namespace PV.WalkersExpected

/-- fields of `parser.Node` that can hold child nodes (`*Node`, `[]*Node`, and `Value interface{}` which the builder fills with a `*Node`
for assignments, returns, attribute bases, unary operands, keyword values, …); `Parent` is a back pointer and is not a child field -/
def childFields : List String :=
  ["Args", "Bases", "Body", "Children", "Decorator", "Finalbody", "Handlers", "Iter", "Keywords", "Left", "Orelse", "Right", "Targets", "Test", "Value"]

/-- child fields that `internal/parser/ast_builder.go` populates: all of them -/
def assigned : List String :=
  ["Args", "Bases", "Body", "Children", "Decorator", "Finalbody", "Handlers", "Iter", "Keywords", "Left", "Orelse", "Right", "Targets", "Test", "Value"]

/-- Which fields can hold STATEMENTS (hence definitions, imports, fragment candidates): `Body`, `Orelse`, `Finalbody` directly,
`Handlers` through the `ExceptHandler` nodes (whose `Body` is the handler's block) and `Children` through structural nodes.
The other ten hold expressions only. This is the yardstick for the classifications below. -/
def statementFields : List String := ["Body", "Children", "Finalbody", "Handlers", "Orelse"]

def walkers : List (String × List String) := [
  ("internal/analyzer/apted_tree.go:TreeConverter.ConvertAST", ["Body", "Children", "Finalbody", "Handlers", "Orelse"]),
  ("internal/analyzer/cbo.go:CBOAnalyzer.walkNode", ["Args", "Body", "Children", "Finalbody", "Handlers", "Iter", "Keywords", "Left", "Orelse", "Right", "Test", "Value"]),
  ("internal/analyzer/clone_detector.go:CloneDetector.extractFragmentsRecursive", ["Body", "Children", "Finalbody", "Handlers", "Orelse"]),
  ("internal/analyzer/clone_detector.go:CloneDetector.extractFragmentsRecursiveWithSource", ["Body", "Children", "Finalbody", "Handlers", "Orelse"]),
  ("internal/analyzer/clone_detector.go:calculateASTSize", ["Body", "Children", "Orelse"]),
  ("internal/analyzer/lcom.go:LCOMAnalyzer.walkNode", ["Args", "Body", "Children", "Finalbody", "Handlers", "Iter", "Keywords", "Left", "Orelse", "Right", "Targets", "Test", "Value"]),
  ("internal/analyzer/module_analyzer.go:ModuleAnalyzer.containsTypeChecking", ["Args", "Bases", "Body", "Children", "Decorator", "Finalbody", "Handlers", "Iter", "Keywords", "Left", "Orelse", "Right", "Targets", "Test"]),
  ("internal/analyzer/module_analyzer.go:ModuleAnalyzer.walkNode", ["Body", "Children", "Finalbody", "Handlers", "Orelse"]),
  ("internal/analyzer/nesting_depth.go:traverseForNesting", ["Args", "Body", "Children", "Finalbody", "Handlers", "Iter", "Orelse", "Test"]),
  ("internal/analyzer/reexport_resolver.go:ReExportResolver.walkNode", ["Args", "Bases", "Body", "Children", "Decorator", "Finalbody", "Handlers", "Iter", "Keywords", "Left", "Orelse", "Right", "Targets", "Test"]),
  ("internal/parser/ast.go:Node.GetChildren", ["Args", "Bases", "Body", "Children", "Decorator", "Finalbody", "Handlers", "Iter", "Keywords", "Left", "Orelse", "Right", "Targets", "Test"]),
  ("internal/parser/ast.go:Node.Walk", ["Args", "Bases", "Body", "Children", "Decorator", "Finalbody", "Handlers", "Iter", "Keywords", "Left", "Orelse", "Right", "Targets", "Test"]),
  ("internal/parser/visitor.go:Node.Accept", ["Args", "Bases", "Body", "Children", "Decorator", "Finalbody", "Handlers", "Iter", "Keywords", "Left", "Orelse", "Right", "Targets", "Test"])
]

/-- visits that happen only under a condition other than a nil / ok / len check -/
def guarded : List (String × List String) := [
  -- intended: the docstring of a module/class/function is left out of the compared tree when `skipDocstrings` is configured
  ("internal/analyzer/apted_tree.go:TreeConverter.ConvertAST", ["Body: unless (canHaveDocstring && tc.isDocstring(bodyNode, i))"]),
  -- `Args` holds the generators of a comprehension (followed) and the arguments of a call / parameters of a def (not followed): see `missing`
  ("internal/analyzer/nesting_depth.go:traverseForNesting", ["Args: isComprehensionNode(node)"])
]

/-- Per walker: the populated child fields it does not follow (exactly `assigned` minus its row above: `C04_walkers_missing_exact`). -/
def missing : List (String × List String) := [
  ("internal/analyzer/apted_tree.go:TreeConverter.ConvertAST", [
    -- Purpose: the labelled tree that APTED compares (C07/C08). All ten are EXPRESSION positions: the condition of an `if`, the iterable of
    -- a `for`, the right-hand side of an assignment, call arguments, operands … are NOT part of the compared tree unless the builder also
    -- hangs them in `Children`. Identical source still gives identical trees (C08 "verbatim copies found" is unaffected) and C07 is stated
    -- about the converted trees; what it weakens is the MEANING of a similarity value (`x = a + b` and `x = f(y)` are the same leaf `Assign`).
    -- Design limitation of the similarity measure, recorded here; no finding id.
    "Args",      -- call arguments / def parameters: expression position, see above
    "Bases",     -- base-class expressions of a class: not compared
    "Decorator", -- decorators are not part of the compared tree (two defs that differ only in decorators are identical trees)
    "Iter",      -- iterable of for / comprehension: not compared
    "Keywords",  -- keyword arguments: not compared
    "Left",      -- left operand of BinOp/Compare/Attribute: not compared
    "Right",     -- right operand / subscript / return annotation: not compared
    "Targets",   -- assignment / for targets: not compared
    "Test",      -- condition of if/while/assert, subject of match: not compared
    "Value"      -- right-hand side of an assignment, returned value, attribute base, unary operand, lambda body: not compared
  ]),
  ("internal/analyzer/cbo.go:CBOAnalyzer.walkNode", [
    "Bases",     -- class collection (C04): harmless, a class statement cannot occur inside a base expression. Coupling (C13): the bases of the class under analysis are read directly, but those of a class defined INSIDE a method are lost — known F59-nested_class_base-*, F59-nested_class_keyword-*
    "Decorator", -- C04: harmless (expressions only). C13: known F59-nested_def_decorator-*, F51-decorator_arg (`@deco(Target())`)
    "Targets"    -- C04: harmless. C13: known F51-subscript_target, F51-del_subscript, F51-augassign_target_index, F51-subscript_tuple_target-* (`self.d[Target()] = 1`)
  ]),
  ("internal/analyzer/clone_detector.go:CloneDetector.extractFragmentsRecursive", [
    -- Purpose: find the fragment candidates (def / class / for / while / if / try / with) = STATEMENTS. The ten expression fields are harmless.
    "Args",      -- harmless: expression position, no candidate statement can occur there
    "Bases",     -- harmless (expression)
    "Decorator", -- harmless (expression)
    "Iter",      -- harmless (expression)
    "Keywords",  -- harmless (expression)
    "Left",      -- harmless (expression)
    "Right",     -- harmless (expression)
    "Targets",   -- harmless (expression)
    "Test",      -- harmless (expression)
    "Value"      -- harmless (expression; a lambda body is not a fragment candidate)
  ]),
  ("internal/analyzer/clone_detector.go:CloneDetector.extractFragmentsRecursiveWithSource", [
    -- same function with the source text attached: same classification
    "Args",      -- harmless (expression)
    "Bases",     -- harmless (expression)
    "Decorator", -- harmless (expression)
    "Iter",      -- harmless (expression)
    "Keywords",  -- harmless (expression)
    "Left",      -- harmless (expression)
    "Right",     -- harmless (expression)
    "Targets",   -- harmless (expression)
    "Test",      -- harmless (expression)
    "Value"      -- harmless (expression)
  ]),
  ("internal/analyzer/clone_detector.go:calculateASTSize", [
    -- Purpose: `CodeFragment.Size`, compared with `min_nodes` (shouldIncludeFragment) and in isSignificantClone. It counts statement-level nodes
    -- only; thresholds are calibrated on that count, so the expression fields are a definition, not a defect.
    "Args",      -- by definition of Size (expressions in dedicated fields are not counted)
    "Bases",     -- by definition of Size
    "Decorator", -- by definition of Size
    "Finalbody", -- DEFECT (C08, noted under finding F69, left as it is): the size of a `try` ignores its finally block although ConvertAST's tree contains it (Size ≠ size of the compared tree): a try statement whose weight is in `finally:` is dropped by the min_nodes filter
    "Handlers",  -- DEFECT (C08, the same): the size of a `try` ignores its handlers — `try: import x / except ImportError: <40 lines>` has the Size of its two-line `try:` part and is never a fragment
    "Iter",      -- by definition of Size
    "Keywords",  -- by definition of Size
    "Left",      -- by definition of Size
    "Right",     -- by definition of Size
    "Targets",   -- by definition of Size
    "Test",      -- by definition of Size
    "Value"      -- by definition of Size
  ]),
  ("internal/analyzer/lcom.go:LCOMAnalyzer.walkNode", [
    "Bases",     -- class collection (C04): harmless. Cohesion (C14): `self.x` in the bases / keywords of a class defined inside a method is lost — known F58-nested_class_base-*, F58-nested_class_keyword-*
    "Decorator"  -- C04: harmless. C14: known F58-nested_def_decorator-* (`@self.reg` on a def nested in a method)
  ]),
  ("internal/analyzer/module_analyzer.go:ModuleAnalyzer.containsTypeChecking", [
    "Value"      -- through Node.GetChildren. Used only on BoolOp/Compare conditions of an `if` (operands hang in Children/Left, which are followed); skipped are the operand of a unary `not` and the base of an attribute: `not TYPE_CHECKING and X` is not taken for a type-checking block (right, by accident), `typing.TYPE_CHECKING` is recognised by the Attribute's Name. Harmless for C12.
  ]),
  ("internal/analyzer/module_analyzer.go:ModuleAnalyzer.walkNode", [
    -- Purpose: collect import statements (C12) = STATEMENTS.
    "Args",      -- harmless: expression position (`__import__("m")` / importlib calls are outside C12's static imports)
    "Bases",     -- harmless (expression)
    "Decorator", -- harmless (expression)
    "Iter",      -- harmless (expression)
    "Keywords",  -- harmless (expression)
    "Left",      -- harmless (expression)
    "Right",     -- harmless (expression)
    "Targets",   -- harmless (expression)
    "Test",      -- harmless (expression)
    "Value"      -- harmless (expression)
  ]),
  ("internal/analyzer/nesting_depth.go:traverseForNesting", [
    -- Purpose: `NestingDepth` of the complexity section (not the subject of C03, which is about the cyclomatic number). Nesting constructs are
    -- compound statements (all statement fields are followed) plus lambda / comprehensions, which are EXPRESSIONS:
    "Bases",     -- a lambda/comprehension in a base-class expression is not counted: negligible
    "Decorator", -- a lambda/comprehension in a decorator is not counted: negligible
    "Keywords",  -- `f(key=[… for …])`: nested comprehension not counted (under-reported NestingDepth; no property, no finding id)
    "Left",      -- operands: comprehension / lambda not counted (as above)
    "Right",     -- operands: as above
    "Targets",   -- targets: cannot hold a lambda/comprehension except in a subscript: negligible
    "Value"      -- OBSERVED: `x = [[j for j in i] for i in y]` has NestingDepth 0, the same display as an expression statement has 1 (right-hand sides and returned values are not followed). Under-reported NestingDepth; outside C01–C20, recorded here only.
  ]),
  ("internal/analyzer/reexport_resolver.go:ReExportResolver.walkNode", [
    "Value"      -- through Node.GetChildren. Looks for `__all__ = …` and `from … import …` STATEMENTS in an `__init__.py`; the right-hand side of `__all__` is read directly from node.Value by extractAllDeclaration. Harmless.
  ]),
  ("internal/parser/ast.go:Node.GetChildren", [
    "Value"      -- the shared child list omits the node kept in `Value` (right-hand sides, returned values, attribute bases, unary operands, keyword values): every user of GetChildren/Walk/Find/Accept inherits the gap. Users today: the two rows above and clone statistics; dfa_builder.go works around it by hand ("since Walk doesn't include it"). Latent; harmless for the current users.
  ]),
  ("internal/parser/ast.go:Node.Walk", [
    "Value"      -- through GetChildren; Walk/Find/FindByType have no caller outside the parser package and its tests. Latent.
  ]),
  ("internal/parser/visitor.go:Node.Accept", [
    "Value"      -- through GetChildren; only user is the StatisticsVisitor of service/clone_service.go (node counts shown in the clone statistics: under-counted, cosmetic)
  ])
]

end PV.WalkersExpected
