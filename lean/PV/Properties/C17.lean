import PV.Model.Config
import PV.Generated.ConfigFacts
/-!
# C17 — configuration precedence: explicit flag over config file over default
-/
namespace PV.C17
open PV.Config

variable {V C : Type}

/-- a flag that is given wins, whatever its value (also when it equals the default) and whatever the file says -/
theorem C17_flag_wins (v : V) (file : Option V) (d : V) : effective ⟨some v, file, d⟩ = v := rfl

/-- without the flag a key that is present wins, whatever its value (also 0 / false / the default) -/
theorem C17_file_wins (v d : V) : effective ⟨none, some v, d⟩ = v := rfl

/-- neither: the documented default -/
theorem C17_default (d : V) : effective (⟨none, none, d⟩ : Source V) = d := rfl

/-- the three cases are exhaustive: the effective value is always one of the three sources, chosen in that order -/
theorem C17_effective (s : Source V) :
    (∀ v, s.flag = some v → effective s = v) ∧
    (s.flag = none → ∀ v, s.file = some v → effective s = v) ∧
    (s.flag = none → s.file = none → effective s = s.default) := by
  refine ⟨fun v h => ?_, fun h v hv => ?_, fun h hv => ?_⟩ <;> simp [effective, *]

/-- why "differs from the default" cannot stand in for "was given": the sentinel merge disagrees with the specification exactly on a
flag that repeats the default over a file that says otherwise -/
theorem C17_sentinel_wrong : ∃ s : Source Nat, mergeSentinel s ≠ effective s :=
  ⟨⟨some 5, some 1, 5⟩, by decide⟩

theorem C17_sentinel_agrees_otherwise [DecidableEq V] (s : Source V) (h : ∀ v, s.flag = some v → v ≠ s.default) :
    mergeSentinel s = effective s := by
  unfold mergeSentinel effective
  cases hf : s.flag with
  | none => cases s.file <;> simp
  | some v =>
    have := h v hf
    simp [this]

/-- an explicit `--config` always wins -/
theorem C17_explicit (c : C) (dirs : List (Dir C)) : discover (some c) dirs = some c := rfl

/-- in one directory `.pyscn.toml` takes precedence over `pyproject.toml` -/
theorem C17_same_dir (c : C) (pp : Option C) (rest : List (Dir C)) : discover none (⟨some c, pp⟩ :: rest) = some c := rfl

/-- both searches are "the first directory on the way up that has one" -/
theorem findPyscn_eq : ∀ l : List (Dir C), findPyscn l = l.findSome? (·.pyscn)
  | [] => rfl
  | d :: l => by rw [findPyscn, List.findSome?_cons, findPyscn_eq l]; cases d.pyscn <;> rfl

theorem findPyproject_eq : ∀ l : List (Dir C), findPyproject l = l.findSome? (·.pyproject)
  | [] => rfl
  | d :: l => by rw [findPyproject, List.findSome?_cons, findPyproject_eq l]; cases d.pyproject <;> rfl

theorem findSome?_first {α β : Type} {f : α → Option β} {pre rest : List α} {d : α} {c : β}
    (hpre : ∀ x ∈ pre, f x = none) (hd : f d = some c) : (pre ++ d :: rest).findSome? f = some c := by
  rw [List.findSome?_append, List.findSome?_eq_none_iff.mpr hpre, List.findSome?_cons, hd]; rfl

/-- among `.pyscn.toml` files the nearest at or above the analysed path is used -/
theorem C17_nearest_pyscn (pre rest : List (Dir C)) (d : Dir C) (c : C)
    (hpre : ∀ x ∈ pre, x.pyscn = none) (hd : d.pyscn = some c) : discover none (pre ++ d :: rest) = some c := by
  unfold discover
  rw [findPyscn_eq, findSome?_first hpre hd]

/-- when there is no `.pyscn.toml` on the way up, the nearest `pyproject.toml` with a `[tool.pyscn]` table is used -/
theorem C17_nearest_pyproject (pre rest : List (Dir C)) (d : Dir C) (c : C)
    (hno : ∀ x ∈ pre ++ d :: rest, x.pyscn = none) (hpre : ∀ x ∈ pre, x.pyproject = none) (hd : d.pyproject = some c) :
    discover none (pre ++ d :: rest) = some c := by
  unfold discover
  rw [findPyscn_eq, List.findSome?_eq_none_iff.mpr hno, findPyproject_eq, findSome?_first hpre hd]

/-- nothing anywhere: no configuration file, i.e. the defaults -/
theorem C17_none (dirs : List (Dir C)) (h : ∀ x ∈ dirs, x.pyscn = none ∧ x.pyproject = none) : discover none dirs = none := by
  unfold discover
  rw [findPyscn_eq, List.findSome?_eq_none_iff.mpr fun x hx => (h x hx).1, findPyproject_eq,
    List.findSome?_eq_none_iff.mpr fun x hx => (h x hx).2]

/-- **Tie (regenerated).** Discovery and path resolution have the shape the model was written against. -/
theorem C17_facts :
    Generated.ConfigFacts.ResolveConfigPath = [
      "if: configPath != \"\"",
      "if: err != nil",
      "return: \"\", fmt.Errorf(…)",
      "if: !info.IsDir()",
      "return: configPath, nil",
      "return: l.FindConfigFileFromPath(configPath), nil",
      "assign: searchPath := targetPath",
      "if: searchPath == \"\"",
      "assign: searchPath = \".\"",
      "return: l.FindConfigFileFromPath(searchPath), nil"] ∧
    Generated.ConfigFacts.FindConfigFileFromPath = [
      "assign: dir, err := normalizeSearchDir(startPath)",
      "if: err != nil",
      "return: \"\"",
      "assign: current := dir",
      "assign: pyscnPath := filepath.Join(current, \".pyscn.toml\")",
      "if: err == nil",
      "return: pyscnPath",
      "assign: parent := filepath.Dir(current)",
      "if: parent == current",
      "break",
      "assign: current = parent",
      "assign: current = dir",
      "assign: pyprojectPath := filepath.Join(current, \"pyproject.toml\")",
      "if: err == nil && hasPyscnSection(pyprojectPath)",
      "return: pyprojectPath",
      "assign: parent := filepath.Dir(current)",
      "if: parent == current",
      "break",
      "assign: current = parent",
      "return: \"\""] := ⟨rfl, rfl⟩

end PV.C17
