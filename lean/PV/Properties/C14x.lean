import PV.Properties.C14
import PV.Proofs.UFArrayRefines
/-!
# C14 (extension) — the union–find MIRROR computes exactly the groups of the specification model

`PV.UF.Arr.components` is the executable mirror of the union–find of `internal/analyzer/lcom.go` (path compression,
union by rank, final `find` pass, grouping by root; arrays for the two Go maps), proved equal to the function model
`PV.UF.components`, whose correctness is `PV/Proofs/UFCorrect.lean`.  This file states, in the vocabulary of
`PV/Properties/C14.lean`, that the mirror run on the method graph returns the list `groups c` of the specification
model — the same classes, each as the same increasing list, in the same order — and hence the same LCOM4.
-/
namespace PV.C14
open PV.SCC PV.LCOM PV.C11

/-- the groups the union–find mirror computes for a class: the components of the method graph, the edges being
united in the order in which `graph c` lists them -/
def ufGroups (c : Cls) : List (List Nat) := PV.UF.Arr.components c.n (graph c).edges

/-- a class computed by the union–find (the function model `PV.UF.components`) is the model's class of each of its members, as a list -/
theorem C14_uf_class_eq_comp (g : G) (E : List (Nat × Nat))
    (hconn : ∀ u v, u < g.n → v < g.n → (PV.UF.Conn g.n E u v ↔ Mutual g u v)) (c : List Nat) (hc : c ∈ PV.UF.components g.n E) (u : Nat) (hu : u ∈ c) :
    u < g.n ∧ c = comp g (reachTable g) u :=
  PV.UF.Arr.class_eq_comp g E hconn c hc u hu

/-- **Union–find = model, for every graph.** If the in-range pairs of the edge list `E` generate (as an equivalence)
exactly the mutual-reachability relation of `g`, then the union–find mirror run on `E` returns the very list
`classes g` of the specification model. -/
theorem C14_uf_classes (g : G) (E : List (Nat × Nat))
    (hconn : ∀ u v, u < g.n → v < g.n → (PV.UF.Conn g.n E u v ↔ Mutual g u v))
    (cs : List (List Nat)) (h : classes g = some cs) : PV.UF.Arr.components g.n E = cs :=
  PV.UF.Arr.components_eq_classes g E hconn cs h

/-- union–find connectivity over the edges of the method graph is reachability in the method graph (all `u v`;
the edges of `graph c` join methods `< c.n` and come in both directions) -/
theorem C14_uf_conn (c : Cls) (u v : Nat) : PV.UF.Conn c.n (graph c).edges u v ↔ Reach (graph c) u v := by
  constructor
  · intro h
    induction h with
    | refl => exact Reach.refl _
    | edge he _ _ => exact Reach.edge he
    | symm _ ih => exact reach_symm c ih
    | trans _ _ ih1 ih2 => exact ih1.trans ih2
  · exact Reach.least .refl .trans (fun he => .edge he (mem_graph.mp he).1 (mem_graph.mp he).2.1)

/-- **C14 for the union–find mirror.** Two instance methods are in a common group computed by the mirror iff they are
connected in the method graph. -/
theorem C14_uf_components (c : Cls) (u v : Nat) (hu : u < c.n) (hv : v < c.n) :
    (∃ g ∈ ufGroups c, u ∈ g ∧ v ∈ g) ↔ Reach (graph c) u v := by
  unfold ufGroups
  rw [PV.UF.Arr.same_class_iff_conn c.n (graph c).edges hu hv]
  exact C14_uf_conn c u v

/-- **C14 (the mirror's groups partition the instance methods).** Every instance method is in exactly one group:
the groups together list `0 … c.n-1` exactly once; no group is empty; each is sorted increasingly; the groups are
ordered by their smallest member. -/
theorem C14_uf_partition (c : Cls) :
    (ufGroups c).flatten.Perm (List.range c.n) ∧ (∀ g ∈ ufGroups c, g ≠ [] ∧ g.Pairwise (· < ·)) ∧
    (ufGroups c).Pairwise HeadLt := by
  unfold ufGroups
  rw [PV.UF.Arr.components_eq]
  exact ⟨PV.UF.components_perm _ _,
    fun g hg => ⟨PV.UF.components_nonempty _ _ g hg, PV.UF.components_sorted _ _ g hg⟩,
    PV.UF.components_heads_sorted _ _⟩

/-- **C14 (mirror = model).** The groups computed by the union–find mirror are exactly the groups of the specification
model: the same list of lists (same classes, same order of members, same order of classes). -/
theorem C14_uf_groups (c : Cls) (gs : List (List Nat)) (h : groups c = some gs) : ufGroups c = gs := by
  unfold groups at h
  refine C14_uf_classes (graph c) (graph c).edges ?_ gs h
  intro u v _ _
  show PV.UF.Conn c.n (graph c).edges u v ↔ _
  rw [C14_uf_conn]
  exact ⟨fun r => ⟨r, reach_symm c r⟩, fun m => m.1⟩

/-- **C14 (mirror = model, unconditional form).** The model always returns (`C11_total`), and it returns the mirror's
groups. -/
theorem C14_uf_groups_total (c : Cls) : groups c = some (ufGroups c) := by
  obtain ⟨gs, h⟩ := (C11_total (graph c)).2
  have h' : groups c = some gs := h
  rw [h', C14_uf_groups c gs h']

/-- **C14 (LCOM4 from the mirror).** For a class with at least two instance methods LCOM4 is the number of groups the
union–find mirror computes. -/
theorem C14_uf_lcom4 (c : Cls) (hn : 2 ≤ c.n) : lcom4 c = some (ufGroups c).length := by
  unfold lcom4
  rw [if_neg (by omega), C14_uf_groups_total c]; rfl

/-- the class of the example in `C14.lean`: 4 methods, {0,1} share attribute 7, 2 calls 3 -/
example : ufGroups { n := 4, attrs := [[7], [7, 8], [], [9]], calls := [[], [], [3], []] } = [[0, 1], [2, 3]] := by
  unfold ufGroups; rw [PV.UF.Arr.components_eq]; decide +kernel
example : groups { n := 4, attrs := [[7], [7, 8], [], [9]], calls := [[], [], [3], []] } = some [[0, 1], [2, 3]] := by
  decide +kernel
#guard ufGroups { n := 4, attrs := [[7], [7, 8], [], [9]], calls := [[], [], [3], []] } == [[0, 1], [2, 3]]
#guard ufGroups { n := 5, attrs := [[1], [2], [1, 3], [], [3]], calls := [[], [], [], [1], []] } == [[0, 2, 4], [1, 3]]
#guard lcom4 { n := 5, attrs := [[1], [2], [1, 3], [], [3]], calls := [[], [], [], [1], []] } == some 2

end PV.C14
