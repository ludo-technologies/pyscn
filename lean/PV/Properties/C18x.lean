import PV.Proofs.GlobSpec
/-!
# C18x — what a selection pattern MEANS, and that the matcher of the model decides exactly that

`PV.Files.globSeg` / `globComps` (validated against the real `doublestar.Match` differentially) are tied to a declarative
specification (`PV.Files.MatchSeg` / `MatchComps`, `PV/Proofs/GlobSpec.lean`), the specification is given closed forms a reader can
check at a glance, and the shipped default patterns (`include = ["**/*.py", "*.pyi"]`, `exclude = ["test_*.py", "*_test.py"]`) are
characterised completely.
-/
namespace PV.C18
open PV.Files

/-- **the segment matcher decides `MatchSeg`** (literal = itself, `?` = one character, `*` = any string) -/
theorem C18_globSeg_spec (p s : List Char) : globSeg p s = true ↔ MatchSeg p s := globSeg_iff p s

/-- **the component matcher decides `MatchComps`** (`**` = any number of components, any other component = exactly one) -/
theorem C18_globComps_spec (ps cs : List String) : globComps ps cs = true ↔ MatchComps ps cs := globComps_iff ps cs

theorem C18_glob_spec (pattern : String) (path : List String) :
    glob pattern path = true ↔ MatchComps (pattern.splitOn "/") path := C18_globComps_spec _ _

/-- `matchesPattern`: with a `/` the pattern describes the relative path, without one the file name alone -/
theorem C18_matchesPattern_spec (pattern : String) (rel : List String) :
    matchesPattern pattern rel = true ↔
      if '/' ∈ pattern.toList then MatchComps (pattern.splitOn "/") rel
      else MatchComps (pattern.splitOn "/") [rel.getLast?.getD ""] := by
  unfold matchesPattern
  rw [String.contains_char_eq]
  by_cases h : '/' ∈ pattern.toList <;> simp [h, C18_glob_spec]

/-! ## closed forms of the specification -/

/-- **`*`** stands for any string (possibly empty), then the rest of the pattern describes the rest of the segment -/
theorem C18_star_splits (p s : List Char) : MatchSeg ('*' :: p) s ↔ ∃ s₁ s₂, s = s₁ ++ s₂ ∧ MatchSeg p s₂ := by
  simp [matchSeg_cons_iff, Fits]

/-- **`?`** stands for exactly one character -/
theorem C18_question_splits (p s : List Char) : MatchSeg ('?' :: p) s ↔ ∃ c t, s = c :: t ∧ MatchSeg p t :=
  ⟨fun h => by cases h with
    | lit _ h2 => exact absurd rfl h2
    | one c h => exact ⟨c, _, rfl, h⟩,
   fun ⟨c, _, e, h⟩ => e ▸ .one c h⟩

/-- a literal character stands for itself -/
theorem C18_literal_char (a : Char) (h1 : a ≠ '*') (h2 : a ≠ '?') (p s : List Char) :
    MatchSeg (a :: p) s ↔ ∃ t, s = a :: t ∧ MatchSeg p t :=
  ⟨fun h => by cases h with
    | lit _ _ h => exact ⟨_, rfl, h⟩
    | one => exact absurd rfl h2
    | star_zero => exact absurd rfl h1
    | star_more => exact absurd rfl h1,
   fun ⟨_, e, h⟩ => e ▸ .lit h1 h2 h⟩

/-- **`**`** stands for any number of components (possibly none), then the rest of the pattern describes the rest of the path -/
theorem C18_doublestar_splits (ps cs : List String) :
    MatchComps ("**" :: ps) cs ↔ ∃ cs₁ cs₂, cs = cs₁ ++ cs₂ ∧ MatchComps ps cs₂ := by
  simp [matchComps_cons_iff, FitsComp]

/-- any other component takes exactly one path component: `*` and `?` never cross a `/` -/
theorem C18_component_splits (p : String) (hp : p ≠ "**") (ps cs : List String) :
    MatchComps (p :: ps) cs ↔ ∃ c cs', cs = c :: cs' ∧ MatchSeg p.toList c.toList ∧ MatchComps ps cs' := by
  rw [matchComps_cons_iff]
  constructor
  · rintro ⟨w, t, rfl, hw, h⟩
    rw [FitsComp, if_neg hp] at hw
    obtain ⟨c, rfl, hc⟩ := hw
    exact ⟨c, t, rfl, hc, h⟩
  · rintro ⟨c, t, rfl, hc, h⟩
    exact ⟨[c], t, rfl, by rw [FitsComp, if_neg hp]; exact ⟨c, rfl, hc⟩, h⟩

/-- a literal prefix must be there, the rest of the pattern describes the rest of the segment -/
theorem matchSeg_literal_append {pre : List Char} (hp : Literal pre) (q s : List Char) :
    MatchSeg (pre ++ q) s ↔ ∃ t, s = pre ++ t ∧ MatchSeg q t := by
  induction pre generalizing s with
  | nil => exact ⟨fun h => ⟨s, rfl, h⟩, fun ⟨t, e, h⟩ => by rw [e]; exact h⟩
  | cons a pre ih =>
    have ha := hp a (List.mem_cons_self ..)
    have hp' : Literal pre := fun c hc => hp c (List.mem_cons_of_mem _ hc)
    rw [List.cons_append, C18_literal_char a ha.1 ha.2]
    constructor
    · rintro ⟨t, rfl, h⟩
      obtain ⟨u, rfl, hu⟩ := (ih hp' t).mp h
      exact ⟨u, rfl, hu⟩
    · rintro ⟨u, rfl, hu⟩
      exact ⟨pre ++ u, rfl, (ih hp' _).mpr ⟨u, rfl, hu⟩⟩

/-- **a pattern without wildcards describes itself and nothing else** -/
theorem C18_literal (p s : List Char) (hp : ∀ c ∈ p, c ≠ '*' ∧ c ≠ '?') : MatchSeg p s ↔ s = p := by
  have := matchSeg_literal_append hp [] s
  simpa [matchSeg_nil_iff] using this

/-- **`*suffix`**: exactly the segments that end in the suffix -/
theorem C18_suffix_pattern (suf s : List Char) (hs : ∀ c ∈ suf, c ≠ '*' ∧ c ≠ '?') :
    MatchSeg ('*' :: suf) s ↔ ∃ pre, s = pre ++ suf := by
  rw [C18_star_splits]
  constructor
  · rintro ⟨s₁, s₂, rfl, h⟩; exact ⟨s₁, by rw [(C18_literal suf s₂ hs).mp h]⟩
  · rintro ⟨pre, rfl⟩; exact ⟨pre, suf, rfl, (C18_literal suf suf hs).mpr rfl⟩

/-- **`prefix*suffix`**: exactly the segments `prefix ++ anything ++ suffix` … -/
theorem C18_prefix_suffix_pattern (pre suf s : List Char) (hp : ∀ c ∈ pre, c ≠ '*' ∧ c ≠ '?') (hs : ∀ c ∈ suf, c ≠ '*' ∧ c ≠ '?') :
    MatchSeg (pre ++ '*' :: suf) s ↔ ∃ mid, s = pre ++ (mid ++ suf) := by
  rw [matchSeg_literal_append hp]
  constructor
  · rintro ⟨t, rfl, h⟩
    obtain ⟨mid, rfl⟩ := (C18_suffix_pattern suf t hs).mp h
    exact ⟨mid, rfl⟩
  · rintro ⟨mid, rfl⟩
    exact ⟨mid ++ suf, rfl, (C18_suffix_pattern suf _ hs).mpr ⟨mid, rfl⟩⟩

/-- … that is: starts with the prefix, ends in the suffix, and the two do not overlap -/
theorem C18_prefix_suffix_pattern_iff (pre suf s : List Char) (hp : ∀ c ∈ pre, c ≠ '*' ∧ c ≠ '?') (hs : ∀ c ∈ suf, c ≠ '*' ∧ c ≠ '?') :
    MatchSeg (pre ++ '*' :: suf) s ↔ pre <+: s ∧ suf <:+ s ∧ pre.length + suf.length ≤ s.length := by
  rw [C18_prefix_suffix_pattern pre suf s hp hs]
  constructor
  · rintro ⟨mid, rfl⟩
    refine ⟨List.prefix_append _ _, ?_, ?_⟩
    · rw [← List.append_assoc]; exact List.suffix_append _ _
    · simp only [List.length_append]; omega
  · rintro ⟨⟨t, rfl⟩, h2, h3⟩
    have : suf <:+ t := List.suffix_of_suffix_length_le h2 (List.suffix_append pre t) (by
      simp only [List.length_append] at h3; omega)
    obtain ⟨mid, rfl⟩ := this
    exact ⟨mid, rfl⟩

theorem matchSeg_star_all (s : List Char) : MatchSeg ['*'] s :=
  (C18_star_splits [] s).mpr ⟨s, [], (List.append_nil s).symm, .nil⟩

/-- `*` alone accepts every segment (so the model has no way to ask for a literal `*`), `**` alone every path -/
theorem C18_star_all (s : List Char) (cs : List String) : globSeg ['*'] s = true ∧ globComps ["**"] cs = true :=
  ⟨globSeg_complete (matchSeg_star_all s), globComps_complete ((C18_doublestar_splits [] cs).mpr ⟨cs, [], (List.append_nil cs).symm, .nil⟩)⟩

end PV.C18
namespace PV.Files
open PV.C18

theorem matchSeg_prefix_star {pre : List Char} (hp : Literal pre) (s : List Char) :
    MatchSeg (pre ++ ['*']) s ↔ ∃ rest, s = pre ++ rest := by
  rw [matchSeg_literal_append hp]
  constructor
  · rintro ⟨t, rfl, _⟩; exact ⟨t, rfl⟩
  · rintro ⟨t, rfl⟩; exact ⟨t, rfl, matchSeg_star_all t⟩

theorem matchSeg_star_suffix_iff_isSuffix {suf : List Char} (hs : Literal suf) (s : List Char) :
    MatchSeg ('*' :: suf) s ↔ suf <:+ s := by
  rw [C18_suffix_pattern suf s hs]
  exact ⟨fun ⟨pre, e⟩ => ⟨pre, e.symm⟩, fun ⟨pre, e⟩ => ⟨pre, e.symm⟩⟩

end PV.Files
namespace PV.C18
open PV.Files

/-- **the language reading**: the segment is the concatenation of one piece per pattern element — any string for `*`, one character
for `?`, the character itself otherwise -/
theorem C18_seg_pieces (p s : List Char) : globSeg p s = true ↔ ∃ ws, SegPieces p ws ∧ s = ws.flatten := by
  rw [C18_globSeg_spec]
  induction p generalizing s with
  | nil =>
    rw [matchSeg_nil_iff]
    constructor
    · rintro rfl; exact ⟨[], trivial, rfl⟩
    · rintro ⟨ws, h, rfl⟩
      cases ws with
      | nil => rfl
      | cons w ws => exact h.elim
  | cons a p ih =>
    rw [matchSeg_cons_iff]
    constructor
    · rintro ⟨w, s₂, rfl, hw, h2⟩
      obtain ⟨ws, hws, rfl⟩ := (ih s₂).mp h2
      exact ⟨w :: ws, ⟨hw, hws⟩, rfl⟩
    · rintro ⟨ws, hws, rfl⟩
      cases ws with
      | nil => exact hws.elim
      | cons w ws => exact ⟨w, ws.flatten, rfl, hws.1, (ih _).mpr ⟨ws, hws.2, rfl⟩⟩

/-- … and the path is the concatenation of one run of components per pattern component — any run for `**`, one component the
pattern component describes otherwise -/
theorem C18_comps_pieces (ps cs : List String) : globComps ps cs = true ↔ ∃ ws, CompPieces ps ws ∧ cs = ws.flatten := by
  rw [C18_globComps_spec]
  induction ps generalizing cs with
  | nil =>
    rw [matchComps_nil_iff]
    constructor
    · rintro rfl; exact ⟨[], trivial, rfl⟩
    · rintro ⟨ws, h, rfl⟩
      cases ws with
      | nil => rfl
      | cons w ws => exact h.elim
  | cons p ps ih =>
    rw [matchComps_cons_iff]
    constructor
    · rintro ⟨w, s₂, rfl, hw, h2⟩
      obtain ⟨ws, hws, rfl⟩ := (ih s₂).mp h2
      exact ⟨w :: ws, ⟨hw, hws⟩, rfl⟩
    · rintro ⟨ws, hws, rfl⟩
      cases ws with
      | nil => exact hws.elim
      | cons w ws => exact ⟨w, ws.flatten, rfl, hws.1, (ih _).mpr ⟨ws, hws.2, rfl⟩⟩

/-- a single component other than `**` describes exactly the one-component paths whose component it describes -/
theorem matchComps_single_iff {p : String} (hp : p ≠ "**") (cs : List String) :
    MatchComps [p] cs ↔ ∃ c, cs = [c] ∧ MatchSeg p.toList c.toList := by
  rw [C18_component_splits p hp]
  constructor
  · rintro ⟨c, cs', rfl, h1, h2⟩
    rw [(matchComps_nil_iff cs').mp h2]
    exact ⟨c, rfl, h1⟩
  · rintro ⟨c, rfl, h⟩; exact ⟨c, [], rfl, h, .nil⟩

/-! ## the shipped default patterns -/

/-- `**/q`: any directories (none included), then a file name described by `q` -/
theorem C18_doublestar_name (q : String) (hq : q ≠ "**") (cs : List String) :
    globComps ["**", q] cs = true ↔ ∃ dirs f, cs = dirs ++ [f] ∧ MatchSeg q.toList f.toList := by
  rw [C18_globComps_spec, C18_doublestar_splits]
  constructor
  · rintro ⟨dirs, cs₂, rfl, h⟩
    obtain ⟨f, rfl, hf⟩ := (matchComps_single_iff hq cs₂).mp h
    exact ⟨dirs, f, rfl, hf⟩
  · rintro ⟨dirs, f, rfl, hf⟩
    exact ⟨dirs, [f], rfl, (matchComps_single_iff hq _).mpr ⟨f, rfl, hf⟩⟩

/-- a pattern without `/` (that `splitOn` leaves whole and that is not `**`) describes the file NAME, at any depth -/
theorem C18_name_pattern (pat : String) (hs : '/' ∉ pat.toList) (hsplit : pat.splitOn "/" = [pat]) (hne : pat ≠ "**")
    (dirs : List String) (f : String) :
    matchesPattern pat (dirs ++ [f]) = true ↔ MatchSeg pat.toList f.toList := by
  rw [C18_matchesPattern_spec, if_neg hs, hsplit, List.getLast?_concat, Option.getD_some, matchComps_single_iff hne]
  exact ⟨fun ⟨c, e, h⟩ => by cases e; exact h, fun h => ⟨f, rfl, h⟩⟩

/-- **default include `**/*.py`, exactly**: the non-empty paths whose last component ends in `.py`, whatever the directories -/
theorem C18_default_include_iff (rel : List String) :
    matchesPattern "**/*.py" rel = true ↔ ∃ dirs f pre, rel = dirs ++ [f] ∧ f.toList = pre ++ ".py".toList := by
  rw [C18_matchesPattern_spec, if_pos (by decide), splitOn_py, ← C18_globComps_spec, C18_doublestar_name _ (by decide),
    show "*.py".toList = '*' :: ".py".toList by simp only [String.reduceToList]]
  have hl : Literal ".py".toList := by decide
  constructor
  · rintro ⟨dirs, f, rfl, h⟩
    obtain ⟨pre, e⟩ := (C18_suffix_pattern _ _ hl).mp h
    exact ⟨dirs, f, pre, rfl, e⟩
  · rintro ⟨dirs, f, pre, rfl, e⟩
    exact ⟨dirs, f, rfl, (C18_suffix_pattern _ _ hl).mpr ⟨pre, e⟩⟩

/-- **default include**: every non-empty relative path whose last component ends in `.py` matches `**/*.py` -/
theorem C18_default_include (rel : List String) (hne : rel ≠ []) (pre : List Char)
    (h : (rel.getLast?.getD "").toList = pre ++ ".py".toList) : matchesPattern "**/*.py" rel = true := by
  rw [C18_default_include_iff]
  refine ⟨rel.dropLast, rel.getLast hne, pre, (List.dropLast_concat_getLast hne).symm, ?_⟩
  rw [List.getLast?_eq_some_getLast hne] at h
  exact h

/-- … at any depth, said with the directories in front -/
theorem C18_default_include_any_depth (dirs : List String) (f : String) (pre : List Char) (h : f.toList = pre ++ ".py".toList) :
    matchesPattern "**/*.py" (dirs ++ [f]) = true :=
  (C18_default_include_iff _).mpr ⟨dirs, f, pre, rfl, h⟩

/-- **default exclude `test_*.py`, exactly**: at any depth, the files named `test_` + anything + `.py` -/
theorem C18_default_exclude_test_prefix_iff (dirs : List String) (f : String) :
    matchesPattern "test_*.py" (dirs ++ [f]) = true ↔ ∃ x, f.toList = "test_".toList ++ (x ++ ".py".toList) := by
  rw [C18_name_pattern _ (by decide) splitOn_test_prefix (by decide),
    show "test_*.py".toList = "test_".toList ++ '*' :: ".py".toList by simp only [String.reduceToList, List.cons_append, List.nil_append]]
  exact C18_prefix_suffix_pattern _ _ f.toList (by decide) (by decide)

/-- **default exclude**: a file named `test_<x>.py` matches `test_*.py` at ANY depth -/
theorem C18_default_exclude_any_depth (dirs : List String) (f : String) (x : List Char)
    (h : f.toList = "test_".toList ++ x ++ ".py".toList) : matchesPattern "test_*.py" (dirs ++ [f]) = true :=
  (C18_default_exclude_test_prefix_iff dirs f).mpr ⟨x, by rw [h, List.append_assoc]⟩

/-- **default exclude `*_test.py`, exactly**: at any depth, the files whose name ends in `_test.py` -/
theorem C18_default_exclude_test_suffix_iff (dirs : List String) (f : String) :
    matchesPattern "*_test.py" (dirs ++ [f]) = true ↔ ∃ pre, f.toList = pre ++ "_test.py".toList := by
  rw [C18_name_pattern _ (by decide) splitOn_test_suffix (by decide)]
  simp only [String.reduceToList]
  exact C18_suffix_pattern _ f.toList (by decide)

/-- **default include `*.pyi`, exactly**: at any depth, the files whose name ends in `.pyi` -/
theorem C18_default_include_pyi_iff (dirs : List String) (f : String) :
    matchesPattern "*.pyi" (dirs ++ [f]) = true ↔ ∃ pre, f.toList = pre ++ ".pyi".toList := by
  rw [C18_name_pattern _ (by decide) splitOn_pyi (by decide)]
  simp only [String.reduceToList]
  exact C18_suffix_pattern _ f.toList (by decide)

/-- **the shipped defaults together** (`analyze`: include `**/*.py`, `*.pyi`; exclude `test_*.py`, `*_test.py`): a file passes the
pattern filter iff its NAME ends in `.py` or `.pyi`, is not `test_….py` and does not end in `_test.py` — the directories play no part -/
theorem C18_default_included_iff (dirs : List String) (f : String) :
    included ["**/*.py", "*.pyi"] ["test_*.py", "*_test.py"] (dirs ++ [f]) = true ↔
      ((∃ pre, f.toList = pre ++ ".py".toList) ∨ (∃ pre, f.toList = pre ++ ".pyi".toList)) ∧
      ¬ (∃ x, f.toList = "test_".toList ++ (x ++ ".py".toList)) ∧ ¬ (∃ pre, f.toList = pre ++ "_test.py".toList) := by
  have hpy : matchesPattern "**/*.py" (dirs ++ [f]) = true ↔ ∃ pre, f.toList = pre ++ ".py".toList := by
    rw [C18_default_include_iff]
    constructor
    · rintro ⟨dirs', f', pre, e, h⟩
      obtain ⟨_, e'⟩ := List.append_inj' e rfl
      cases e'
      exact ⟨pre, h⟩
    · rintro ⟨pre, h⟩; exact ⟨dirs, f, pre, rfl, h⟩
  unfold included
  simp only [List.any_cons, List.any_nil, Bool.or_false, List.isEmpty_cons, Bool.false_or, Bool.and_eq_true, Bool.not_eq_true',
    Bool.or_eq_true, ← Bool.not_eq_true, hpy, C18_default_include_pyi_iff,
    C18_default_exclude_test_prefix_iff, C18_default_exclude_test_suffix_iff]
  constructor
  · rintro ⟨h12, h3⟩; exact ⟨h3, fun h => h12 (Or.inl h), fun h => h12 (Or.inr h)⟩
  · rintro ⟨h3, h1, h2⟩; exact ⟨fun h => h.elim h1 h2, h3⟩

/-! ## evaluated examples (non-vacuity) -/

example : globSeg "test_*.py".toList "test_a.py".toList = true := by decide +kernel
example : globSeg "test_*.py".toList "test_.py".toList = true := by decide +kernel
example : globSeg "test_*.py".toList "test.py".toList = false := by decide +kernel
example : globSeg "*.py".toList "a.pyi".toList = false := by decide +kernel
example : globSeg "a?c".toList "abc".toList = true ∧ globSeg "a?c".toList "ac".toList = false := by decide +kernel
example : globSeg "a*".toList "a*".toList = true ∧ globSeg "a*".toList "ab".toList = true := by decide +kernel
example : globComps ["**", "*.py"] ["m.py"] = true := by decide +kernel
example : globComps ["**", "*.py"] ["pkg", "sub", "m.py"] = true := by decide +kernel
example : globComps ["**", "*.py"] ["pkg", "sub", "m.txt"] = false := by decide +kernel
example : globComps ["src", "*.py"] ["src", "sub", "m.py"] = false := by decide +kernel
example : globComps ["src", "**", "*.py"] ["src", "sub", "m.py"] = true := by decide +kernel

example : MatchSeg "*.py".toList "m.py".toList :=
  .star_more 'm' (.star_zero (.lit (by decide) (by decide) (.lit (by decide) (by decide) (.lit (by decide) (by decide) .nil))))
example : ¬ MatchSeg "*.py".toList "m.pyc".toList := by
  rw [show "*.py".toList = '*' :: ".py".toList by simp only [String.reduceToList], matchSeg_star_suffix_iff_isSuffix (by decide)]; decide
example : MatchComps ["**", "*.py"] ["pkg", "m.py"] :=
  .dstar_more "pkg" (.dstar_zero (.comp (by decide) ((C18_globSeg_spec _ _).mp (by decide +kernel)) .nil))

example : matchesPattern "**/*.py" ["pkg", "sub", "m.py"] = true :=
  C18_default_include _ (by decide) ['m'] (by decide)
example : matchesPattern "**/*.py" ["m.py"] = true := C18_default_include_any_depth [] "m.py" ['m'] (by decide)
example : matchesPattern "test_*.py" ["a", "b", "c", "test_x.py"] = true :=
  C18_default_exclude_any_depth ["a", "b", "c"] "test_x.py" ['x'] (by decide)
example : matchesPattern "*_test.py" ["a", "x_test.py"] = true :=
  (C18_default_exclude_test_suffix_iff ["a"] "x_test.py").mpr ⟨['x'], by decide⟩
example : included ["**/*.py", "*.pyi"] ["test_*.py", "*_test.py"] ["pkg", "m.py"] = true := by
  simp [included, matchesPattern, String.contains_char_eq, glob, splitOn_py, splitOn_pyi, splitOn_test_prefix, splitOn_test_suffix,
    globComps, globSeg]
example : included ["**/*.py", "*.pyi"] ["test_*.py", "*_test.py"] ["pkg", "test_m.py"] = false := by
  have h : matchesPattern "test_*.py" ["pkg", "test_m.py"] = true :=
    C18_default_exclude_any_depth ["pkg"] "test_m.py" ['m'] (by decide)
  simp only [included, List.any_cons, h, Bool.true_or, Bool.not_true, Bool.false_and]

end PV.C18
