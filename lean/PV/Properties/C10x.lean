import PV.Properties.C10
import PV.Proofs.UFArrayRefines
/-!
# C10 (extension) — the union–find MIRROR computes exactly the connected-mode groups of the specification model

`PV.UF.Arr.components` is the executable mirror of the union–find of `internal/analyzer/connected_grouping.go`
(path compression, union by rank, final `find` pass, grouping by root), verified in `PV/Proofs/UFCorrect.lean` /
`PV/Proofs/UFArrayRefines.lean`.  Connected mode unions the endpoints of every pair at or above the threshold, in
input order, and keeps the classes with at least two members.  This file states, in the vocabulary of
`PV/Properties/C10.lean`, that this returns the list `connectedGroups n θ ps` of the specification model.

Hypothesis `InRange n θ ps` is needed: the mirror skips a pair with an endpoint outside the range (the Go code collects
its fragments from the pairs, so it meets no such pair), whereas `linked` / `linkGraph` / `PV.C10.Conn` know no range, so a chain through an outside
vertex connects in the model and not in the mirror (counter-example at the end).  Pairs BELOW the threshold are
irrelevant on both sides and are not constrained.
-/
namespace PV.C10
open PV.SCC PV.Grouping PV.C11

/-- the edges connected mode unions: the endpoints of the pairs at or above the threshold, in input order -/
def edgesOf (θ : Nat) (ps : List Pair) : List (Nat × Nat) :=
  (ps.filter (fun p => decide (θ ≤ p.sim))).map (fun p => (p.u, p.v))

/-- connected mode as the union–find mirror computes it: classes with at least two members -/
def ufConnectedGroups (n θ : Nat) (ps : List Pair) : List (List Nat) :=
  (PV.UF.Arr.components n (edgesOf θ ps)).filter (fun c => decide (2 ≤ c.length))

/-- every pair at or above the threshold joins two fragments of the input -/
def InRange (n θ : Nat) (ps : List Pair) : Prop := ∀ p ∈ ps, θ ≤ p.sim → p.u < n ∧ p.v < n

theorem C10_mem_edgesOf {θ : Nat} {ps : List Pair} {a b : Nat} :
    (a, b) ∈ edgesOf θ ps ↔ ∃ p ∈ ps, θ ≤ p.sim ∧ p.u = a ∧ p.v = b := by
  unfold edgesOf
  simp only [List.mem_map, List.mem_filter, decide_eq_true_eq, Prod.mk.injEq]
  constructor
  · rintro ⟨p, ⟨hp, hθ⟩, h1, h2⟩; exact ⟨p, hp, hθ, h1, h2⟩
  · rintro ⟨p, hp, hθ, h1, h2⟩; exact ⟨p, ⟨hp, hθ⟩, h1, h2⟩

/-- what the union–find connects is connected through pairs at or above the threshold (no hypothesis) -/
theorem C10_uf_conn_sound (n θ : Nat) (ps : List Pair) {u v : Nat} (h : PV.UF.Conn n (edgesOf θ ps) u v) :
    Conn θ ps u v := by
  induction h with
  | refl => exact Conn.refl _
  | edge he _ _ =>
    obtain ⟨p, hp, hθ, rfl, rfl⟩ := C10_mem_edgesOf.mp he
    exact Conn.step (Conn.refl _) (linked_iff.mpr ⟨p, hp, .inl ⟨rfl, rfl⟩, hθ⟩)
  | symm _ ih => exact ih.symm
  | trans _ _ ih1 ih2 => exact ih1.trans ih2

/-- **Union–find connectivity = `Conn`.** With all pairs at or above the threshold in range, the equivalence
generated by the united edges is connectivity through pairs at or above the threshold — for ALL `u v` (a vertex
`≥ n` is connected only to itself on both sides). -/
theorem C10_uf_conn_iff (n θ : Nat) (ps : List Pair) (hr : InRange n θ ps) (u v : Nat) :
    PV.UF.Conn n (edgesOf θ ps) u v ↔ Conn θ ps u v := by
  constructor
  · exact C10_uf_conn_sound n θ ps
  · intro h
    induction h with
    | refl => exact .refl _
    | step _ he ih =>
      obtain ⟨p, hp, hends, hθ⟩ := linked_iff.mp he
      have hin := hr p hp hθ
      have hedge : PV.UF.Conn n (edgesOf θ ps) p.u p.v :=
        .edge (C10_mem_edgesOf.mpr ⟨p, hp, hθ, rfl, rfl⟩) hin.1 hin.2
      rcases hends with ⟨rfl, rfl⟩ | ⟨rfl, rfl⟩
      · exact .trans ih hedge
      · exact .trans ih (.symm hedge)

/-- **C10 (connected mode) for the union–find mirror.** Two fragments are in the same class of the mirror's final
state (same root) iff they are connected through pairs at or above the threshold. -/
theorem C10_uf_sameSet (n θ : Nat) (ps : List Pair) (hr : InRange n θ ps) (u v : Nat) :
    PV.UF.sameSet n (PV.UF.run n (edgesOf θ ps)) u v = true ↔ Conn θ ps u v := by
  rw [PV.UF.sameSet_iff_conn]; exact C10_uf_conn_iff n θ ps hr u v

/-- **C10 (connected mode) for the union–find mirror, on the classes it outputs.** Two fragments `< n` are listed in
a common class iff they are connected through pairs at or above the threshold. -/
theorem C10_uf_conn (n θ : Nat) (ps : List Pair) (hr : InRange n θ ps) (u v : Nat) (hu : u < n) (hv : v < n) :
    (∃ c ∈ PV.UF.Arr.components n (edgesOf θ ps), u ∈ c ∧ v ∈ c) ↔ Conn θ ps u v := by
  rw [PV.UF.Arr.same_class_iff_conn n (edgesOf θ ps) hu hv]; exact C10_uf_conn_iff n θ ps hr u v

/-- the same for two DIFFERENT fragments and the reported groups (classes with ≥ 2 members): the statement of
`C10_connected`, for the mirror -/
theorem C10_uf_groups_spec (n θ : Nat) (ps : List Pair) (hr : InRange n θ ps) (u v : Nat) (hu : u < n) (hv : v < n)
    (hne : u ≠ v) : (∃ g ∈ ufConnectedGroups n θ ps, u ∈ g ∧ v ∈ g) ↔ Conn θ ps u v := by
  rw [← C10_uf_conn n θ ps hr u v hu hv]
  unfold ufConnectedGroups
  constructor
  · rintro ⟨g, hg, h1, h2⟩; exact ⟨g, (List.mem_filter.mp hg).1, h1, h2⟩
  · rintro ⟨g, hg, h1, h2⟩
    refine ⟨g, List.mem_filter.mpr ⟨hg, ?_⟩, h1, h2⟩
    simp only [decide_eq_true_eq]
    exact PV.ListLemmas.two_le_length h1 h2 hne

/-- the mirror's classes are exactly `classes` of the threshold graph (all components, singletons included) -/
theorem C10_uf_classes (n θ : Nat) (ps : List Pair) (hr : InRange n θ ps) (cs : List (List Nat))
    (h : classes (linkGraph n θ ps (fun _ => true)) = some cs) : PV.UF.Arr.components n (edgesOf θ ps) = cs := by
  refine PV.UF.Arr.components_eq_classes (linkGraph n θ ps (fun _ => true)) (edgesOf θ ps) ?_ cs h
  intro u v _ _
  show PV.UF.Conn n (edgesOf θ ps) u v ↔ _
  rw [C10_uf_conn_iff n θ ps hr]
  unfold Mutual
  rw [reach_iff_conn, reach_iff_conn]
  exact ⟨fun h => ⟨h, h.symm⟩, fun h => h.1⟩

/-- **C10 (mirror = model).** The groups computed by the union–find mirror are exactly the groups of the
specification model: the same list of lists (same groups, same order of members, same order of groups). -/
theorem C10_uf_connected (n θ : Nat) (ps : List Pair) (hr : InRange n θ ps) (gs : List (List Nat))
    (h : connectedGroups n θ ps = some gs) : ufConnectedGroups n θ ps = gs := by
  unfold connectedGroups at h
  rw [C11_cycles_eq_filter_classes] at h
  obtain ⟨cs, hcs⟩ := (C11_total (linkGraph n θ ps (fun _ => true))).2
  rw [hcs] at h
  simp only [Option.map_some, Option.some.injEq] at h
  unfold ufConnectedGroups
  rw [C10_uf_classes n θ ps hr cs hcs, h]

/-- **C10 (mirror = model, unconditional form).** The model always returns (`C10_connected_total`), and it returns
the mirror's groups. -/
theorem C10_uf_connected_total (n θ : Nat) (ps : List Pair) (hr : InRange n θ ps) :
    connectedGroups n θ ps = some (ufConnectedGroups n θ ps) := by
  obtain ⟨gs, h⟩ := C10_connected_total n θ ps
  rw [h, C10_uf_connected n θ ps hr gs h]

/-- **C10 (report level, mirror).** The report's groups are the mirror's groups of the reported pairs. -/
theorem C10_uf_report (n θ : Nat) (keep : Pair → Bool) (ps : List Pair) (hr : InRange n θ (ps.filter keep)) :
    reportGroups n θ keep ps = some (ufConnectedGroups n θ (ps.filter keep)) :=
  C10_uf_connected_total n θ (ps.filter keep) hr

/-- the F20 shape of `C10.lean`: two exact pairs and two cross pairs below / above the threshold -/
example : ufConnectedGroups 4 65 [⟨0, 2, 100⟩, ⟨1, 3, 100⟩, ⟨0, 3, 74⟩, ⟨1, 2, 74⟩] = [[0, 1, 2, 3]] ∧
    ufConnectedGroups 4 75 [⟨0, 2, 100⟩, ⟨1, 3, 100⟩, ⟨0, 3, 74⟩, ⟨1, 2, 74⟩] = [[0, 2], [1, 3]] := by
  unfold ufConnectedGroups; rw [PV.UF.Arr.components_eq, PV.UF.Arr.components_eq]; decide +kernel
example : connectedGroups 4 75 [⟨0, 2, 100⟩, ⟨1, 3, 100⟩, ⟨0, 3, 74⟩, ⟨1, 2, 74⟩] = some [[0, 2], [1, 3]] := by decide +kernel
example : InRange 4 75 [⟨0, 2, 100⟩, ⟨1, 3, 100⟩, ⟨0, 3, 74⟩, ⟨1, 2, 74⟩] := by
  intro p hp hθ
  simp only [List.mem_cons, List.not_mem_nil, or_false] at hp
  rcases hp with rfl | rfl | rfl | rfl <;> simp_all
-- singletons are dropped, the input order of the pairs does not matter for the result (the mirror is executed)
#guard ufConnectedGroups 6 50 [⟨4, 2, 50⟩, ⟨5, 0, 99⟩, ⟨1, 3, 49⟩, ⟨0, 4, 70⟩] == [[0, 2, 4, 5]]
#guard ufConnectedGroups 6 50 [⟨0, 4, 70⟩, ⟨1, 3, 49⟩, ⟨5, 0, 99⟩, ⟨4, 2, 50⟩] == [[0, 2, 4, 5]]

/-- `InRange` cannot be dropped: a chain through the outside vertex 7 connects 0 and 1 in the model
(`linked` knows no range), the mirror skips both pairs -/
example : connectedGroups 2 0 [⟨0, 7, 1⟩, ⟨7, 1, 1⟩] = some [[0, 1]] ∧ ufConnectedGroups 2 0 [⟨0, 7, 1⟩, ⟨7, 1, 1⟩] = [] := by
  unfold ufConnectedGroups; rw [PV.UF.Arr.components_eq]; decide +kernel

end PV.C10
