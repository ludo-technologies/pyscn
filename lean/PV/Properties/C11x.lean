import PV.Properties.C11
import PV.Proofs.TarjanCorrect
/-!
# C11 (extension) — the Tarjan MIRROR computes exactly the cycles of the specification model

`PV.Tarjan.goSccs` is the literal transliteration of pyscn's `findStronglyConnectedComponents` /
`strongConnect` (all five state fields `index`, `indices`, `lowLinks`, `stack`, `inStack`, the components in
emission order, and a recursion-fuel flag); `PV/Proofs/TarjanCorrect.lean` verifies it.  This file restates the
result in the vocabulary of `PV/Properties/C11.lean`: the mirror satisfies the property `C11_spec`, and its
output is the output of the specification model `PV.SCC.cycles` — as a permutation, and, after sorting by
the smallest member, as the very same list.
-/
namespace PV.C11
open PV.SCC PV.Tarjan

/-- the sort key of a class: its first member (0 for `[]`) -/
def headKey (c : List Nat) : Nat := c.headD 0

/-- comparison of two classes by their first member (a total preorder, as `List.mergeSort` needs) -/
def headLe (c d : List Nat) : Bool := decide (headKey c ≤ headKey d)

/-- **Uniqueness of the canonical order.** Two lists of non-empty classes, each ordered by the first member,
that list the same classes are the same list. -/
theorem C11_classes_unique {l₁ l₂ : List (List Nat)} (n₁ : ∀ c ∈ l₁, c ≠ [])
    (s₁ : l₁.Pairwise HeadLt) (s₂ : l₂.Pairwise HeadLt) (h : ∀ c, c ∈ l₁ ↔ c ∈ l₂) : l₁ = l₂ :=
  headLt_unique n₁ s₁ s₂ h

/-- lists built as `cyclesOf` / `classesOf` are ordered by the first member -/
theorem C11_reps_heads_sorted (g : G) (tbl : List (Option (List Nat))) (q : Nat → Bool)
    (hq : ∀ u, q u = true → (comp g tbl u).head? = some u) :
    (((List.range g.n).filter q).map (comp g tbl)).Pairwise HeadLt :=
  reps_heads_sorted g tbl q hq

/-- **C11 (order of the model's output).** The cycles of the specification model are listed in the order of
their smallest members. -/
theorem C11_cycles_heads_sorted (g : G) (cs : List (List Nat)) (h : cycles g = some cs) : cs.Pairwise HeadLt := by
  cases (cycles_eq g).symm.trans h
  unfold cyclesOf
  refine C11_reps_heads_sorted g _ _ ?_
  intro u hu
  unfold isRep at hu
  rw [Bool.and_eq_true, beq_iff_eq] at hu
  exact hu.1

/-- **C11 for the Tarjan mirror.** In the output of the literal mirror of pyscn's Tarjan code two different modules
are listed in a common component iff each can reach the other.  Hypothesis: every import target is a module of the
graph (`Reach` may otherwise pass through a vertex `≥ g.n`, which the detector never visits —
see the counter-example below).  Only `u < g.n` is needed (`C11_spec` also assumes `v < g.n`; under `hwf` a vertex
`≥ g.n` is neither listed nor reachable from `u ≠ v`). -/
theorem C11_tarjan_spec (g : G) (hwf : ∀ e ∈ g.edges, e.2 < g.n) (u v : Nat) (hu : u < g.n)
    (hne : u ≠ v) : (∃ c ∈ goSccs g, u ∈ c ∧ v ∈ c) ↔ (Reach g u v ∧ Reach g v u) :=
  goTarjan_spec g hwf u v hu hne

/-- **C11 (soundness of the mirror, no hypothesis on the graph).** Every emitted component has at least two members,
is sorted strictly increasingly (hence duplicate-free), consists of modules of the graph, and any two of its members
reach each other. -/
theorem C11_tarjan_sound (g : G) (c : List Nat) (hc : c ∈ goSccs g) :
    2 ≤ c.length ∧ c.Nodup ∧ c.Pairwise (· < ·) ∧ (∀ x ∈ c, x < g.n) ∧
    ∀ u ∈ c, ∀ v ∈ c, Reach g u v ∧ Reach g v u := by
  rw [goSccs_eq] at hc; exact tarjan_sound g c hc

/-- **C11 (maximality of the mirror's components).** An emitted component contains every module that is mutually
reachable with one of its members. -/
theorem C11_tarjan_maximal (g : G) (hwf : ∀ e ∈ g.edges, e.2 < g.n) (c : List Nat) (hc : c ∈ goSccs g)
    (u : Nat) (hu : u ∈ c) (v : Nat) (h1 : Reach g u v) (h2 : Reach g v u) : v ∈ c := by
  rw [goSccs_eq] at hc; exact tarjan_maximal g hwf c hc u hu v h1 h2

/-- **C11 (disjointness, mirror).** Components emitted at different positions share no module … -/
theorem C11_tarjan_disjoint (g : G) : (goSccs g).Pairwise (fun a b => ∀ x ∈ a, x ∉ b) := by
  rw [goSccs_eq]; exact tarjan_disjoint g

/-- … hence no component is emitted twice, and two emitted components sharing a module are the same list
(the third clause of `C11_partition`, for the mirror). -/
theorem C11_tarjan_partition (g : G) :
    (goSccs g).Nodup ∧ ∀ c₁ ∈ goSccs g, ∀ c₂ ∈ goSccs g, ∀ x, x ∈ c₁ → x ∈ c₂ → c₁ = c₂ := by
  rw [goSccs_eq]; exact ⟨tarjan_nodup g, fun c₁ h₁ c₂ h₂ x => tarjan_disjoint' g c₁ c₂ h₁ h₂ x⟩

/-- **C11 (the fuel never runs out).** The recursion-depth fuel `g.n` that makes the mirror a total function is
never exhausted: the `ok` flag of the final state is still set, so the mirror's run IS the Go run. -/
theorem C11_tarjan_fuel (g : G) : (goRun g).ok = true := goRun_ok g

/-- the literal mirror (maps `lowLinks` / `inStack` read back as in the Go code) and the functional version the
correctness proof works on emit the same components in the same order -/
theorem C11_tarjan_literal (g : G) : goSccs g = sccs g := goSccs_eq g

/-- **C11 (mirror = model, as sets of cycles).** The mirror and the specification model list the same cycles,
each as the same increasing list. -/
theorem C11_tarjan_model_mem (g : G) (hwf : ∀ e ∈ g.edges, e.2 < g.n) (cs : List (List Nat))
    (h : cycles g = some cs) (c : List Nat) : c ∈ goSccs g ↔ c ∈ cs := by
  rw [goSccs_eq]; exact tarjan_eq_cycles g hwf cs h c

/-- **C11 (mirror = model, up to the order of the cycles).** The mirror's output is a permutation of the model's:
the same cycles, each once; only the order differs (emission order vs. order of the smallest member). -/
theorem C11_tarjan_model (g : G) (hwf : ∀ e ∈ g.edges, e.2 < g.n) (cs : List (List Nat))
    (h : cycles g = some cs) : (goSccs g).Perm cs := by
  rw [goSccs_eq]; exact tarjan_perm_cycles g hwf cs h

/-- **C11 (any reordering by smallest member is the model's list).** A list with the mirror's components that is
ordered by first member IS the model's output. -/
theorem C11_tarjan_model_unique (g : G) (hwf : ∀ e ∈ g.edges, e.2 < g.n) (cs : List (List Nat))
    (h : cycles g = some cs) (l : List (List Nat)) (hp : l.Perm (goSccs g)) (hs : l.Pairwise HeadLt) : l = cs := by
  have hpart := C11_partition g cs h
  have ne : ∀ c ∈ cs, c ≠ [] := by
    intro c hc e
    have := (hpart.2.1 c hc).1
    rw [e] at this; simp at this
  have hmem : ∀ c, c ∈ l ↔ c ∈ cs := fun c => hp.mem_iff.trans (C11_tarjan_model_mem g hwf cs h c)
  exact C11_classes_unique (fun c hc => ne c ((hmem c).mp hc)) hs (C11_cycles_heads_sorted g cs h) hmem

/-- **C11 (mirror = model, exactly).** Sorting the mirror's components by their first member (what the report does
before printing, and what the correspondence check does before comparing) gives exactly the model's output. -/
theorem C11_tarjan_model_sorted (g : G) (hwf : ∀ e ∈ g.edges, e.2 < g.n) (cs : List (List Nat))
    (h : cycles g = some cs) : (goSccs g).mergeSort headLe = cs := by
  have hpart := C11_partition g cs h
  have hperm : ((goSccs g).mergeSort headLe).Perm cs :=
    (List.mergeSort_perm _ _).trans (C11_tarjan_model g hwf cs h)
  have hsorted : ((goSccs g).mergeSort headLe).Pairwise (fun a b => headLe a b = true) := by
    apply List.pairwise_mergeSort
    · intro a b c hab hbc
      simp only [headLe, decide_eq_true_eq] at *
      exact Nat.le_trans hab hbc
    · intro a b
      simp only [headLe, Bool.or_eq_true, decide_eq_true_eq]
      exact Nat.le_total _ _
  -- the sorted list has no repetition, and different cycles have different first members
  refine C11_tarjan_model_unique g hwf cs h _ (List.mergeSort_perm _ _) ?_
  refine (hsorted.and (hperm.nodup_iff.mpr hpart.1)).imp_of_mem ?_
  intro a b ha hb hab x hx y hy
  have ha' : a ∈ cs := hperm.mem_iff.mp ha
  have hb' : b ∈ cs := hperm.mem_iff.mp hb
  match a, b, hx, hy with
  | x' :: _, y' :: _, hx, hy =>
    cases hx
    cases hy
    have hle : x ≤ y := of_decide_eq_true hab.1
    refine Nat.lt_of_le_of_ne hle (fun e => hab.2 ?_)
    subst e
    exact hpart.2.2 _ ha' _ hb' x List.mem_cons_self List.mem_cons_self

/-- **C11 (mirror = model, unconditional form).** The model always returns (`C11_total`), and what it returns is
the sorted output of the mirror. -/
theorem C11_tarjan_model_total (g : G) (hwf : ∀ e ∈ g.edges, e.2 < g.n) :
    cycles g = some ((goSccs g).mergeSort headLe) := by
  obtain ⟨cs, h⟩ := (C11_total g).1
  rw [h, C11_tarjan_model_sorted g hwf cs h]

/-- the graph of the example in `C11.lean` (a 3-cycle, a 2-cycle, a self-import, a tail): the mirror emits the
inner cycle first, the model lists by smallest member; sorting the mirror's output gives the model's -/
example : goSccs { n := 7, edges := [(0,1),(1,2),(2,0),(3,4),(4,3),(5,5),(2,3),(6,0)] } = [[3,4],[0,1,2]] := by decide +kernel
example : cycles { n := 7, edges := [(0,1),(1,2),(2,0),(3,4),(4,3),(5,5),(2,3),(6,0)] } = some [[0,1,2],[3,4]] := by decide +kernel
example : (goRun { n := 7, edges := [(0,1),(1,2),(2,0),(3,4),(4,3),(5,5),(2,3),(6,0)] }).ok = true := by decide +kernel
#guard (goSccs { n := 7, edges := [(0,1),(1,2),(2,0),(3,4),(4,3),(5,5),(2,3),(6,0)] }).mergeSort headLe == [[0,1,2],[3,4]]
example : ([[3,4],[0,1,2]] : List (List Nat)).Pairwise HeadLt → False := by
  intro h; exact absurd (List.rel_of_pairwise_cons h List.mem_cons_self 3 rfl 0 rfl) (by decide)

/-- the hypothesis on the edge targets cannot be dropped: with an import of a module outside the graph, `Reach`
connects 0 and 1 through the outside vertex 5, the model lists the cycle, and the detector (which only follows
edges between modules of the graph) does not -/
example : cycles { n := 2, edges := [(0, 5), (5, 1), (1, 0)] } = some [[0, 1]] ∧
    goSccs { n := 2, edges := [(0, 5), (5, 1), (1, 0)] } = [] := by decide +kernel

end PV.C11
