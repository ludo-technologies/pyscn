import PV.Proofs.GlobSpec
import PV.Proofs.ListLemmas
/-!
# C18 — file selection depends on the files, not on how the path is spelled
-/
namespace PV.C18
open PV.Files

/-- **Spelling.** However the target directory is spelled (any prefix `pre`: `.`, a relative path, an absolute path, with `..`), the
files the implementation returns are, once the prefix is taken off again, exactly `select` of the tree. -/
theorem C18_spelling (pre : List String) (tree : List (List String)) (recursive : Bool) (inc exc : List String) :
    (collect pre tree recursive inc exc).map (fun p => p.drop pre.length) = select tree recursive inc exc := by
  unfold collect select
  induction tree with
  | nil => rfl
  | cons rel tree ih =>
    simp only [List.map_cons, List.filter_cons, List.drop_left]
    split
    · simp only [List.map_cons, List.drop_left]; rw [ih]
    · exact ih

/-- two spellings of the same directory select the same files -/
theorem C18_spelling_pair (pre₁ pre₂ : List String) (tree : List (List String)) (recursive : Bool) (inc exc : List String) :
    (collect pre₁ tree recursive inc exc).map (fun p => p.drop pre₁.length) =
    (collect pre₂ tree recursive inc exc).map (fun p => p.drop pre₂.length) := by
  rw [C18_spelling, C18_spelling]

/-- **Exactly** the visible Python files under the target that match an include pattern (any file when there is none) and no exclude pattern … -/
theorem C18_exact (tree : List (List String)) (recursive : Bool) (inc exc : List String) (rel : List String) :
    rel ∈ select tree recursive inc exc ↔
      rel ∈ tree ∧ isPy (rel.getLast?.getD "") = true ∧ visible rel = true ∧ (recursive = true ∨ rel.length = 1) ∧
      (∀ p ∈ exc, matchesPattern p rel = false) ∧ (inc = [] ∨ ∃ p ∈ inc, matchesPattern p rel = true) := by
  unfold select selectOne included
  simp only [List.mem_filter, Bool.and_eq_true, Bool.or_eq_true, Bool.not_eq_true', List.any_eq_false, List.any_eq_true,
    List.isEmpty_iff, beq_iff_eq]
  constructor
  · rintro ⟨h1, ⟨⟨h2, h3⟩, h4⟩, h5, h6⟩
    exact ⟨h1, h2, h3, h4, fun p hp => by simpa using h5 p hp, h6⟩
  · rintro ⟨h1, h2, h3, h4, h5, h6⟩
    exact ⟨h1, ⟨⟨h2, h3⟩, h4⟩, fun p hp => by simpa using h5 p hp, h6⟩

/-- … each file once -/
theorem C18_once (tree : List (List String)) (h : tree.Nodup) (recursive : Bool) (inc exc : List String) :
    (select tree recursive inc exc).Nodup := h.sublist List.filter_sublist

theorem C18_once_spelled (pre : List String) (tree : List (List String)) (h : tree.Nodup) (recursive : Bool) (inc exc : List String) :
    (collect pre tree recursive inc exc).Nodup := by
  unfold collect
  refine (List.Nodup.map ?_ h).sublist List.filter_sublist
  intro a b hab; exact List.append_cancel_left hab

/-- **Depth.** A pattern without a slash (the default `test_*.py`, `*_test.py`, `*.pyi`) sees only the file name: it applies to a
matching file at any depth. -/
theorem C18_depth (pattern : String) (h : pattern.contains '/' = false) (dirs : List String) (f : String) :
    matchesPattern pattern (dirs ++ [f]) = matchesPattern pattern [f] := by
  unfold matchesPattern
  simp [h]

/-- a `**/…` pattern applies at any depth as well -/
theorem C18_doublestar_depth (ps cs : List String) (d : String) (h : globComps ("**" :: ps) cs = true) :
    globComps ("**" :: ps) (d :: cs) = true :=
  globComps_complete (.dstar_more d (globComps_sound _ _ h))

/-- a single component that is not `**` never matches across a directory separator -/
theorem C18_star_one_level (p : String) (hp : (p == "**") = false) (cs : List String) (h : globComps [p] cs = true) : ∃ c, cs = [c] := by
  obtain ⟨w, t, rfl, hw, ht⟩ := (matchComps_cons_iff p [] cs).mp (globComps_sound _ _ h)
  rw [FitsComp, if_neg (by simpa using hp)] at hw
  obtain ⟨c, rfl, _⟩ := hw
  exact ⟨c, by rw [(matchComps_nil_iff t).mp ht]; rfl⟩

/-- **Several targets: each file once**, and exactly the union of what the targets select on their own (overlapping, nested or repeated
targets included). -/
theorem C18_many (targets : List (List String × List (List String))) (recursive : Bool) (inc exc : List String) :
    (collectMany targets recursive inc exc).Nodup ∧
    ∀ x, x ∈ collectMany targets recursive inc exc ↔ ∃ t ∈ targets, ∃ rel ∈ select t.2 recursive inc exc, x = t.1 ++ rel := by
  unfold collectMany
  refine ⟨ListLemmas.nodup_foldl_appendNew (f := addFile) (fun _ _ => rfl) _ List.nodup_nil, fun x => ?_⟩
  rw [ListLemmas.mem_foldl_appendNew (f := addFile) fun _ _ => rfl]
  simp only [List.not_mem_nil, false_or, List.mem_flatMap, List.mem_map]
  constructor
  · rintro ⟨t, ht, rel, hrel, rfl⟩; exact ⟨t, ht, rel, hrel, rfl⟩
  · rintro ⟨t, ht, rel, hrel, rfl⟩; exact ⟨t, ht, rel, hrel, rfl⟩

end PV.C18
