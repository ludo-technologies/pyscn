import PV.Model.CBO
import PV.Generated.RiskCBO
import PV.Proofs.ListLemmas
/-!
# C13 — CBO counts each coupled class once
-/
namespace PV.C13
open PV.CBO

/-- **C13 (set).** The listed dependencies are exactly the coupled (non-excluded) classes mentioned, each once. -/
theorem C13_set (ex : Nat → Bool) (l : List Nat) :
    (∀ n, n ∈ deps ex l ↔ n ∈ l ∧ ex n = false) ∧ (deps ex l).Nodup ∧ cbo ex l = (deps ex l).length := by
  refine ⟨?_, ?_, rfl⟩
  · intro n
    unfold deps
    rw [PV.ListLemmas.mem_foldl_appendNew (f := insertNew) (fun _ _ => rfl), List.mem_filter]
    simp
  · exact PV.ListLemmas.nodup_foldl_appendNew (f := insertNew) (fun _ _ => rfl) _ List.nodup_nil

/-- **C13 (order and multiplicity).** CBO depends only on the SET of mentions: reordering members or mentioning a class
again does not change it. -/
theorem C13_perm (ex : Nat → Bool) (l₁ l₂ : List Nat) (h : ∀ n, n ∈ l₁ ↔ n ∈ l₂) : cbo ex l₁ = cbo ex l₂ := by
  unfold cbo
  refine ((List.perm_ext_iff_of_nodup (C13_set ex l₁).2.1 (C13_set ex l₂).2.1).mpr fun x => ?_).length_eq
  rw [(C13_set ex l₁).1, (C13_set ex l₂).1, h x]

theorem C13_idem (ex : Nat → Bool) (l : List Nat) (n : Nat) (h : n ∈ l) : cbo ex (l ++ [n]) = cbo ex l := by
  apply C13_perm
  intro x
  simp only [List.mem_append, List.mem_singleton]
  constructor
  · rintro (hx | rfl)
    · exact hx
    · exact h
  · intro hx; exact .inl hx

/-- **C13 (one more).** Mentioning one NEW coupled class raises CBO by exactly one. -/
theorem C13_add (ex : Nat → Bool) (l : List Nat) (n : Nat) (hn : n ∉ l) (hc : ex n = false) : cbo ex (l ++ [n]) = cbo ex l + 1 := by
  unfold cbo deps
  rw [List.filter_append, List.foldl_append]
  simp only [List.filter_cons, hc, Bool.not_false, if_true, List.filter_nil, List.foldl_cons, List.foldl_nil]
  have : ¬ (List.foldl insertNew [] (List.filter (fun n => !ex n) l)).contains n = true := by
    intro hcon
    have := (PV.ListLemmas.mem_foldl_appendNew (f := insertNew) (fun _ _ => rfl) _ [] n).mp (by simpa using hcon)
    simp only [List.not_mem_nil, false_or, List.mem_filter] at this
    exact hn this.1
  generalize List.foldl insertNew [] (List.filter (fun n => !ex n) l) = acc at *
  unfold insertNew
  rw [if_neg this]
  simp

/-- **C13 (excluded).** Mentioning an excluded name (a built-in, by default) changes nothing. -/
theorem C13_excluded (ex : Nat → Bool) (l : List Nat) (n : Nat) (hc : ex n = true) : cbo ex (l ++ [n]) = cbo ex l := by
  unfold cbo deps
  rw [List.filter_append]
  simp [hc]

/-- **C13 (risk).** Risk level exactly by the two thresholds (translated from `CBOAnalyzer.assessRiskLevel`). -/
theorem C13_risk (F : Type) [Arith F] (v lo med : Int) :
    PV.Generated.RiskCBO.assessRiskLevel F v lo med = (if v ≤ lo then "low" else if v ≤ med then "medium" else "high") := rfl

example : cbo (fun n => n == 0) [3, 0, 5, 3, 7, 5] = 3 := by decide +kernel

end PV.C13
