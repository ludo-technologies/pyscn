-- root of the library: everything `lake build PV` must compile
import PV.Model.Arith
import PV.Model.FloatArith
import PV.Generated.Score
import PV.Proofs.ArithLemmas
import PV.Proofs.ListLemmas
import PV.Proofs.Classes
import PV.Proofs.ScoreLemmas
import PV.Properties.C15
import PV.Model.SCC
import PV.Properties.C11
import PV.Model.Grouping
import PV.Properties.GroupFactsExpected
import PV.Properties.C10
import PV.Model.TED
import PV.Properties.C07
import PV.Model.Gate
import PV.Generated.GateFacts
import PV.Properties.C19
import PV.Model.Summary
import PV.Model.CFG
import PV.Model.PySem
import PV.Properties.C01
import PV.Model.StructDead
import PV.Properties.C02
import PV.Model.Decisions
import PV.Properties.C03
import PV.Model.Registry
import PV.Properties.C04
import PV.Model.LCOM
import PV.Properties.C14
import PV.Model.CBO
import PV.Properties.C13
import PV.Model.Clone
import PV.Proofs.CloneLemmas
import PV.Properties.CloneFactsExpected
import PV.Properties.C08
import PV.Proofs.CloneBatchLemmas
import PV.Properties.C09
import PV.Model.Imports
import PV.Properties.C12
import PV.Model.Files
import PV.Properties.C18
import PV.Model.Config
import PV.Properties.C17
import PV.Model.Agg
import PV.Properties.SummaryFactsExpected
import PV.Properties.C16
import PV.Model.Order
import PV.Properties.OrderSitesExpected
import PV.Properties.C05
import PV.Model.Isolation
import PV.Properties.LoopFactsExpected
import PV.Properties.C06
import PV.Model.Independence
import PV.Properties.TaskFactsExpected
import PV.Properties.C20
import PV.Proofs.RatArith
import PV.Proofs.DepthLemmas
import PV.Model.Tarjan
import PV.Proofs.TarjanCorrect
import PV.Model.UF
import PV.Model.UFArray
import PV.Proofs.UFCorrect
import PV.Proofs.UFArrayRefines
import PV.Model.ZS
import PV.Proofs.ZSCorrect
import PV.Proofs.CFGReach
import PV.Proofs.ReachComplete
import PV.Proofs.CFGFrame
import PV.Proofs.CFGEqns
import PV.Proofs.CFGFrameA
import PV.Proofs.CFGSoundDefs
import PV.Properties.C07x
import PV.Properties.C11x
import PV.Properties.C14x
import PV.Properties.C10x
import PV.Proofs.CFGSound
import PV.Proofs.CFGSoundFrag
import PV.Proofs.CFGSound3
import PV.Properties.C01x
import PV.Model.EditScript
import PV.Proofs.EditScript
import PV.Properties.C07y
import PV.Model.GroupingAlgo
import PV.Properties.C10y
import PV.Properties.C02x
import PV.Properties.C03x
import PV.Properties.C03y
import PV.Properties.C18x
import PV.Generated.Walkers
import PV.Properties.WalkersExpected
import PV.Properties.C04x
import PV.Properties.C01y
import PV.Properties.C01z
import PV.Properties.C02y
import PV.Properties.C02z
